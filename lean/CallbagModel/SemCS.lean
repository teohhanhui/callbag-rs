import CallbagModel.Sem
import CallbagModel.EnvX
/-!
# Reachability under the cross-sink environment

`Sem.lean` quantifies over the conformant environments of `legalIn`.  `EnvX.lean` defines a wider, executable environment for the
differential tests; its JUDGED part is `envMoveCS`: `legalIn` plus the cross-sink calls (`crossSink`: while a multi-sink operator is
delivering — greeting, data or terminal — to one of its sinks, any sink that is live may pull or dispose).  This file is the
relational counterpart, with the same shape as `Sem.lean`; the macro-step rule comes from the two lemmas of `Sem.lean` that do not
mention the environment's moves (`runs_into_inv_op`, `of_runs_into`).  `cs_reach_decomp` puts a configuration in which the OPERATOR
has control on the run that follows a move from an invariant turn, so that facts about it are read off the macro step of that run,
e.g. "whenever `share` is about to send `Terminate` upstream, that upstream is live" (`ShareCS.call_cases`).
-/
namespace Cb

variable {St Loc α β : Type}

def legalInCS (sh : Shape) (g : Ph) (c : Ctx β) (i : In α) : Bool := legalIn sh g c i || crossSink sh g c i

theorem legalInCS_of_legalIn {sh : Shape} {g : Ph} {c : Ctx β} {i : In α} (h : legalIn sh g c i = true) :
    legalInCS sh g c i = true := by simp [legalInCS, h]

/-- exactly `envMoveCS`, as a relation -/
inductive EnvStepCS (M : Machine St Loc α β) : Move α → Sys St Loc α β → Sys St Loc α β → Prop where
  | call {st stk g tr c} (i : In α) : ctxOf stk = some c → legalInCS M.shape g.ph c i = true →
      EnvStepCS M (.call i) ⟨st, stk, g, tr, none⟩ ⟨st, .run (M.enter i) :: stk, g.onIn stk.length i, .inp i :: tr, none⟩
  | ret {st stk g tr o l} : legalRet M.shape g.ph (.inCall o : Ctx β) = true →
      EnvStepCS M .ret ⟨st, .wait o l :: stk, g, tr, none⟩ ⟨st, .run l :: stk, g, .retE :: tr, none⟩

theorem EnvStep.toCS {M : Machine St Loc α β} {m : Move α} {a b : Sys St Loc α β} (h : EnvStep M m a b) : EnvStepCS M m a b := by
  cases h with
  | call i hc hl => exact .call i hc (legalInCS_of_legalIn hl)
  | ret hl => exact .ret hl

theorem EnvStepCS.cases_legal {M : Machine St Loc α β} {m : Move α} {a b : Sys St Loc α β} (h : EnvStepCS M m a b) :
    EnvStep M m a b ∨ ∃ i c, m = .call i ∧ ctxOf a.stack = some c ∧ crossSink M.shape a.g.ph c i = true := by
  cases h with
  | @call st stk g tr c i hc hl =>
    simp only [legalInCS, Bool.or_eq_true] at hl
    rcases hl with hl | hl
    · exact Or.inl (.call i hc hl)
    · exact Or.inr ⟨i, c, rfl, hc, hl⟩
  | ret hl => exact Or.inl (.ret hl)

theorem envMoveCS_iff (M : Machine St Loc α β) (m : Move α) (s s' : Sys St Loc α β) :
    envMoveCS M s m = some s' ↔ EnvStepCS M m s s' := by
  constructor
  · intro h
    cases m with
    | call i =>
      obtain ⟨st, stk, g, tr, p⟩ := s
      simp only [envMoveCS, envMoveL] at h
      cases p with
      | some _ => simp at h
      | none =>
        simp only [Option.isSome_none, Bool.false_eq_true, ↓reduceIte] at h
        cases hc : ctxOf stk with
        | none => simp [hc] at h
        | some c =>
          simp only [hc] at h
          by_cases hl : legalInCS M.shape g.ph c i = true
          · have hl' := hl
            simp only [legalInCS] at hl'
            simp only [hl', ↓reduceIte, Option.some.injEq] at h; subst h; exact EnvStepCS.call i hc hl
          · have hl' := hl
            simp only [legalInCS] at hl'
            simp [hl'] at h
    | ret =>
      have h' : envMove M s .ret = some s' := h
      exact ((envMove_iff M .ret s s').1 h').toCS
  · intro h
    cases h with
    | call i hc hl =>
      simp only [legalInCS] at hl
      simp [envMoveCS, envMoveL, hc, hl]
    | ret hl => simp [envMoveCS, envMoveL, envMove, hl]

inductive CSStep (M : Machine St Loc α β) (R : Restr St Loc α β) : Sys St Loc α β → Sys St Loc α β → Prop where
  | op {a b} : opStep M a = some b → CSStep M R a b
  | env {a b m} : EnvStepCS M m a b → R a m → CSStep M R a b

inductive CSReachR (M : Machine St Loc α β) (R : Restr St Loc α β) : Sys St Loc α β → Prop where
  | init : CSReachR M R (Sys.init M)
  | step {a b} : CSReachR M R a → CSStep M R a b → CSReachR M R b

abbrev CSReach (M : Machine St Loc α β) : Sys St Loc α β → Prop := CSReachR M anyEnv

theorem CSReachR.ind {M : Machine St Loc α β} {R : Restr St Loc α β} (K : Sys St Loc α β → Prop) (h0 : K (Sys.init M))
    (hop : ∀ a b, CSReachR M R a → K a → opStep M a = some b → K b)
    (henv : ∀ a b m, CSReachR M R a → K a → EnvStepCS M m a b → R a m → K b) : ∀ s, CSReachR M R s → K s := by
  intro s hs
  induction hs with
  | init => exact h0
  | step ha hab ih =>
    cases hab with
    | op h => exact hop _ _ ha ih h
    | env h hr => exact henv _ _ _ ha ih h hr

theorem CSReachR.weaken {M : Machine St Loc α β} {R : Restr St Loc α β} {s : Sys St Loc α β} (h : CSReachR M R s) : CSReach M s :=
  CSReachR.ind _ .init (fun _ _ _ ih h => .step ih (.op h)) (fun _ _ _ _ ih h _ => .step ih (.env h trivial)) s h

theorem CSReachR.of_sreachR {M : Machine St Loc α β} {R : Restr St Loc α β} {s : Sys St Loc α β} (h : SReachR M R s) :
    CSReachR M R s :=
  SReachR.ind _ .init (fun _ _ _ ih h => .step ih (.op h)) (fun _ _ _ _ ih h hr => .step ih (.env h.toCS hr)) s h

theorem CSReach.of_sreach {M : Machine St Loc α β} {s : Sys St Loc α β} (h : SReach M s) : CSReach M s :=
  CSReachR.of_sreachR h

theorem envTurn_of_envStepCS {M : Machine St Loc α β} {m : Move α} {a b : Sys St Loc α β} (h : EnvStepCS M m a b) : EnvTurn a := by
  cases h with
  | call i hc hl => simp [EnvTurn, hc]
  | ret hl => simp [EnvTurn, ctxOf]

theorem cs_reach_runs_into_inv (M : Machine St Loc α β) (R : Restr St Loc α β) (Inv : Sys St Loc α β → Prop)
    (hinit : Inv (Sys.init M)) (hturn : ∀ s, Inv s → EnvTurn s)
    (hstep : ∀ s s' m, Inv s → EnvStepCS M m s s' → R s m → ∃ n, Inv (advance M n s')) :
    ∀ s, CSReachR M R s → ∃ n, Inv (advance M n s) := by
  refine CSReachR.ind _ ⟨0, hinit⟩ (fun _ _ _ ih h => runs_into_inv_op hturn h ih) fun a b m _ ih h hr => ?_
  obtain ⟨n, hn⟩ := ih
  rw [advance_of_envTurn (envTurn_of_envStepCS h)] at hn
  exact hstep _ _ _ hn h hr

theorem cs_reach_of_macro_inv (M : Machine St Loc α β) (R : Restr St Loc α β) (P : Sys St Loc α β → Prop) (Inv : Sys St Loc α β → Prop)
    (hinit : Inv (Sys.init M)) (hturn : ∀ s, Inv s → EnvTurn s ∧ P s)
    (hstep : ∀ s s' m, Inv s → EnvStepCS M m s s' → R s m → ∃ n, Inv (advance M n s'))
    (hmono : ∀ s s', opStep M s = some s' → P s' → P s) :
    ∀ s, CSReachR M R s → P s := by
  intro s hs
  obtain ⟨n, hn⟩ := cs_reach_runs_into_inv M R Inv hinit (fun s h => (hturn s h).1) hstep s hs
  exact of_runs_into hmono n s (hturn _ hn).2

theorem cs_basicSafe_of_macro_inv (M : Machine St Loc α β) (Inv : Sys St Loc α β → Prop)
    (hinit : Inv (Sys.init M)) (hturn : ∀ s, Inv s → EnvTurn s ∧ BasicSafe s)
    (hstep : ∀ s s' m, Inv s → EnvStepCS M m s s' → ∃ n, Inv (advance M n s')) :
    ∀ s, CSReach M s → BasicSafe s :=
  cs_reach_of_macro_inv M anyEnv BasicSafe Inv hinit hturn (fun s s' m hi he _ => hstep s s' m hi he) (basicSafe_mono M)

theorem cs_safe_of_macro_inv (M : Machine St Loc α β) (Inv : Sys St Loc α β → Prop)
    (hinit : Inv (Sys.init M)) (hturn : ∀ s, Inv s → EnvTurn s ∧ Safe s)
    (hstep : ∀ s s' m, Inv s → EnvStepCS M m s s' → ∃ n, Inv (advance M n s')) :
    ∀ s, CSReach M s → Safe s :=
  cs_reach_of_macro_inv M anyEnv Safe Inv hinit hturn (fun s s' m hi he _ => hstep s s' m hi he) (safe_mono M)

theorem cs_reach_on_run {M : Machine St Loc α β} {R : Restr St Loc α β} : ∀ c, CSReachR M R c →
    c = Sys.init M ∨ ∃ s m s1 n, CSReachR M R s ∧ EnvStepCS M m s s1 ∧ R s m ∧ advance M n s1 = c := by
  refine CSReachR.ind _ (.inl rfl) (fun a b _ ih h => .inr ?_) fun a b m ha _ h hR => .inr ⟨a, m, b, 0, ha, h, hR, rfl⟩
  rcases ih with rfl | ⟨s, m, s1, n, hs, he, hR, rfl⟩
  · exact nomatch (opStep_none_of_envTurn (M := M) ⟨rfl, rfl⟩).symm.trans h
  · exact ⟨s, m, s1, n + 1, hs, he, hR, by rw [advance_add]; simp [advance, h]⟩

theorem cs_reach_inv_of_envTurn (M : Machine St Loc α β) (R : Restr St Loc α β) (Inv : Sys St Loc α β → Prop)
    (hinit : Inv (Sys.init M)) (hturn : ∀ s, Inv s → EnvTurn s)
    (hstep : ∀ s s' m, Inv s → EnvStepCS M m s s' → R s m → ∃ n, Inv (advance M n s')) :
    ∀ s, CSReachR M R s → EnvTurn s → Inv s := by
  intro s hs ht
  obtain ⟨n, hn⟩ := cs_reach_runs_into_inv M R Inv hinit hturn hstep s hs
  rwa [advance_of_envTurn ht] at hn

theorem cs_reach_decomp (M : Machine St Loc α β) (R : Restr St Loc α β) (Inv : Sys St Loc α β → Prop)
    (hinit : Inv (Sys.init M)) (hturn : ∀ s, Inv s → EnvTurn s)
    (hstep : ∀ s s' m, Inv s → EnvStepCS M m s s' → R s m → ∃ n, Inv (advance M n s')) :
    ∀ s, CSReachR M R s →
      Inv s ∨ ∃ s0 m s1 k, Inv s0 ∧ EnvStepCS M m s0 s1 ∧ R s0 m ∧ advance M k s1 = s :=
  fun s hs => (cs_reach_on_run s hs).imp (fun (h : s = Sys.init M) => h ▸ hinit) fun ⟨s0, m, s1, k, h0, he, hR, hk⟩ =>
    ⟨s0, m, s1, k, cs_reach_inv_of_envTurn M R Inv hinit hturn hstep s0 h0 (envTurn_of_envStepCS he), he, hR, hk⟩

theorem cs_reach_waitBelow (M : Machine St Loc α β) (R : Restr St Loc α β) :
    ∀ s, CSReachR M R s → ∀ f ∈ s.stack.tail, ∃ o l, f = Frame.wait o l := by
  refine CSReachR.ind _ (fun f hf => nomatch hf) (fun a b _ ih h => (oStep_of_opStep h).tail_waits ih) (fun a b m _ ih h _ => ?_)
  cases h with
  | call i hc hl => exact waits_of_ctx hc ih
  | ret hl => exact ih

end Cb

#print axioms Cb.cs_reach_of_macro_inv
#print axioms Cb.cs_reach_runs_into_inv
#print axioms Cb.cs_reach_decomp
#print axioms Cb.envMoveCS_iff
#print axioms Cb.CSReach.of_sreach
#print axioms Cb.cs_reach_inv_of_envTurn
#print axioms Cb.cs_reach_waitBelow
