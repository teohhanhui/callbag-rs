import CallbagModel.Closed.LinearCost
import CallbagModel.Closed.LinearInf
import CallbagModel.Inv.ConcatNTerm
/-!
# Programs with n-ary `concat!`: correctness, safety, completion and cost — the general theorems

The classes of this file are the widest for which the theorems are proved; those of
`Closed/Prog3.lean` are subclasses, and their theorems are instances of the ones here.

* `Prog3.tf2` (take-free): sources, stages other than `take`, `concat2`, `concatN`, `flatRep` of take-free programs.  These programs
  deliver AND END only in answer to a `Pull`, and their cost is known under every demand (`prog3_joinHeadW`: `JoinHead` of
  `Inv/JoinDemand.lean`).
* `Prog3.ok2`: every `take n` has `0 < n`, every `concatN` has a member, and the argument of every `flatRep` is linear OR take-free —
  `flatten` needs an outer source that delivers data only when pulled.  So `flatRep` over `flatRep`, and `flatRep` over a `concat!` of
  take-free members, are allowed.  `Prog3.ok p → Prog3.ok2 p`.
* `Prog3.hc2`: any stages — `take` included — over a source, over a `concat2`/`concatN` whose members are take-free, or over `flatRep`
  of a program of class `hc2`.  For these the cost is known under EVERY demand (`prog3_headCostW`), so a further `take` may follow.
* `Prog3.lazy2`: a `take` may be applied to a program of class `hc2`; any other stage, `concat2`, `concatN`, `flatRep` to programs of
  class `lazy2`.

`prog3_correct2`, `prog3_safe2`, `prog3_completes2` under `ok2`; `prog3_cost_wide` under `ok2 ∧ lazy2`: at every reachable configuration
of `thenM p.toM forEachM` under every conformant environment the ghost counter of `Iterator::next` calls (the SUM over all `from_iter`
sources of the network, the inner sources of `flatten` included) is at most `(sem p.toPipe none).2`, and equal to it once the application
has returned.

What remains outside: a `take` over a `concat!` one of whose members contains a `take` (the refutation in the header of `Closed/Prog3.lean`: for
those the rule in the style of `Inv/ComposeCost.lean` is false and the statement needs a restricted environment).

Each notion is established by ONE structural induction over the nested syntax (with its list version for the members of `concatN`),
every constructor closed with the lemma of the `Inv/` layer for its network.
-/
namespace Cb.Closed
open PlugConcat FlatPlugFun ConcatN PlugCost JoinDemand FlatDemand
  ComposeTerm

mutual
def Prog3.tf2 : Prog3 → Prop
  | .src _ => True
  | .stage s p => s.noTake ∧ p.tf2
  | .concat2 p q => p.tf2 ∧ q.tf2
  | .concatN ps => Prog3.tfs2 ps
  | .flatRep _ p => p.tf2
def Prog3.tfs2 : List Prog3 → Prop
  | [] => True
  | p :: ps => p.tf2 ∧ Prog3.tfs2 ps
end

def Prog3.hc2 : Prog3 → Prop
  | .src _ => True
  | .stage _ p => p.hc2
  | .concat2 p q => p.tf2 ∧ q.tf2
  | .concatN ps => Prog3.tfs2 ps
  | .flatRep _ p => p.hc2

mutual
def Prog3.lazy2 : Prog3 → Prop
  | .src _ => True
  | .stage s p => (p.hc2 ∨ s.noTake) ∧ p.lazy2
  | .concat2 p q => p.lazy2 ∧ q.lazy2
  | .concatN ps => Prog3.lazys2 ps
  | .flatRep _ p => p.lazy2
def Prog3.lazys2 : List Prog3 → Prop
  | [] => True
  | p :: ps => p.lazy2 ∧ Prog3.lazys2 ps
end

mutual
def Prog3.ok2 : Prog3 → Prop
  | .src _ => True
  | .stage s p => (∀ n, s = .take n → 0 < n) ∧ p.ok2
  | .concat2 p q => p.ok2 ∧ q.ok2
  | .concatN ps => ps ≠ [] ∧ Prog3.oks2 ps
  | .flatRep _ p => (p.linear ∨ p.tf2) ∧ p.ok2
def Prog3.oks2 : List Prog3 → Prop
  | [] => True
  | p :: ps => p.ok2 ∧ Prog3.oks2 ps
end

mutual
theorem Prog3.ok2_of_ok : (p : Prog3) → p.ok → p.ok2
  | .src _, _ => trivial
  | .stage _ p, h => ⟨h.1, Prog3.ok2_of_ok p h.2⟩
  | .concat2 p q, h => ⟨Prog3.ok2_of_ok p h.1, Prog3.ok2_of_ok q h.2⟩
  | .concatN ps, h => ⟨h.1, Prog3.oks2_of_oks ps h.2⟩
  | .flatRep _ p, h => ⟨.inl h.1, Prog3.ok2_of_ok p h.2⟩
theorem Prog3.oks2_of_oks : (ps : List Prog3) → Prog3.oks ps → Prog3.oks2 ps
  | [], _ => trivial
  | p :: ps, h => ⟨Prog3.ok2_of_ok p h.1, Prog3.oks2_of_oks ps h.2⟩
end

mutual
theorem prog3_headPot : (p : Prog3) → HeadPot p.toM.M
  | .src xs => srcM_headPot xs
  | .stage s p => s.headPot (prog3_headPot p)
  | .concat2 p q => HeadPot.concat2 (prog3_headPot p) (prog3_headPot q)
  | .concatN ps => HeadPot.concatM _ (prog3s_headPot ps)
  | .flatRep k p => HeadPot.flat _ (prog3_headPot p) (inner_headPotW k)
theorem prog3s_headPot : (ps : List Prog3) → ∀ A ∈ Prog3.toMs ps, HeadPot A.M
  | [] => fun A hA => by cases hA
  | p :: ps => fun A hA => by
    rcases List.mem_cons.1 hA with rfl | hA
    · exact prog3_headPot p
    · exact prog3s_headPot ps A hA
end

mutual
theorem prog3_joinHeadW : (p : Prog3) → p.ok2 → p.tf2 → JoinHead p.toM (listSem p.toPipe) (fun dem => (sem p.toPipe dem).2)
  | .src xs, _, _ =>
    have h := srcM_headCost xs
    ⟨h.ok, h.nu, h.pull, FromIter.endOnPull _ _, h.up, h.low, cost_mono' _⟩
  | .stage s p, hok, ht => by
    have ih := prog3_joinHeadW p hok.2 ht.2
    have hc := (HeadCost.ofJoin ih).stage s hok.1
    have H := hyp_of_roles ih.ok.head.up s.pipeable.downSide
    exact ⟨hc.ok, hc.nu, hc.pull, EndOnPull.compose ih.eop ih.pull (s.stageEnd ht.1) H, hc.up, hc.low, cost_mono' _⟩
  | .concat2 p q, hok, ht => by
    have := concat2_join (prog3_joinHeadW p hok.1 ht.1) (prog3_joinHeadW q hok.2 ht.2)
    have hc : (fun dem => (sem (Prog3.concat2 p q).toPipe dem).2) =
        fun dem => (sem p.toPipe dem).2 + (sem q.toPipe (dsub dem (listSem p.toPipe).length)).2 :=
      funext (fun dem => cost_concat _ _ dem)
    rw [hc]; exact this
  | .concatN ps, hok, ht => by
    have hl : (ps.map (fun p => listSem p.toPipe)).length = (Prog3.toMs ps).length := by rw [List.length_map, Prog3.toMs_length]
    have := concatM_join (Prog3.toMs ps) (Prog3.toMs_pos hok.1) (fun i => (ps.map (fun p dem => (sem p.toPipe dem).2)).getD i (fun _ => 0))
      (ps.map (fun p => listSem p.toPipe)) hl (prog3s_joinHeadW ps hok.2 ht)
    have hc : (fun dem => (sem (Prog3.concatN ps).toPipe dem).2) =
        costJ (fun i => (ps.map (fun p dem => (sem p.toPipe dem).2)).getD i (fun _ => 0))
          (fun i => (ps.map (fun p => listSem p.toPipe)).getD i []) (downFrom (Prog3.toMs ps).length) := by
      funext dem
      have e1 := costJ_termsL (ps.map (fun p dem => (sem p.toPipe dem).2)) (ps.map (fun p => listSem p.toPipe)) dem (by simp)
      rw [List.length_map] at e1
      rw [Prog3.toMs_length, e1]
      exact cost_toPipes_dem ps dem hok.1
    show JoinHead (concatM (Prog3.toMs ps)) (listSem (Prog3.toPipes ps)) _
    rw [hc, listSem_toPipes]; exact this
  | .flatRep k p, hok, ht => by
    have ih := prog3_joinHeadW p hok.2 ht
    have hc := (HeadCost.ofJoin ih).flat k
    exact ⟨hc.ok, hc.nu, hc.pull, flat_endOnPull (flatHyp_of k ih.ok ih.nu ih.pull) ih.eop, hc.up, hc.low, cost_mono' _⟩
theorem prog3s_joinHeadW : (ps : List Prog3) → Prog3.oks2 ps → Prog3.tfs2 ps → ∀ i (hi : i < (Prog3.toMs ps).length),
    JoinHead (Prog3.toMs ps)[i] ((ps.map (fun p => listSem p.toPipe)).getD i [])
      ((ps.map (fun p dem => (sem p.toPipe dem).2)).getD i (fun _ => 0))
  | [], _, _ => fun i hi => absurd hi (Nat.not_lt_zero _)
  | p :: ps, hok, ht => fun i hi => by
    cases i with
    | zero => exact prog3_joinHeadW p hok.1 ht.1
    | succ i => exact prog3s_joinHeadW ps hok.2 ht.2 i (by simpa [Prog3.toMs] using hi)
end

mutual
theorem prog3_headOkT2 : (p : Prog3) → p.ok2 →
    HeadOkT p.toM.M (listSem p.toPipe) ∧ ComposeFull.NoUpstream p.toM.M ∧ (p.linear → PullOnly p.toM.M)
  | .src xs, _ => ⟨srcM_headOkT xs, ComposeFull.FromIter.noUpstream _ _, fun _ => FromIter.pullOnly _ _⟩
  | .stage s p, hok => by
    obtain ⟨h1, h2, h3⟩ := prog3_headOkT2 p hok.2
    exact ⟨(s.headOkT hok.1 h1 h2).1, (s.headOkT hok.1 h1 h2).2, fun hl => s.pullOnly h1.head.up (h3 hl)⟩
  | .concat2 p q, hok => by
    obtain ⟨h1, h2⟩ := concat2_headOkT (prog3_headOkT2 p hok.1).1 (prog3_headOkT2 p hok.1).2.1
      (prog3_headOkT2 q hok.2).1 (prog3_headOkT2 q hok.2).2.1
    exact ⟨h1, h2, fun hl => hl.elim⟩
  | .concatN ps, hok => by
    obtain ⟨h1, h2⟩ := concatN_headOkT' (Prog3.toMs ps) (Prog3.toMs_pos hok.1) (ps.map (fun p => listSem p.toPipe))
      (by rw [List.length_map, Prog3.toMs_length]) (prog3s_headOkT2 ps hok.2)
    refine ⟨?_, h2, fun hl => hl.elim⟩
    show HeadOkT (concatM (Prog3.toMs ps)).M (listSem (Prog3.toPipes ps))
    rw [listSem_toPipes]; exact h1
  | .flatRep k p, hok => by
    obtain ⟨h1, h2, h3⟩ := prog3_headOkT2 p hok.2
    -- what `flatten` needs of its outer source
    have hpull : PullOnly p.toM.M := hok.1.elim h3 (fun ht => (prog3_joinHeadW p hok.2 ht).pull)
    obtain ⟨h4, h5⟩ := flatM_headOkT k h1 h2 hpull
    exact ⟨h4, h5, fun hl => hl.elim⟩
theorem prog3s_headOkT2 : (ps : List Prog3) → Prog3.oks2 ps → ∀ i (hi : i < (Prog3.toMs ps).length),
    HeadOkT (Prog3.toMs ps)[i].M ((ps.map (fun p => listSem p.toPipe)).getD i []) ∧ ComposeFull.NoUpstream (Prog3.toMs ps)[i].M
  | [], _ => fun i hi => absurd hi (Nat.not_lt_zero _)
  | p :: ps, hok => fun i hi => by
    cases i with
    | zero => exact ⟨(prog3_headOkT2 p hok.1).1, (prog3_headOkT2 p hok.1).2.1⟩
    | succ i => exact prog3s_headOkT2 ps hok.2 i (by simpa [Prog3.toMs] using hi)
end

theorem prog3_headCostW : (p : Prog3) → p.ok2 → p.hc2 → HeadCost p.toM p.toPipe
  | .src xs, _, _ => srcM_headCost xs
  | .stage s p, hok, hh => (prog3_headCostW p hok.2 hh).stage s hok.1
  | .concat2 p q, hok, hh => HeadCost.ofJoin (prog3_joinHeadW (.concat2 p q) hok hh)
  | .concatN ps, hok, hh => HeadCost.ofJoin (prog3_joinHeadW (.concatN ps) hok hh)
  | .flatRep k p, hok, hh => (prog3_headCostW p hok.2 hh).flat k

mutual
theorem prog3_costW : (p : Prog3) → p.ok2 → p.lazy2 → CostN p.toM.M p.toM.nexts (sem p.toPipe none).2
  | .src xs, _, _ => (srcM_headCost xs).costN
  | .stage s p, hok, he => by
    rcases he.1 with hl | hnt
    · exact (prog3_headCostW (.stage s p) hok hl).costN
    · exact CostN.stage (prog3_headOkT2 p hok.2).1.head (prog3_costW p hok.2 he.2) s hnt
  | .concat2 p q, hok, he => by
    obtain ⟨hp1, hp2, _⟩ := prog3_headOkT2 p hok.1
    obtain ⟨hq1, hq2, _⟩ := prog3_headOkT2 q hok.2
    have := concat2_cost hp1 hp2 (prog3_costW p hok.1 he.1) hq1 hq2 (prog3_costW q hok.2 he.2)
    show CostN _ _ (sem (Pipe.concat p.toPipe q.toPipe) none).2
    simp only [sem]; exact this
  | .concatN ps, hok, he => by
    have := concatM_cost (Prog3.toMs ps) (Prog3.toMs_pos hok.1) (ps.map (fun p => (sem p.toPipe none).2)) (prog3s_costW ps hok.2 he)
      (by rw [List.length_map, Prog3.toMs_length])
    show CostN (concatM (Prog3.toMs ps)).M (concatM (Prog3.toMs ps)).nexts (sem (Prog3.toPipes ps) none).2
    rw [cost_toPipes ps hok.1]; exact this
  | .flatRep k p, hok, he => by
    obtain ⟨h1, h2, h3⟩ := prog3_headOkT2 p hok.2
    have hpull : PullOnly p.toM.M := hok.1.elim h3 (fun ht => (prog3_joinHeadW p hok.2 ht).pull)
    have := flat_cost (Mi := (srcM []).M) (initOf := fun a => { (srcM []).M.init with it := rangeFrom a k })
      (g := fun a => rangeFrom a k) (nxO := p.toM.nexts) (nxI := (srcM []).nexts) h1 h2 hpull
      (inner_headOkT k) (inner_noUpstream k) (prog3_costW p hok.2 he) (inner_costN k)
    show CostN (flatM k p.toM).M (flatM k p.toM).nexts (sem (Pipe.flatMap (fun a => Pipe.src (rangeFrom a k)) p.toPipe) none).2
    rw [cost_flatRep]; exact this
theorem prog3s_costW : (ps : List Prog3) → Prog3.oks2 ps → Prog3.lazys2 ps → ∀ i (hi : i < (Prog3.toMs ps).length),
    ∃ ys, HeadOkT (Prog3.toMs ps)[i].M ys ∧ ComposeFull.NoUpstream (Prog3.toMs ps)[i].M ∧
      CostN (Prog3.toMs ps)[i].M (Prog3.toMs ps)[i].nexts ((ps.map (fun p => (sem p.toPipe none).2)).getD i 0)
  | [], _, _ => fun i hi => absurd hi (Nat.not_lt_zero _)
  | p :: ps, hok, he => fun i hi => by
    cases i with
    | zero => exact ⟨_, (prog3_headOkT2 p hok.1).1, (prog3_headOkT2 p hok.1).2.1, prog3_costW p hok.1 he.1⟩
    | succ i => exact prog3s_costW ps hok.2 he.2 i (by simpa [Prog3.toMs] using hi)
end

theorem prog3_correct2 (p : Prog3) (hok : p.ok2) :
    ∀ s, SReach (thenM p.toM forEachM).M s →
      BasicSafe s ∧ applied s.tr <+: listSem p.toPipe ∧ (s.stack = [] → s.tr ≠ [] → applied s.tr = listSem p.toPipe) :=
  head_forEach_correct (prog3_headOkT2 p hok).1.head

/-- … and in full: C01–C05, C17 -/
theorem prog3_safe2 (p : Prog3) (hok : p.ok2) :
    ∀ s, SReach (thenM p.toM forEachM).M s → Safe s ∧ SafeFor 4 s ∧ SafeFor 5 s :=
  ComposeFull.closed_pipeline_full₀ (prog3_headOkT2 p hok).1.head.up

/-- **"… and then completes without stalling"**: progress, return, non-vacuity -/
theorem prog3_completes2 (p : Prog3) (hok : p.ok2) :
    (∀ s, SReach (thenM p.toM forEachM).M s → ∃ n, EnvTurn (advance (thenM p.toM forEachM).M n s)) ∧
    (∀ s, SReach (thenM p.toM forEachM).M s → ∃ t, SReach (thenM p.toM forEachM).M t ∧ t.stack = [] ∧
      (s.tr ≠ [] → t.tr ≠ []) ∧ Drain (thenM p.toM forEachM).M s t) ∧
    (∃ s, SReach (thenM p.toM forEachM).M s ∧ s.stack = [] ∧ s.tr ≠ [] ∧ applied s.tr = listSem p.toPipe) :=
  ⟨(head_forEach_term (prog3_headOkT2 p hok).1.head (prog3_headOkT2 p hok).2.1 (prog3_headPot p)).1,
   (head_forEach_term (prog3_headOkT2 p hok).1.head (prog3_headOkT2 p hok).2.1 (prog3_headPot p)).2,
   head_forEach_nonvacuous (prog3_headOkT2 p hok).1.head (prog3_headOkT2 p hok).2.1 (prog3_headPot p)⟩

theorem prog3_cost_wide (p : Prog3) (hok : p.ok2) (he : p.lazy2) :
    ∀ s, SReach (thenM p.toM forEachM).M s →
      (thenM p.toM forEachM).nexts s.st ≤ (sem p.toPipe none).2 ∧
      (s.stack = [] → s.tr ≠ [] → (thenM p.toM forEachM).nexts s.st = (sem p.toPipe none).2) :=
  head_forEach_costN (prog3_headOkT2 p hok).1.head (prog3_costW p hok he)

/-- `pipe!(flatten(map(|a| from_iter(a..a+2))(concat!(from_iter([1]), flatten(map(|a| from_iter(a..a+2))(from_iter([5])))))), take(3),
for_each(f))` — `flatRep` over a `concat!` with a nested `flatRep`: `f` is applied to 1, 2, 5; the iterators are advanced 8 times
(`sem`: the inner sources of the top `flatten` 3 + 1, its outer source — the `concat!` asked for two items — 2 + (1 + 1)) -/
example : ∀ s, SReach (thenM (Prog3.stage (.take 3) (.flatRep 2 (.concat2 (.src [1]) (.flatRep 2 (.src [5]))))).toM forEachM).M s →
      (BasicSafe s ∧ applied s.tr <+: [1, 2, 5] ∧ (s.stack = [] → s.tr ≠ [] → applied s.tr = [1, 2, 5])) ∧
      (thenM (Prog3.stage (.take 3) (.flatRep 2 (.concat2 (.src [1]) (.flatRep 2 (.src [5]))))).toM forEachM).nexts s.st ≤ 8 :=
  fun s hs =>
    ⟨prog3_correct2 (Prog3.stage (.take 3) (.flatRep 2 (.concat2 (.src [1]) (.flatRep 2 (.src [5])))))
        ⟨fun n hn => (by cases hn; decide), .inr ⟨trivial, trivial⟩, trivial, .inl trivial, trivial⟩ s hs,
     (prog3_cost_wide (Prog3.stage (.take 3) (.flatRep 2 (.concat2 (.src [1]) (.flatRep 2 (.src [5])))))
        ⟨fun n hn => (by cases hn; decide), .inr ⟨trivial, trivial⟩, trivial, .inl trivial, trivial⟩
        ⟨.inl ⟨trivial, trivial⟩, trivial, trivial⟩ s hs).1⟩

end Cb.Closed

#print axioms Cb.Closed.prog3_headPot
#print axioms Cb.Closed.prog3_joinHeadW
#print axioms Cb.Closed.prog3_headOkT2
#print axioms Cb.Closed.prog3_correct2
#print axioms Cb.Closed.prog3_safe2
#print axioms Cb.Closed.prog3_completes2
#print axioms Cb.Closed.prog3_cost_wide
