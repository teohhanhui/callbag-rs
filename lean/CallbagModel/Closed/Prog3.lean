import CallbagModel.Closed.Prog3Wide
/-!
# Programs with n-ary `concat!`: the narrower classes

The theorems of `Closed/Prog3Wide.lean` on subclasses of its classes; every theorem here is an instance of the one there.

* `Prog3.ok` (`Closed/Prog3Def.lean`) is a subclass of `Prog3.ok2` (`Prog3.ok2_of_ok`): `prog3_correct`, `prog3_safe`, `prog3_completes`.
* The cost classes, from the widest to the narrowest (`p.ok` throughout).  For each, at every reachable configuration of
  `thenM p.toM forEachM` under every conformant environment the ghost counter of `Iterator::next` calls (the SUM over all `from_iter`
  sources of the network, the inner sources of `flatten` included) is at most `(sem p.toPipe none).2`, and equal to it once the
  application has returned.
  - `Prog3.lazy2` (`Closed/Prog3Wide.lean`): `prog3_cost_flat` — a `take` over `concat!` and `flatRep` whose members are take-free.
  - `Prog3.lazy`, the same without `flatRep` under a `take`: `prog3_cost_take`.  `Prog3.tf` (take-free): sources, stages other than
    `take`, `concat2`, `concatN` of take-free programs.  `Prog3.hc`: any stages — `take` included — over a source or over a
    `concat2`/`concatN` whose members are take-free.  `Prog3.lazy`: a `take` may be applied to a program of class `hc`; any other stage,
    `concat2`, `concatN`, `flatRep` may be applied to programs of class `lazy`.  So a `take` over a `concat!` is covered when every member
    of that `concat!` is take-free.
  - `Prog3.eager`: no `take` is applied to the output of a join (`concat2`, `concatN`, `flatRep`) — a `take` may sit anywhere in a linear
    part (in particular inside the members of a join), and any other stage may follow a join.  Then every join is asked for "everything"
    (the demand `none` of `Ops/Pipeline.lean`): `prog3_cost`.
  The inclusions: `tf ⊆ tf2`, `hc ⊆ hc2`, `eager ⊆ lazy ⊆ lazy2`, linear programs are in `hc` and in `eager`.

## Why the members under a `take` must be take-free

Not in `Prog3.eager`: a `take` over a join (`take n (concat!(…))`, `take n (flatten(…))`), where the join is asked for less than
everything.  The classes `Prog3.lazy`, `Prog3.lazy2` cover that case when the members of the join under the `take` are take-free.  The
restriction is needed.
The rule one would write in the style of `Inv/ComposeCost.lean` — "under a sink that pulls only while it has received fewer than
`d` items (`DemOk (some d)`), `concat!(A, B)` advances the iterators at most `cost_A(d) + cost_B(d − |ysA|)` times" — is FALSE for a
member that ends on its own, because `got_pull` of `concat` is sticky.  Execution, `A = pipe!(from_iter([1,2]), take(1))`,
`B = from_iter([3])`, `d = 1` (`sem` says 1):
  sink: subscribe; `concat` subscribes `A`, is greeted, greets the sink.
  sink: `Pull` (0 < 1 received): `got_pull := true`; `Pull` to `A`, to its iterator: `next` (1st advance) = 1; `take`: `taken = 1`,
        `Data(1)` to `concat`, to the sink; THE SINK RETURNS without `Pull` and without `Terminate` (it obeys `DemOk (some 1)`).
  `take` (back from its delivery): `taken = max`, so `Terminate` to its source and to `concat`; `concat`: `i := 1`, subscribes `B`;
        `B` greets; `i ≠ 0` and `got_pull` is (still) true: `Pull` to `B`: `next` (2nd advance) = 3 — 2 > 1, and `Data(3)` is then
        delivered to a sink that asked for nothing.
In a closed program the demand `some d` comes from a `take(d)` below, which sends `Terminate` upstream BEFORE its delivery of the `d`-th
item returns (`d2`–`d5` of `Ops/Take.lean` run inside `concat`'s delivery), so the execution above does not occur there; but "before the
delivery returns" is not a property of the trace (returns are not events): the general statement would need reachability under a restricted
environment.  For members that end only in answer to a `Pull` (take-free members) the rule holds (`JoinHead` of `Inv/JoinDemand.lean`), and
that is what the wider classes rest on.  `flatten` pulls unconditionally too (`it2` when an inner source ends, `ig1` when one greets); the
`from_iter` inner sources of `flatRep` end only in answer to a `Pull`, so a `take` over `flatRep` is in `Prog3.lazy2`.
-/
namespace Cb.Closed
open PlugConcat ComposeTerm PlugCost JoinDemand

mutual
/-- take-free: sources, stages other than `take`, `concat!` — these programs END ONLY WHEN PULLED -/
def Prog3.tf : Prog3 → Prop
  | .src _ => True
  | .stage s p => s.noTake ∧ p.tf
  | .concat2 p q => p.tf ∧ q.tf
  | .concatN ps => Prog3.tfs ps
  | .flatRep _ _ => False
def Prog3.tfs : List Prog3 → Prop
  | [] => True
  | p :: ps => p.tf ∧ Prog3.tfs ps
end

def Prog3.hc : Prog3 → Prop
  | .src _ => True
  | .stage _ p => p.hc
  | .concat2 p q => p.tf ∧ q.tf
  | .concatN ps => Prog3.tfs ps
  | .flatRep _ _ => False

mutual
def Prog3.lazy : Prog3 → Prop
  | .src _ => True
  | .stage s p => (p.hc ∨ s.noTake) ∧ p.lazy
  | .concat2 p q => p.lazy ∧ q.lazy
  | .concatN ps => Prog3.lazys ps
  | .flatRep _ p => p.lazy
def Prog3.lazys : List Prog3 → Prop
  | [] => True
  | p :: ps => p.lazy ∧ Prog3.lazys ps
end

mutual
def Prog3.eager : Prog3 → Prop
  | .src _ => True
  | .stage s p => (p.linear ∨ s.noTake) ∧ p.eager
  | .concat2 p q => p.eager ∧ q.eager
  | .concatN ps => Prog3.eagers ps
  | .flatRep _ p => p.eager
def Prog3.eagers : List Prog3 → Prop
  | [] => True
  | p :: ps => p.eager ∧ Prog3.eagers ps
end

theorem Prog3.hc_of_linear : (p : Prog3) → p.linear → p.hc
  | .src _, _ => trivial
  | .stage _ p, h => Prog3.hc_of_linear p h
  | .concat2 _ _, h => h.elim
  | .concatN _, h => h.elim
  | .flatRep _ _, h => h.elim

mutual
theorem Prog3.tf2_of_tf : (p : Prog3) → p.tf → p.tf2
  | .src _, _ => trivial
  | .stage _ p, h => ⟨h.1, Prog3.tf2_of_tf p h.2⟩
  | .concat2 p q, h => ⟨Prog3.tf2_of_tf p h.1, Prog3.tf2_of_tf q h.2⟩
  | .concatN ps, h => Prog3.tfs2_of_tfs ps h
  | .flatRep _ _, h => h.elim
theorem Prog3.tfs2_of_tfs : (ps : List Prog3) → Prog3.tfs ps → Prog3.tfs2 ps
  | [], _ => trivial
  | p :: ps, h => ⟨Prog3.tf2_of_tf p h.1, Prog3.tfs2_of_tfs ps h.2⟩
end

theorem Prog3.hc2_of_hc : (p : Prog3) → p.hc → p.hc2
  | .src _, _ => trivial
  | .stage _ p, h => Prog3.hc2_of_hc p h
  | .concat2 p q, h => ⟨Prog3.tf2_of_tf p h.1, Prog3.tf2_of_tf q h.2⟩
  | .concatN ps, h => Prog3.tfs2_of_tfs ps h
  | .flatRep _ _, h => h.elim

mutual
theorem Prog3.lazy2_of_lazy : (p : Prog3) → p.lazy → p.lazy2
  | .src _, _ => trivial
  | .stage _ p, h => ⟨h.1.imp (Prog3.hc2_of_hc p) id, Prog3.lazy2_of_lazy p h.2⟩
  | .concat2 p q, h => ⟨Prog3.lazy2_of_lazy p h.1, Prog3.lazy2_of_lazy q h.2⟩
  | .concatN ps, h => Prog3.lazys2_of_lazys ps h
  | .flatRep _ p, h => Prog3.lazy2_of_lazy p h
theorem Prog3.lazys2_of_lazys : (ps : List Prog3) → Prog3.lazys ps → Prog3.lazys2 ps
  | [], _ => trivial
  | p :: ps, h => ⟨Prog3.lazy2_of_lazy p h.1, Prog3.lazys2_of_lazys ps h.2⟩
end

mutual
theorem Prog3.lazy_of_eager : (p : Prog3) → p.eager → p.lazy
  | .src _, _ => trivial
  | .stage _ p, h => ⟨h.1.imp (Prog3.hc_of_linear p) id, Prog3.lazy_of_eager p h.2⟩
  | .concat2 p q, h => ⟨Prog3.lazy_of_eager p h.1, Prog3.lazy_of_eager q h.2⟩
  | .concatN ps, h => Prog3.lazys_of_eagers ps h
  | .flatRep _ p, h => Prog3.lazy_of_eager p h
theorem Prog3.lazys_of_eagers : (ps : List Prog3) → Prog3.eagers ps → Prog3.lazys ps
  | [], _ => trivial
  | p :: ps, h => ⟨Prog3.lazy_of_eager p h.1, Prog3.lazys_of_eagers ps h.2⟩
end

theorem Prog3.eager_of_linear : (p : Prog3) → p.linear → p.eager
  | .src _, _ => trivial
  | .stage _ p, h => ⟨.inl h, Prog3.eager_of_linear p h⟩
  | .concat2 _ _, h => h.elim
  | .concatN _, h => h.elim
  | .flatRep _ _, h => h.elim

/-- **every program with `concat!` of any arity and `flatRep`** (with `Prog3.ok`) -/
theorem prog3_correct (p : Prog3) (hok : p.ok) :
    ∀ s, SReach (thenM p.toM forEachM).M s →
      BasicSafe s ∧ applied s.tr <+: listSem p.toPipe ∧ (s.stack = [] → s.tr ≠ [] → applied s.tr = listSem p.toPipe) :=
  prog3_correct2 p (Prog3.ok2_of_ok p hok)

/-- … and in full: C01–C05, C17 -/
theorem prog3_safe (p : Prog3) (hok : p.ok) :
    ∀ s, SReach (thenM p.toM forEachM).M s → Safe s ∧ SafeFor 4 s ∧ SafeFor 5 s :=
  prog3_safe2 p (Prog3.ok2_of_ok p hok)

/-- **"… and then completes without stalling"**: progress, return, non-vacuity -/
theorem prog3_completes (p : Prog3) (hok : p.ok) :
    (∀ s, SReach (thenM p.toM forEachM).M s → ∃ n, EnvTurn (advance (thenM p.toM forEachM).M n s)) ∧
    (∀ s, SReach (thenM p.toM forEachM).M s → ∃ t, SReach (thenM p.toM forEachM).M t ∧ t.stack = [] ∧
      (s.tr ≠ [] → t.tr ≠ []) ∧ Drain (thenM p.toM forEachM).M s t) ∧
    (∃ s, SReach (thenM p.toM forEachM).M s ∧ s.stack = [] ∧ s.tr ≠ [] ∧ applied s.tr = listSem p.toPipe) :=
  prog3_completes2 p (Prog3.ok2_of_ok p hok)

theorem prog3_progress (p : Prog3) (hok : p.ok) :
    ∀ s, SReach (thenM p.toM forEachM).M s → ∃ n, EnvTurn (advance (thenM p.toM forEachM).M n s) :=
  (prog3_completes p hok).1

theorem prog3_returns (p : Prog3) (hok : p.ok) :
    ∀ s, SReach (thenM p.toM forEachM).M s → ∃ t, SReach (thenM p.toM forEachM).M t ∧ t.stack = [] ∧
      (s.tr ≠ [] → t.tr ≠ []) ∧ Drain (thenM p.toM forEachM).M s t :=
  (prog3_completes p hok).2.1

/-- the last clause of `prog3_correct` is not vacuous -/
theorem prog3_nonvacuous (p : Prog3) (hok : p.ok) :
    ∃ s, SReach (thenM p.toM forEachM).M s ∧ s.stack = [] ∧ s.tr ≠ [] ∧ applied s.tr = listSem p.toPipe :=
  (prog3_completes p hok).2.2

/-- `pipe!(concat!(from_iter([1,2]), pipe!(from_iter([3,4,5]), take(2)), flatten(map(|a| from_iter(a..a+2))(from_iter([7])))), for_each(f))`:
three members, the machine is `concatM [_, _, _]`; `f` is applied to 1, 2, 3, 4, 7, 8 -/
example : ∀ s, SReach (thenM (Prog3.concatN [.src [1, 2], .stage (.take 2) (.src [3, 4, 5]), .flatRep 2 (.src [7])]).toM forEachM).M s →
      BasicSafe s ∧ applied s.tr <+: [1, 2, 3, 4, 7, 8] ∧ (s.stack = [] → s.tr ≠ [] → applied s.tr = [1, 2, 3, 4, 7, 8]) :=
  prog3_correct _ ⟨by simp, trivial, ⟨fun n hn => (by cases hn; decide), trivial⟩, ⟨trivial, trivial⟩, trivial⟩

/-- **the cost of every program of class `Prog3.lazy2`** — a `take` over `concat!` and `flatRep` whose members are take-free -/
theorem prog3_cost_flat (p : Prog3) (hok : p.ok) (he : p.lazy2) :
    ∀ s, SReach (thenM p.toM forEachM).M s →
      (thenM p.toM forEachM).nexts s.st ≤ (sem p.toPipe none).2 ∧
      (s.stack = [] → s.tr ≠ [] → (thenM p.toM forEachM).nexts s.st = (sem p.toPipe none).2) :=
  prog3_cost_wide p (Prog3.ok2_of_ok p hok) he

/-- **the cost of every program of class `Prog3.lazy`** — in particular with a `take` over a `concat!` whose members are take-free -/
theorem prog3_cost_take (p : Prog3) (hok : p.ok) (he : p.lazy) :
    ∀ s, SReach (thenM p.toM forEachM).M s →
      (thenM p.toM forEachM).nexts s.st ≤ (sem p.toPipe none).2 ∧
      (s.stack = [] → s.tr ≠ [] → (thenM p.toM forEachM).nexts s.st = (sem p.toPipe none).2) :=
  prog3_cost_wide p (Prog3.ok2_of_ok p hok) (Prog3.lazy2_of_lazy p he)

/-- **the cost of every program whose joins are run to their end** -/
theorem prog3_cost (p : Prog3) (hok : p.ok) (he : p.eager) :
    ∀ s, SReach (thenM p.toM forEachM).M s →
      (thenM p.toM forEachM).nexts s.st ≤ (sem p.toPipe none).2 ∧
      (s.stack = [] → s.tr ≠ [] → (thenM p.toM forEachM).nexts s.st = (sem p.toPipe none).2) :=
  prog3_cost_wide p (Prog3.ok2_of_ok p hok) (Prog3.lazy2_of_lazy p (Prog3.lazy_of_eager p he))

/-- `pipe!(concat!(flatten(map(|a| from_iter(a..a+2))(pipe!(from_iter([1,5]), map(·*10)))), from_iter([7])), take(4), for_each(f))` (the
example of `prog2_correct`): 3 advances for the inner source of 10 (two items and its end), 2 for the inner source of 50 (`take(4)` is
then satisfied), 2 for the outer source (it is asked for two items), none for `from_iter([7])` -/
example : ∀ s, SReach (thenM (Prog3.stage (.take 4)
      (.concat2 (.flatRep 2 (.stage (.map (· * 10)) (.src [1, 5]))) (.src [7]))).toM forEachM).M s →
      (thenM (Prog3.stage (.take 4) (.concat2 (.flatRep 2 (.stage (.map (· * 10)) (.src [1, 5]))) (.src [7]))).toM forEachM).nexts s.st ≤ 7 ∧
      (s.stack = [] → s.tr ≠ [] →
        (thenM (Prog3.stage (.take 4) (.concat2 (.flatRep 2 (.stage (.map (· * 10)) (.src [1, 5]))) (.src [7]))).toM forEachM).nexts s.st = 7) :=
  prog3_cost_flat (Prog3.stage (.take 4) (.concat2 (.flatRep 2 (.stage (.map (· * 10)) (.src [1, 5]))) (.src [7])))
    ⟨fun n hn => (by cases hn; decide), ⟨trivial, ⟨fun n hn => (by cases hn), trivial⟩⟩, trivial⟩
    ⟨.inl ⟨⟨trivial, trivial⟩, trivial⟩, ⟨.inl trivial, trivial⟩, trivial⟩

/-- `pipe!(concat!(from_iter([1,2,3]), pipe!(from_iter([4,5,6,7]), filter(even)), from_iter([8,9])), take(4), for_each(f))`: the first
member is run to its end (4 advances), the second is asked for one item and needs two advances (4 is even), the third is never pulled -/
example : ∀ s, SReach (thenM (Prog3.stage (.take 4) (.concatN [.src [1, 2, 3], .stage (.filter (fun x => x % 2 == 0)) (.src [4, 5, 6, 7]),
        .src [8, 9]])).toM forEachM).M s →
      (thenM (Prog3.stage (.take 4) (.concatN [.src [1, 2, 3], .stage (.filter (fun x => x % 2 == 0)) (.src [4, 5, 6, 7]),
        .src [8, 9]])).toM forEachM).nexts s.st ≤ 5 :=
  fun s hs => (prog3_cost_take
    (Prog3.stage (.take 4) (.concatN [.src [1, 2, 3], .stage (.filter (fun x => x % 2 == 0)) (.src [4, 5, 6, 7]), .src [8, 9]]))
    ⟨fun n hn => (by cases hn; decide), by simp, trivial, ⟨fun n hn => (by cases hn), trivial⟩, trivial, trivial⟩
    ⟨.inl ⟨trivial, ⟨trivial, trivial⟩, trivial, trivial⟩, trivial, ⟨.inl trivial, trivial⟩, trivial, trivial⟩ s hs).1

/-- `pipe!(concat!(from_iter([1,2]), pipe!(from_iter([3,4,5]), take(2)), flatten(map(|a| from_iter(a..a+2))(from_iter([7])))), for_each(f))`:
3 advances for the first member, 2 for the second (`take(2)` stops it), 2 + 3 for the third (the outer source and its one inner source) -/
example : ∀ s, SReach (thenM (Prog3.concatN [.src [1, 2], .stage (.take 2) (.src [3, 4, 5]), .flatRep 2 (.src [7])]).toM forEachM).M s →
      (thenM (Prog3.concatN [.src [1, 2], .stage (.take 2) (.src [3, 4, 5]), .flatRep 2 (.src [7])]).toM forEachM).nexts s.st ≤ 10 ∧
      (s.stack = [] → s.tr ≠ [] →
        (thenM (Prog3.concatN [.src [1, 2], .stage (.take 2) (.src [3, 4, 5]), .flatRep 2 (.src [7])]).toM forEachM).nexts s.st = 10) :=
  prog3_cost _ ⟨by simp, trivial, ⟨fun n hn => (by cases hn; decide), trivial⟩, ⟨trivial, trivial⟩, trivial⟩
    ⟨trivial, ⟨.inl trivial, trivial⟩, trivial, trivial⟩

theorem prog3s_headOkT : (ps : List Prog3) → Prog3.oks ps → ∀ i (hi : i < (Prog3.toMs ps).length),
    HeadOkT (Prog3.toMs ps)[i].M ((ps.map (fun p => listSem p.toPipe)).getD i []) ∧ ComposeFull.NoUpstream (Prog3.toMs ps)[i].M :=
  fun ps hok => prog3s_headOkT2 ps (Prog3.oks2_of_oks ps hok)

theorem prog3s_joinHead2 : (ps : List Prog3) → Prog3.oks ps → Prog3.tfs2 ps → ∀ i (hi : i < (Prog3.toMs ps).length),
    JoinHead (Prog3.toMs ps)[i] ((ps.map (fun p => listSem p.toPipe)).getD i [])
      ((ps.map (fun p dem => (sem p.toPipe dem).2)).getD i (fun _ => 0)) :=
  fun ps hok => prog3s_joinHeadW ps (Prog3.oks2_of_oks ps hok)

theorem prog3s_joinHead : (ps : List Prog3) → Prog3.oks ps → Prog3.tfs ps → ∀ i (hi : i < (Prog3.toMs ps).length),
    JoinHead (Prog3.toMs ps)[i] ((ps.map (fun p => listSem p.toPipe)).getD i [])
      ((ps.map (fun p dem => (sem p.toPipe dem).2)).getD i (fun _ => 0)) :=
  fun ps hok ht => prog3s_joinHeadW ps (Prog3.oks2_of_oks ps hok) (Prog3.tfs2_of_tfs ps ht)

theorem prog3s_costL2 : (ps : List Prog3) → Prog3.oks ps → Prog3.lazys2 ps → ∀ i (hi : i < (Prog3.toMs ps).length),
    ∃ ys, HeadOkT (Prog3.toMs ps)[i].M ys ∧ ComposeFull.NoUpstream (Prog3.toMs ps)[i].M ∧
      CostN (Prog3.toMs ps)[i].M (Prog3.toMs ps)[i].nexts ((ps.map (fun p => (sem p.toPipe none).2)).getD i 0) :=
  fun ps hok => prog3s_costW ps (Prog3.oks2_of_oks ps hok)

theorem prog3s_costL : (ps : List Prog3) → Prog3.oks ps → Prog3.lazys ps → ∀ i (hi : i < (Prog3.toMs ps).length),
    ∃ ys, HeadOkT (Prog3.toMs ps)[i].M ys ∧ ComposeFull.NoUpstream (Prog3.toMs ps)[i].M ∧
      CostN (Prog3.toMs ps)[i].M (Prog3.toMs ps)[i].nexts ((ps.map (fun p => (sem p.toPipe none).2)).getD i 0) :=
  fun ps hok he => prog3s_costW ps (Prog3.oks2_of_oks ps hok) (Prog3.lazys2_of_lazys ps he)

theorem prog3s_costN : (ps : List Prog3) → Prog3.oks ps → Prog3.eagers ps → ∀ i (hi : i < (Prog3.toMs ps).length),
    ∃ ys, HeadOkT (Prog3.toMs ps)[i].M ys ∧ ComposeFull.NoUpstream (Prog3.toMs ps)[i].M ∧
      CostN (Prog3.toMs ps)[i].M (Prog3.toMs ps)[i].nexts ((ps.map (fun p => (sem p.toPipe none).2)).getD i 0) :=
  fun ps hok he => prog3s_costW ps (Prog3.oks2_of_oks ps hok) (Prog3.lazys2_of_lazys ps (Prog3.lazys_of_eagers ps he))

end Cb.Closed

#print axioms Cb.Closed.prog3_correct
#print axioms Cb.Closed.prog3_safe
#print axioms Cb.Closed.prog3_completes
#print axioms Cb.Closed.prog3_cost_flat
#print axioms Cb.Closed.prog3_cost_take
#print axioms Cb.Closed.prog3_cost
