import CallbagModel.Closed.LinearDef
/-!
# Programs with `concat!`: syntax, the machine, the syntax of `Ops/Pipeline.lean` — definitions only

`Prog` = `from_iter(xs)` | a unary stage applied to a program | `concat!(p, q)` of two programs.  `Prog.toM` builds the machine with
exactly the constructors of `Closed/Exec.lean` (`srcM`, `thenM`, `plugM`), so that the compiled driver can build the same term;
the proofs (`prog_correct` … in `Closed/Sub.lean`) are not imported here.
-/
namespace Cb.Closed

inductive Prog where
  | src (xs : List Int)
  | stage (s : Stg) (p : Prog)
  | concat (p q : Prog)

/-- the binary `concat` machine over `Int`, as an `AnyM` -/
def concat2M : AnyM := { St := Concat.St, Loc := Concat.Loc Int, M := Concat.machine Int 2, nexts := fun _ => 0 }

/-- the machine of a program: `concat!(p, q)` is the binary `concat` machine with both slots plugged -/
def Prog.toM : Prog → AnyM
  | .src xs => srcM xs
  | .stage s p => thenM p.toM s.toM
  | .concat p q => plugM 0 p.toM (plugM 1 q.toM concat2M)

/-- the program as syntax of `Ops/Pipeline.lean` -/
def Prog.toPipe : Prog → Pipe
  | .src xs => Pipe.src xs
  | .stage s p => s.toPipe p.toPipe
  | .concat p q => Pipe.concat p.toPipe q.toPipe

/-- every `take n` in the program has `0 < n` -/
def Prog.takesPos : Prog → Prop
  | .src _ => True
  | .stage s p => (∀ n, s = .take n → 0 < n) ∧ p.takesPos
  | .concat p q => p.takesPos ∧ q.takesPos

end Cb.Closed
