import CallbagModel.Closed.Prog2Def
import CallbagModel.Closed.Linear
import CallbagModel.Inv.FlatPlugFun
/-!
# Sources, stages and `flatRep` as heads in the sense the joins need

`HeadOkT`, `StageT` (`Inv/PlugConcat.lean`) are heads and stages in the strengthened sense `concat!` needs of its members.

`flatten` needs an outer source that delivers data only when pulled (`PullOnly`, `Inv/PullOnly.lean`).  A stage keeps that property,
so every linear head has it.  `flatRep k p = flatten(map(|a| from_iter(a .. a+k))(p))` is the network `flatM k p.toM` of
`Closed/Prog2Def.lean`: its inner sources are `from_iter` machines started with `rangeFrom a k`.

`concat!` is not `PullOnly` in general (the execution in the header of `Inv/FlatPlugFun.lean`), and flatten itself re-pulls the outer source when an inner
source ends, so its output answers a `Pull` only if the inner sources end only when pulled: `flatRep` over a join needs the take-free
class of `Closed/Prog3Wide.lean`.
-/
namespace Cb.Closed
open PlugConcat FlatPlugSafe FlatPlugFun

theorem Stg.stageT (s : Stg) (hpos : ∀ n, s = .take n → 0 < n) : StageT s.toM.M s.fn :=
  s.relay_or_take (P := fun A => StageT A.M s.fn) (fun k hk hf => (Relay.stageT k hk).congr hf)
    (fun n h => by subst h; exact Take.stageT n (hpos n rfl))

theorem srcM_headOkT (xs : List Int) : HeadOkT (srcM xs).M xs :=
  FromIter.headOkT listNextI xs xs (unfolds_listNextI xs)

theorem Stg.headOkT (s : Stg) (hpos : ∀ n, s = .take n → 0 < n) {A : AnyM} {q : Pipe} (h : HeadOkT A.M (listSem q))
    (hn : ComposeFull.NoUpstream A.M) :
    HeadOkT (thenM A s.toM).M (listSem (s.toPipe q)) ∧ ComposeFull.NoUpstream (thenM A s.toM).M := by
  refine ⟨?_, ComposeFull.NoUpstream.compose hn (hyp_of_roles h.head.up s.pipeable.downSide)⟩
  rw [← Stg.fn_listSem]
  exact h.compose (s.stageT hpos)

theorem Stg.stagePull (s : Stg) : StagePull s.toM.M :=
  s.relay_or_take (P := fun A => StagePull A.M) (fun k hk _ => Relay.stagePull k hk) (fun n _ => Take.stagePull n)

theorem Stg.pullOnly (s : Stg) {A : AnyM} (U : UpSide A.M) (hp : PullOnly A.M) : PullOnly (thenM A s.toM).M :=
  PullOnly.compose hp s.stagePull (hyp_of_roles U s.pipeable.downSide)

theorem rangeFrom_length (a : Int) (k : Nat) : (rangeFrom a k).length = k := by simp [rangeFrom]

/-- the inner sources of `flatRep k`: `from_iter(a .. a+k)` -/
theorem inner_headOkT (k : Nat) (a : Int) :
    HeadOkT (atInit (srcM []).M ({ (srcM []).M.init with it := rangeFrom a k } : (srcM []).St)) (rangeFrom a k) :=
  srcM_headOkT (rangeFrom a k)

theorem inner_noUpstream (k : Nat) (a : Int) :
    ComposeFull.NoUpstream (atInit (srcM []).M ({ (srcM []).M.init with it := rangeFrom a k } : (srcM []).St)) :=
  ComposeFull.FromIter.noUpstream (α' := Int) listNextI (rangeFrom a k)

theorem flatM_headOkT (k : Nat) {A : AnyM} {ys : List Int} (h : HeadOkT A.M ys) (hn : ComposeFull.NoUpstream A.M) (hp : PullOnly A.M) :
    HeadOkT (flatM k A).M (ys.flatMap fun a => rangeFrom a k) ∧ ComposeFull.NoUpstream (flatM k A).M :=
  flat_headOkT (Mi := (srcM []).M) (initOf := fun a => { (srcM []).M.init with it := rangeFrom a k }) (g := fun a => rangeFrom a k)
    h hn hp (inner_headOkT k) (inner_noUpstream k)

end Cb.Closed
