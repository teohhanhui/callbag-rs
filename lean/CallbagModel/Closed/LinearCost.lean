import CallbagModel.Closed.Prog3Sem
/-!
# The cost of a stage: the demand it passes on, and what that says of the iterator

The stage rules (`Stg.up`, mirroring `sem`: `sem_stage_cost`; `Stg.stageDem`, `Stg.stageLow`) instantiate `Inv/ComposeCost.lean` for every
stage.  `HeadCost A p` is what an induction over program syntax carries for a head whose cost is known under EVERY demand: `A` is a head
of `listSem p` (`HeadOkT`) without upstream that delivers data only when pulled, and its ghost counter of `Iterator::next` calls is bounded above
(under a sink that obeys `dem`) and below (at top level) by `(sem p dem).2`.  Under the demand `none` alone: `CostN` (`Inv/PlugCost.lean`).

`head_forEach_costN`: a head whose cost under the demand `none` is `c`, closed with `for_each` — at EVERY reachable configuration under
every conformant environment the counter is at most `c`, and it is exactly `c` once the application has returned.

At the end, facts about `sem` alone: the cost of a chain of stages in terms of the cost of what it is applied to (`sem_fold_*`, `sem_take_cost`).
-/
namespace Cb.Closed
open ComposeComplete PlugConcat FlatPlugSafe FlatPlugFun ComposeCost PlugCost JoinDemand FlatDemand

def Stg.up : Stg → List Int → Demand → Demand
  | .map _, _, dem => dem
  | .scan _ _, _, dem => dem
  | .filter _, _, none => none
  | .filter q, ys, some d => needFor q d ys
  | .take n, _, dem => takeUp n dem
  | .skip _, _, none => none
  | .skip n, _, some d => if d = 0 then some 0 else some (d + n)

theorem sem_stage_cost (s : Stg) (p : Pipe) (dem : Demand) : (sem (s.toPipe p) dem).2 = (sem p (s.up (listSem p) dem)).2 := by
  cases s with
  | map f => simp [Stg.toPipe, Stg.up, sem]
  | scan r seed => simp [Stg.toPipe, Stg.up, sem]
  | filter q =>
    cases dem with
    | none => simp [Stg.toPipe, Stg.up, sem]
    | some d => simp only [Stg.toPipe, Stg.up]; rw [sem_filter_some]
  | take n => cases dem <;> simp [Stg.toPipe, Stg.up, sem, takeUp]
  | skip n =>
    cases dem with
    | none => simp [Stg.toPipe, Stg.up, sem]
    | some d =>
      simp only [Stg.toPipe, Stg.up, sem]
      split
      · simp [cost_zero]
      · rfl

theorem Stg.stageDem (s : Stg) (ys : List Int) : StageDem s.toM.M (s.up ys) ys := by
  cases s with
  | map f =>
    refine Relay.stageDem (Relay.map f) (Relay.map_ok f) _ ys rfl (fun d ins _ h => ?_)
    rw [RelayFun.xferOut_map] at h
    simpa [Stg.up, wants] using h
  | scan r seed =>
    refine Relay.stageDem (Relay.scan r seed) (Relay.scan_ok r seed) _ ys rfl (fun d ins _ h => ?_)
    rw [show (Relay.scan r seed).seed = seed from rfl, RelayFun.xferOut_scan, scanF_length] at h
    simpa [Stg.up, wants] using h
  | filter q =>
    refine Relay.stageDem (Relay.filter q) (Relay.filter_ok q) _ ys rfl (fun d ins hp h => ?_)
    rw [RelayFun.xferOut_filter] at h
    simp only [Stg.up]
    cases hn : needFor q d ys with
    | none => trivial
    | some m => exact needFor_lt q d ys m ins hn hp h
  | take n => exact Take.stageDem n ys
  | skip n =>
    refine Relay.stageDem (Relay.skip n) (Relay.skip_ok n) _ ys rfl (fun d ins _ h => ?_)
    rw [RelayFun.xferOut_skip_seed] at h
    simp only [Stg.up]
    simp only [List.length_drop] at h
    split
    · omega
    · simp only [wants]; omega

theorem Stg.stageLow (s : Stg) (ys : List Int) : StageLow s.toM.M (s.up ys) ys := by
  cases s with
  | map f =>
    refine Relay.stageLow (Relay.map f) (Relay.map_ok f) _ ys (fun ins _ => ?_)
    rw [RelayFun.xferOut_map]; simp [Stg.up, Dle]
  | scan r seed =>
    refine Relay.stageLow (Relay.scan r seed) (Relay.scan_ok r seed) _ ys (fun ins _ => ?_)
    rw [show (Relay.scan r seed).seed = seed from rfl, RelayFun.xferOut_scan, scanF_length]; simp [Stg.up, Dle]
  | filter q =>
    refine Relay.stageLow (Relay.filter q) (Relay.filter_ok q) _ ys (fun ins hp => ?_)
    rw [RelayFun.xferOut_filter]
    exact needFor_le_prefix q ins ys hp
  | take n => exact Take.stageLow n ys
  | skip n =>
    refine Relay.stageLow (Relay.skip n) (Relay.skip_ok n) _ ys (fun ins _ => ?_)
    rw [RelayFun.xferOut_skip_seed]
    simp only [Stg.up, List.length_drop]
    split
    · exact Dle.zero _
    · simp only [Dle]; omega

theorem Stg.nexts_zero (s : Stg) (x : s.toM.St) : s.toM.nexts x = 0 := by cases s <;> rfl

theorem Stg.thenM_nexts (s : Stg) (A : AnyM) (x : (thenM A s.toM).St) : (thenM A s.toM).nexts x = A.nexts x.1 :=
  congrArg (A.nexts x.1 + ·) (s.nexts_zero x.2)

structure HeadCost (A : AnyM) (p : Pipe) : Prop where
  ok : HeadOkT A.M (listSem p)
  nu : ComposeFull.NoUpstream A.M
  pull : PullOnly A.M
  up : HeadUp A.M A.nexts (fun dem => (sem p dem).2)
  low : HeadLow A.M A.nexts (fun dem => (sem p dem).2)

theorem srcM_headCost (xs : List Int) : HeadCost (srcM xs) (Pipe.src xs) :=
  ⟨srcM_headOkT xs, ComposeFull.FromIter.noUpstream _ _, FromIter.pullOnly _ _,
    FromIter.headUp listNextI xs xs (unfolds_listNextI xs), FromIter.headLow listNextI xs xs (unfolds_listNextI xs)⟩

theorem HeadCost.stage {A : AnyM} {p : Pipe} (h : HeadCost A p) (s : Stg) (hpos : ∀ n, s = .take n → 0 < n) :
    HeadCost (thenM A s.toM) (s.toPipe p) := by
  have H := hyp_of_roles h.ok.head.up s.pipeable.downSide
  obtain ⟨h1, h2⟩ := s.headOkT hpos h.ok h.nu
  refine ⟨h1, h2, s.pullOnly h.ok.head.up h.pull, ?_, ?_⟩
  · have := HeadUp.compose h.up H h.ok.head.spec h.pull (s.stageDem (listSem p))
    intro dem st hs hD
    simp only [Stg.thenM_nexts, sem_stage_cost]; exact this dem st hs hD
  · have := HeadLow.compose h.low (cost_mono' p) H h.ok.head.spec (s.stageLow (listSem p))
    intro st hs hstk
    obtain ⟨h1, h2⟩ := this st hs hstk
    refine ⟨?_, fun hd' => ?_⟩
    · simp only [Stg.thenM_nexts, sem_stage_cost]; exact h1
    · simp only [Stg.thenM_nexts, sem_stage_cost]; exact h2 hd'

theorem HeadCost.costN {A : AnyM} {p : Pipe} (h : HeadCost A p) : CostN A.M A.nexts (sem p none).2 :=
  ⟨fun s hs => h.up none s hs (demOk_none _), fun s hs hk hd => (h.low s hs hk).2 hd⟩

theorem HeadCost.ofJoin {A : AnyM} {p : Pipe} (h : JoinHead A (listSem p) (fun dem => (sem p dem).2)) : HeadCost A p :=
  ⟨h.ok, h.nu, h.pull, h.up, h.low⟩

theorem flatHyp_of {A : AnyM} {ys : List Int} (k : Nat) (hO : HeadOkT A.M ys) (NO : ComposeFull.NoUpstream A.M) (PO : PullOnly A.M) :
    FlatHyp A.M (srcM []).M (fun a => ({ (srcM []).M.init with it := rangeFrom a k } : (srcM []).St)) ys (fun a => rangeFrom a k) :=
  ⟨hO, NO, PO, inner_headOkT k, inner_noUpstream k,
    fun a => FromIter.pullOnly (α' := Int) listNextI (rangeFrom a k), fun a => FromIter.endOnPull (α' := Int) listNextI (rangeFrom a k)⟩

theorem HeadCost.flat {A : AnyM} {p : Pipe} (k : Nat) (h : HeadCost A p) :
    HeadCost (flatM k A) (Pipe.flatMap (fun a => Pipe.src (rangeFrom a k)) p) := by
  have F := flatHyp_of k h.ok h.nu h.pull
  have hc : (fun dem => (sem (Pipe.flatMap (fun a => Pipe.src (rangeFrom a k)) p) dem).2) =
      flatC (fun d => (sem p d).2) (fun a d => (sem (Pipe.src (rangeFrom a k)) d).2) (fun a => rangeFrom a k) (listSem p) :=
    funext (cost_flatRep_dem k p)
  obtain ⟨h4, h5⟩ := flatM_headOkT k h.ok h.nu h.pull
  refine ⟨h4, h5, flatPlug_pullOnly F.hO F.NO F.PO F.hI F.NI F.PI F.EI, ?_, ?_⟩
  · rw [hc]
    exact flat_headUp F (nxO := A.nexts) (nxI := (srcM []).nexts) h.up (fun a => (srcM_headCost (rangeFrom a k)).up)
  · rw [hc]
    exact flat_headLow F (nxO := A.nexts) (nxI := (srcM []).nexts) h.low (fun a => (srcM_headCost (rangeFrom a k)).low)
      (cost_mono' p) (fun a => cost_mono' _) (fun a => cost_zero _)

theorem bound_forEach {A : AnyM} {n : Nat} (U : UpSide A.M) (h : ∀ s, SReach A.M s → A.nexts s.st ≤ n) :
    ∀ s, SReach (thenM A forEachM).M s → (thenM A forEachM).nexts s.st ≤ n :=
  bound_compose (nx := A.nexts) (hyp_of_roles U ForEach.downSide) h

theorem head_forEach_costN {A : AnyM} {ys : List Int} {c : Nat} (hA : HeadOk A.M ys) (k : CostN A.M A.nexts c) :
    ∀ s, SReach (thenM A forEachM).M s →
      (thenM A forEachM).nexts s.st ≤ c ∧ (s.stack = [] → s.tr ≠ [] → (thenM A forEachM).nexts s.st = c) := by
  intro s hs
  have hle := bound_forEach hA.up k.ub s hs
  refine ⟨hle, fun hstk hne => Nat.le_antisymm hle ?_⟩
  obtain ⟨s1, s2, hr1, hk1, hd, hst, _⟩ := closed_returned hA.up hA.served hs hstk hne
  show c ≤ A.nexts s.st.1 + 0
  rw [hst]
  exact k.lb s1 hr1 hk1 hd

def Stg.keeps' : Stg → Prop
  | .map _ => True
  | .scan _ _ => True
  | _ => False

def Stg.noTake : Stg → Prop
  | .take _ => False
  | _ => True

theorem Stg.up_none_of_noTake (s : Stg) (hs : s.noTake) (ys : List Int) : s.up ys none = none := by
  cases s <;> first | rfl | exact hs.elim

theorem Stg.stageEnd (s : Stg) (hs : s.noTake) : StageEnd s.toM.M :=
  s.relay_or_take (P := fun A => StageEnd A.M) (fun k hk _ => Relay.stageEnd k hk) (fun n h => by subst h; exact hs.elim)

/-- a stage other than `take` after a head that is run to its end: the stage is run to its end too, and advances nothing -/
theorem CostN.stage {A : AnyM} {q : Pipe} (hA : HeadOk A.M (listSem q)) (k : CostN A.M A.nexts (sem q none).2) (s : Stg) (hs : s.noTake) :
    CostN (thenM A s.toM).M (thenM A s.toM).nexts (sem (s.toPipe q) none).2 := by
  have H := hyp_of_roles hA.up s.pipeable.downSide
  rw [sem_stage_cost, Stg.up_none_of_noTake s hs]
  refine ⟨fun st hst => ?_, fun st hst hstk hd => ?_⟩
  · rw [Stg.thenM_nexts]; exact bound_compose (nx := A.nexts) H k.ub st hst
  · obtain ⟨s1, s2, hr1, hr2, hk1, hk2, ht1, ht2, hgh, htr, hp⟩ := proj_top H hst hstk
    have hst' : st.st = (s1.st, s2.st) := hp.m.st
    have hpre : sentData 0 s2.tr <+: listSem q := by rw [← hp.ifc 0]; exact hA.spec s1 hr1 ht1
    have := (s.stageLow (listSem q) s2 hr2 hk2 hpre).2 (hgh.sink 0 ▸ hd)
    rw [Stg.up_none_of_noTake s hs] at this
    rcases this with he | hle
    · rw [Stg.thenM_nexts, hst']; exact k.lb s1 hr1 hk1 (hgh.ifc_ended he)
    · exact hle.elim

theorem inner_costN (k : Nat) (a : Int) :
    CostN (atInit (srcM []).M ({ (srcM []).M.init with it := rangeFrom a k } : (srcM []).St)) (srcM []).nexts (k + 1) := by
  have := (srcM_headCost (rangeFrom a k)).costN
  rwa [cost_src, rangeFrom_length] at this

theorem sem_fold_demand (ss : List Stg) : ∀ (q : Pipe) (dem : Demand),
    ∃ dem', (sem (ss.foldl (fun p s => s.toPipe p) q) dem).2 = (sem q dem').2 := by
  induction ss with
  | nil => exact fun q dem => ⟨dem, rfl⟩
  | cons s ss ih =>
    intro q dem
    obtain ⟨dem', h⟩ := ih (s.toPipe q) dem
    exact ⟨s.up (listSem q) dem', by rw [List.foldl_cons, h, sem_stage_cost]⟩

theorem sem_fold_keeps (ss : List Stg) (hss : ∀ s ∈ ss, s.keeps') : ∀ (q : Pipe) (dem : Demand),
    (sem (ss.foldl (fun p s => s.toPipe p) q) dem).2 = (sem q dem).2 := by
  induction ss with
  | nil => exact fun q dem => rfl
  | cons s ss ih =>
    intro q dem
    rw [List.foldl_cons, ih (fun s' hs' => hss s' (List.mem_cons_of_mem _ hs')), sem_stage_cost]
    have := hss s List.mem_cons_self
    cases s <;> first | rfl | exact this.elim

theorem sem_fold_noTake (ss : List Stg) (hss : ∀ s ∈ ss, s.noTake) : ∀ (q : Pipe),
    (sem (ss.foldl (fun p s => s.toPipe p) q) none).2 = (sem q none).2 := by
  induction ss with
  | nil => exact fun q => rfl
  | cons s ss ih =>
    intro q
    rw [List.foldl_cons, ih (fun s' hs' => hss s' (List.mem_cons_of_mem _ hs')), sem_stage_cost,
      Stg.up_none_of_noTake s (hss s List.mem_cons_self)]

theorem dle_takeUp (n : Nat) : ∀ dem : Demand, Dle (takeUp n dem) (some n)
  | none => Nat.le_refl _
  | some _ => Nat.min_le_left _ _

theorem cost_src_le (xs : List Int) (d : Nat) : (sem (.src xs) (some d)).2 ≤ d :=
  cost_src_min xs d ▸ Nat.min_le_left _ _

/-- whatever follows a `take n`, the part of the chain before it is asked for at most `n` items -/
theorem sem_take_cost (pre post : List Stg) (n : Nat) (xs : List Int) :
    (sem (chainPipe xs (pre ++ .take n :: post)) none).2 ≤ (sem (chainPipe xs pre) (some n)).2 := by
  unfold chainPipe
  rw [List.foldl_append, List.foldl_cons]
  obtain ⟨dem', h⟩ := sem_fold_demand post (Stg.toPipe (.take n) (pre.foldl (fun p s => s.toPipe p) (.src xs))) none
  rw [h, sem_stage_cost]
  exact cost_mono' _ _ _ (dle_takeUp n dem')

end Cb.Closed
