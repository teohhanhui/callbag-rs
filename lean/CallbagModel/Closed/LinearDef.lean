import CallbagModel.Closed.Exec
import CallbagModel.Ops.Pipeline
import CallbagModel.Props
/-!
# Linear programs: syntax, list function and THE machine — definitions shared by the driver and the theorem

`pipe!(from_iter(xs), stage₁, …, stageₙ, for_each(f))` with unary stages.  `cbdrv pipe` (Driver/PipeDrv.lean) parses a program text into
`xs : List Int` and `ss : List Stg` and runs `thenM (chainM xs ss) forEachM` against the real crate; `Closed/Sub.lean` proves
`linear_correct` about the same term, for every `xs` and `ss`.
-/
namespace Cb.Closed

/-- a unary stage of a linear program -/
inductive Stg where
  | map (f : Int → Int)
  | filter (q : Int → Bool)
  | scan (r : Int → Int → Int) (seed : Int)
  | take (n : Nat)
  | skip (n : Nat)

/-- the list function of a stage -/
def Stg.fn : Stg → List Int → List Int
  | .map f => List.map f
  | .filter q => List.filter q
  | .scan r seed => scanF r seed
  | .take n => List.take n
  | .skip n => List.drop n

/-- the operator machine of a stage, as `toAnyM` (Driver/PipeDrv.lean) builds it -/
def Stg.toM : Stg → AnyM
  | .map f => relayM (Relay.map f)
  | .filter q => relayM (Relay.filter q)
  | .scan r seed => relayM (Relay.scan r seed)
  | .take n => takeM n
  | .skip n => relayM (Relay.skip n)

/-- the machine of `pipe!(from_iter(xs), ss…)`: left-nested, as the driver builds it -/
def chainM (xs : List Int) (ss : List Stg) : AnyM := ss.foldl (fun A s => thenM A s.toM) (srcM xs)

/-- the list function of the stages `ss`, applied to the input -/
def chainFn (ss : List Stg) (xs : List Int) : List Int := ss.foldl (fun l s => s.fn l) xs

/-- the syntax (`Ops/Pipeline.lean`) of a stage applied to a pipeline -/
def Stg.toPipe : Stg → Pipe → Pipe
  | .map f => Pipe.map f
  | .filter q => Pipe.filter q
  | .scan r seed => Pipe.scan r seed
  | .take n => Pipe.take n
  | .skip n => Pipe.skip n

/-- the program `pipe!(from_iter(xs), ss…)` as syntax -/
def chainPipe (xs : List Int) (ss : List Stg) : Pipe := ss.foldl (fun p s => s.toPipe p) (Pipe.src xs)

end Cb.Closed
