import CallbagModel.Closed.Prog2Def
/-!
# Programs with n-ary `concat!`: syntax, the machine, the syntax of `Ops/Pipeline.lean` — definitions only

`Prog3` = `Prog2` + `concatN ps` (a list of members).  `Prog3.toM` builds exactly the terms of the driver (`Driver/PipeDrv.lean`):
`plugM 0 p.toM (plugM 1 q.toM concat2M)` for the binary `concat2 p q`, and `concatM (ps.map toM)` (`Closed/Exec.lean`: every member plugged
into the n-ary concat machine, slot 0 first) for `concatN ps` — `Prog3.toMs ps = ps.map Prog3.toM` (`toMs_eq_map`), and the defining
equation `(concatN ps).toM = concatM (toMs ps)` holds by `rfl`.  The proofs (`Closed/Prog3Wide.lean`, `Closed/Prog3.lean`) are not imported here.
-/
namespace Cb.Closed

inductive Prog3 where
  | src (xs : List Int)
  | stage (s : Stg) (p : Prog3)
  | concat2 (p q : Prog3)
  | concatN (ps : List Prog3)
  | flatRep (k : Nat) (p : Prog3)

mutual
def Prog3.toM : Prog3 → AnyM
  | .src xs => srcM xs
  | .stage s p => thenM p.toM s.toM
  | .concat2 p q => plugM 0 p.toM (plugM 1 q.toM concat2M)
  | .concatN ps => concatM (Prog3.toMs ps)
  | .flatRep k p => flatM k p.toM
def Prog3.toMs : List Prog3 → List AnyM
  | [] => []
  | p :: ps => p.toM :: Prog3.toMs ps
end

theorem Prog3.toMs_eq_map (ps : List Prog3) : Prog3.toMs ps = ps.map Prog3.toM := by
  induction ps with
  | nil => rfl
  | cons p ps ih => simp [Prog3.toMs, ih]

mutual
/-- the program as syntax of `Ops/Pipeline.lean`; an n-ary `concat!` is the right-nested binary one (as in the driver) -/
def Prog3.toPipe : Prog3 → Pipe
  | .src xs => Pipe.src xs
  | .stage s p => s.toPipe p.toPipe
  | .concat2 p q => Pipe.concat p.toPipe q.toPipe
  | .concatN ps => Prog3.toPipes ps
  | .flatRep k p => Pipe.flatMap (fun a => Pipe.src (rangeFrom a k)) p.toPipe
def Prog3.toPipes : List Prog3 → Pipe
  | [] => Pipe.src []
  | [p] => p.toPipe
  | p :: q :: ps => Pipe.concat p.toPipe (Prog3.toPipes (q :: ps))
end

/-- `from_iter(xs)` followed by unary stages -/
def Prog3.linear : Prog3 → Prop
  | .src _ => True
  | .stage _ p => p.linear
  | _ => False

mutual
/-- the side condition: every `take n` has `0 < n`, the argument of every `flatRep` is linear, every `concatN` has a member -/
def Prog3.ok : Prog3 → Prop
  | .src _ => True
  | .stage s p => (∀ n, s = .take n → 0 < n) ∧ p.ok
  | .concat2 p q => p.ok ∧ q.ok
  | .concatN ps => ps ≠ [] ∧ Prog3.oks ps
  | .flatRep _ p => p.linear ∧ p.ok
def Prog3.oks : List Prog3 → Prop
  | [] => True
  | p :: ps => p.ok ∧ Prog3.oks ps
end

end Cb.Closed
