import CallbagModel.Closed.RelayPipe
import CallbagModel.Ops.Take
import CallbagModel.Inv.ComposeCost
/-!
# End-to-end laziness of the closed pull pipeline `pipe!(from_iter(it), take(max), for_each(f))`

The three operator machines are composed (`compose`) into ONE closed machine whose only boundary events are the application
`for_each(f)(source)` (`subscribe 0`), the applications of the closure `f` (`app b`) and the closure returning.  Theorems:
`f` is applied exactly to the first `max` items, in order, and the iterator is advanced exactly `max` times (no read-ahead) when it
has at least `max` items — it may be infinite — and `length + 1` times when it ends early; the pipeline never panics and always
runs into an environment turn (it terminates).

The proof has the shape of `Closed/RelayPipe.lean`, whose step lemmas it uses: the runs between two boundary events are equations
about `advance`, evaluated where the frame is closed; the steps that wait for a hypothesis are `*res = iter.next()` and take's
three tests of `taken` against `max` (`Take.step_p0_lt` … `Take.step_d3_ne` of `Inv/Take.lean`).

The bound on the iterator's advances at EVERY configuration (`nexts_le_max`, `nexts_le_len`) is not part of that invariant: it is what
`Inv/ComposeCost.lean` says of `from_iter` — at most `d` advances under a sink that obeys the demand `some d`, which `take(max)` does
with `d = max` whatever its own sink does; at most `length + 1` in any case — projected through the two `compose`s.
-/

namespace Cb.Closed.TakeP

/-- the payloads of the closure applications in a boundary trace (traces are newest-first), in chronological order -/
def apps {α β : Type} (tr : List (Ev α β)) : List β :=
  tr.reverse.filterMap (fun e => match e with | .out (.app b) => some b | _ => none)

/-- the iterator `next, it` yields at least the items `xs` (and possibly more: it may be infinite) -/
inductive Yields {ι α : Type} (next : ι → Option (α × ι)) : ι → List α → Prop
  | nil {it} : Yields next it []
  | cons {it a it' xs} : next it = some (a, it') → Yields next it' xs → Yields next it (a :: xs)
inductive Unfolds {ι α : Type} (next : ι → Option (α × ι)) : ι → List α → Prop
  | nil {it} : next it = none → Unfolds next it []
  | cons {it a it' xs} : next it = some (a, it') → Unfolds next it' xs → Unfolds next it (a :: xs)

abbrev takePipe {ι α : Type} (next : ι → Option (α × ι)) (it0 : ι) (max : Nat) :=
  compose (compose (FromIter.machine Unit next it0) (Take.machine α max)) (ForEach.machine α)

/-! ## `apps`: the lemmas of `Closed.apps`, which is the same function -/

@[simp] theorem apps_nil {α β : Type} : apps ([] : List (Ev α β)) = [] := rfl
theorem apps_app {α β : Type} (b : β) (tr : List (Ev α β)) : apps (.out (.app b) :: tr) = apps tr ++ [b] := Closed.apps_app b tr

theorem apps_retE {α β : Type} (tr : List (Ev α β)) : apps (.retE :: tr) = apps tr := Closed.apps_retE tr
theorem apps_retO {α β : Type} (tr : List (Ev α β)) : apps (.retO :: tr) = apps tr := Closed.apps_retO tr

theorem Unfolds.yields {ι α : Type} {next : ι → Option (α × ι)} {it : ι} {xs : List α} (h : Unfolds next it xs) : Yields next it xs := by
  induction h with
  | nil _ => exact .nil
  | cons h _ ih => exact .cons h ih

theorem Unfolds.toClosed {ι α : Type} {next : ι → Option (α × ι)} {it : ι} {xs : List α} (h : Unfolds next it xs) :
    Closed.Unfolds next it xs := by
  induction h with
  | nil h => exact .nil h
  | cons h _ ih => exact .cons h ih

theorem Unfolds.tail {ι α : Type} {next : ι → Option (α × ι)} {it it' : ι} {a a' : α} {xs : List α}
    (h : Unfolds next it (a :: xs)) (hn : next it = some (a', it')) : Unfolds next it' xs := by
  cases h with
  | cons h1 h2 => rw [hn] at h1; cases h1; exact h2

abbrev PSt (ι α : Type) := (FromIter.St ι α × Take.St) × ForEach.St
abbrev ILoc (α : Type) := List (CFr FromIter.Loc (Take.Loc α))
abbrev PLoc (α : Type) := List (CFr (ILoc α) (ForEach.Loc α))

/-- the component frames below a closure call: for_each's `Pull` after `f` returns; take's test after its delivery, from_iter's loop,
the rest of take's `Pull` handler; the rest of for_each's greeting handler; and the three handshakes -/
def midFrames {α : Type} (j : Nat) : PLoc α :=
  [.hi .pull, .lo [.hi (.d3 j), .lo .w0, .hi .done], .hi .done, .lo [.hi .done, .lo .done, .hi .done], .hi .done]

/-- the monitor's phases once the pipeline has been started: the composite's only sink slot is `for_each`'s, which is never greeted -/
def ph1 : Ph := { sink := [.subscribed] }

variable {ι α : Type}

/-- the environment-turn configurations of the pipeline: before the start; inside the application of `f` to the `j`-th item; finished -/
inductive Inv (next : ι → Option (α × ι)) (it0 : ι) (max : Nat) (xs : List α) : Sys (PSt ι α) (PLoc α) Unit α → Prop
  | init : Inv next it0 max xs (Sys.init (takePipe next it0 max))
  | mid (j : Nat) (pre rest : List α) (it : ι) (b : α) (g : G) (tr : List (Ev Unit α)) :
      pre.length = j → g.ph = ph1 → apps tr = pre → xs = pre ++ rest → Yields next it rest → (xs.length < max → Unfolds next it rest) →
      Inv next it0 max xs
        ⟨(({ it := it, res := none, nexts := j, inLoop := true, gotPull := false, completed := false, resDone := false },
           { taken := j, tb := true, fin := false }), { tb := true }),
         [.wait (.app b) (midFrames j)], g, tr, none⟩
  | fin (st : PSt ι α) (g : G) (tr : List (Ev Unit α)) :
      g.ph = ph1 → tr ≠ [] → apps tr = xs → st.1.1.nexts = min max (xs.length + 1) →
      Inv next it0 max xs ⟨st, [], g, tr, none⟩

theorem inv_turn {next : ι → Option (α × ι)} {it0 : ι} {max : Nat} {xs : List α} {s} (h : Inv next it0 max xs s) : EnvTurn s := by
  cases h <;> exact ⟨rfl, rfl⟩

/-- the continuation of the original `subscribe` -/
def K : PLoc α := [.hi .done, .lo [.hi .done, .lo .done, .hi .done], .hi .done]
/-- control is at `if taken == max`, after take's delivery has returned; `midFrames j = .hi .pull :: testFrames j` -/
def testFrames (j : Nat) : PLoc α := .lo [.hi (.d3 j), .lo .w0, .hi .done] :: K
/-- control is at `*res = iter.next()` in from_iter's `while` loop -/
def Lw : PLoc α := .lo [.lo .w3, .hi .done] :: K

/-- from_iter is in its loop after `j` items, all of which take has passed on -/
def loopSt (it : ι) (j : Nat) (gotPull : Bool) : PSt ι α :=
  ((⟨it, none, j, true, gotPull, false, false⟩, ⟨j, true, false⟩), ⟨true⟩)

variable (next : ι → Option (α × ι)) (it0 : ι) (max : Nat)

/-- `take(0)`: the first `Pull` of for_each is not passed on and the application returns -/
theorem init_zero (g : G) (tr : List (Ev Unit α)) :
    advance (takePipe next it0 0) 13 ⟨(takePipe next it0 0).init, [.run ((takePipe next it0 0).enter (.subscribe 0))], g, tr, none⟩
      = ⟨((⟨it0, none, 0, false, false, false, false⟩, ⟨0, true, false⟩), ⟨true⟩), [], g.onRetO 0, .retO :: tr, none⟩ :=
  rfl

theorem init_seg (h : 0 < max) (g : G) (tr : List (Ev Unit α)) :
    advance (takePipe next it0 max) 17
        ⟨(takePipe next it0 max).init, [.run ((takePipe next it0 max).enter (.subscribe 0))], g, tr, none⟩
      = ⟨loopSt it0 0 false, [.run Lw], g, tr, none⟩ :=
  (rfl : _ = advance (takePipe next it0 max) 10
      ⟨((⟨it0, none, 0, false, false, false, false⟩, ⟨0, true, false⟩), ⟨true⟩), [.run (.lo [.hi .p0] :: K)], g, tr, none⟩).trans <|
    (advance_tau (compose_lo_tau (compose_hi_tau (Take.step_p0_lt h))) 9 ..).trans rfl

/-- `f` has returned, for_each pulls, take passes the `Pull` on, from_iter (in its loop) notes it -/
theorem pull_lt {j : Nat} (h : j < max) (it : ι) (g : G) (tr : List (Ev Unit α)) :
    advance (takePipe next it0 max) 8 ⟨loopSt it j false, [.run (midFrames j)], g, tr, none⟩
      = ⟨loopSt it j true, [.run (testFrames j)], g, tr, none⟩ :=
  (advance_tau (compose_hi_srcUp ForEach.step_pull) 7 ..).trans <|
    (advance_tau (compose_lo_tau (compose_hi_tau (Take.step_p0_lt h))) 6 ..).trans rfl

/-- … or does not pass it on -/
theorem pull_ge {j : Nat} (h : ¬ j < max) (it : ι) (g : G) (tr : List (Ev Unit α)) :
    advance (takePipe next it0 max) 3 ⟨loopSt it j false, [.run (midFrames j)], g, tr, none⟩
      = ⟨loopSt it j false, [.run (testFrames j)], g, tr, none⟩ :=
  (advance_tau (compose_hi_srcUp ForEach.step_pull) 2 ..).trans <|
    (advance_tau (compose_lo_ret (compose_hi_ret_last (Take.step_p0_ge h))) 1 ..).trans rfl

theorem test_ne {j : Nat} (h : j ≠ max) (it : ι) (g : G) (tr : List (Ev Unit α)) :
    advance (takePipe next it0 max) 4 ⟨loopSt it j true, [.run (testFrames j)], g, tr, none⟩
      = ⟨loopSt it j false, [.run Lw], g, tr, none⟩ :=
  (advance_tau (compose_lo_tau (compose_hi_ret (Take.step_d3_ne h _))) 3 ..).trans rfl

/-- the `max`-th item has been delivered: take terminates from_iter and for_each, and the application returns -/
theorem test_eq (it : ι) (g : G) (tr : List (Ev Unit α)) :
    advance (takePipe next it0 max) 19 ⟨loopSt it max false, [.run (testFrames max)], g, tr, none⟩
      = ⟨((⟨it, none, max, false, false, true, false⟩, ⟨max, true, true⟩), ⟨true⟩), [], g.onRetO 0, .retO :: tr, none⟩ :=
  (advance_tau (compose_lo_tau (compose_hi_tau (Take.step_d3_eq _))) 18 ..).trans rfl

theorem iter_emit {j : Nat} (h : j < max) {it it' : ι} {a : α} (hn : next it = some (a, it')) (g : G) (tr : List (Ev Unit α)) :
    advance (takePipe next it0 max) 5 ⟨loopSt it j false, [.run Lw], g, tr, none⟩
      = ⟨loopSt it' (j + 1) false, [.wait (.app a) (midFrames (j + 1))],
          g.onOut (takePipe next it0 max).shape (.app a), .out (.app a) :: tr, none⟩ :=
  (advance_next_some 3 (hn := hn) ..).trans <|
    (advance_tau (compose_lo_tau (compose_hi_tau (Take.step_d0_lt h))) 2 ..).trans rfl

theorem iter_end (j : Nat) {it : ι} (hn : next it = none) (g : G) (tr : List (Ev Unit α)) :
    advance (takePipe next it0 max) 13 ⟨loopSt it j false, [.run Lw], g, tr, none⟩
      = ⟨((⟨it, none, j + 1, false, false, false, true⟩, ⟨j, true, false⟩), ⟨true⟩), [], g.onRetO 0, .retO :: tr, none⟩ :=
  (advance_next_none 11 (hn := hn) ..).trans rfl

variable (xs : List α)

/-- from `*res = iter.next()`, with fewer than `max` items delivered, into the next application of `f` or, if the iterator ends,
to the end -/
theorem inv_of_loop (pre rest : List α) (it : ι) (g : G) (tr : List (Ev Unit α))
    (hlt : pre.length < max) (hg : g.ph = ph1) (htr : apps tr = pre) (hxs : xs = pre ++ rest) (hyr : Yields next it rest)
    (hur : xs.length < max → Unfolds next it rest) :
    ∃ n, Inv next it0 max xs (advance (takePipe next it0 max) n ⟨loopSt it pre.length false, [.run Lw], g, tr, none⟩) := by
  cases hyr with
  | nil =>
    rw [List.append_nil] at hxs
    cases hur (hxs ▸ hlt) with
    | nil hn =>
      refine ⟨13, ?_⟩
      rw [iter_end next it0 max _ hn]
      exact .fin _ _ _ ((onRetO_ph g 0).trans hg) (List.cons_ne_nil _ _) (by rw [apps_retO, htr, hxs])
        (by simp only [hxs]; omega)
  | @cons _ a it' rest' hnx hyr' =>
    refine ⟨5, ?_⟩
    rw [iter_emit next it0 max hlt hnx]
    exact .mid _ (pre ++ [a]) rest' it' a _ _ (by rw [List.length_append]; rfl) ((onOut_ph _ g _).trans hg)
      (by rw [apps_app, htr]) (by rw [hxs, List.append_assoc]; rfl) hyr'
      (fun h => (hur h).tail hnx)

theorem inv_step (hy : Yields next it0 xs) (hle : xs.length ≤ max) (hu : xs.length < max → Unfolds next it0 xs)
    (s s' : Sys (PSt ι α) (PLoc α) Unit α) (m : Move Unit) (hi : Inv next it0 max xs s) (he : EnvStep (takePipe next it0 max) m s s') :
    ∃ n, Inv next it0 max xs (advance (takePipe next it0 max) n s') := by
  cases hi with
  | init =>
    obtain ⟨_, rfl⟩ := envStep_init rfl he rfl rfl
    dsimp only [Sys.init]
    have hg := onIn_subscribe_ph (α := Unit) {} rfl 0
    rcases Nat.eq_zero_or_pos max with rfl | hmax
    · cases List.eq_nil_of_length_eq_zero (Nat.le_zero.1 hle)
      exact ⟨13, by rw [init_zero]; exact .fin _ _ _ ((onRetO_ph _ 0).trans hg) (List.cons_ne_nil _ _) rfl rfl⟩
    · obtain ⟨n, hn⟩ := inv_of_loop next it0 max xs [] xs it0 _ [.inp (.subscribe 0)] hmax hg rfl rfl hy hu
      exact ⟨17 + n, by rw [advance_add, init_seg next it0 max hmax]; exact hn⟩
  | mid j pre rest it b g tr hpl hg htr hxs hyr hur =>
    obtain ⟨_, o, l, stk, hstk, rfl⟩ := envStep_ph1 rfl he hg
    cases hstk
    subst hpl
    show ∃ n, Inv next it0 max xs (advance _ n ⟨loopSt it pre.length false, [.run (midFrames pre.length)], g, .retE :: tr, none⟩)
    by_cases hj : pre.length < max
    · obtain ⟨n, hn⟩ := inv_of_loop next it0 max xs pre rest it g (.retE :: tr) hj hg (by rw [apps_retE, htr]) hxs hyr hur
      refine ⟨8 + (4 + n), ?_⟩
      rw [advance_add, advance_add, pull_lt next it0 max hj, test_ne next it0 max (Nat.ne_of_lt hj)]
      exact hn
    · have hlen : pre.length + rest.length ≤ max := by rw [hxs, List.length_append] at hle; exact hle
      have hmax : pre.length = max := by omega
      cases List.eq_nil_of_length_eq_zero (by omega : rest.length = 0)
      rw [List.append_nil] at hxs
      refine ⟨3 + 19, ?_⟩
      rw [advance_add, pull_ge next it0 max hj, hmax, test_eq]
      exact .fin _ _ _ ((onRetO_ph g 0).trans hg) (List.cons_ne_nil _ _) (by rw [apps_retO, apps_retE, htr, hxs])
        (by simp only [hxs]; omega)
  | fin st g tr hg htr hap hn =>
    obtain ⟨_, _, _, _, hstk, _⟩ := envStep_ph1 rfl he hg
    cases hstk

theorem inv_init (next : ι → Option (α × ι)) (it0 : ι) (max : Nat) (xs : List α) :
    Inv next it0 max xs (Sys.init (takePipe next it0 max)) := .init

theorem reach_inv (hy : Yields next it0 xs) (hle : xs.length ≤ max) (hu : xs.length < max → Unfolds next it0 xs) :
    ∀ s, SReach (takePipe next it0 max) s → ∃ n, Inv next it0 max xs (advance (takePipe next it0 max) n s) :=
  reach_runs_into_inv (takePipe next it0 max) anyEnv (Inv next it0 max xs) .init (fun _ h => inv_turn h)
    (fun s s' m hi he _ => inv_step next it0 max xs hy hle hu s s' m hi he)

section
open ComposeCost FlatPlugFun

theorem nexts_le_max : ∀ s, SReach (takePipe next it0 max) s → s.st.1.1.nexts ≤ max :=
  bound_compose (nx := fun st : FromIter.St ι α × Take.St => st.1.nexts)
    (hyp_of_roles ((FromIter.upSide next it0).compose' (Take.pipeable max)) ForEach.downSide)
    (fun s hs => HeadUpD.stage (FromIter.headUpD next it0) (hyp_of_roles (FromIter.upSide next it0) (Take.pipeable max).downSide)
      (FromIter.pullOnly next it0) (fun ys => Take.stageDem max ys) none max rfl s hs (demOk_none _))

theorem nexts_le_len {xs : List α} (hx : Closed.Unfolds next it0 xs) :
    ∀ s, SReach (takePipe next it0 max) s → s.st.1.1.nexts ≤ xs.length + 1 :=
  bound_compose (nx := fun st : FromIter.St ι α × Take.St => st.1.nexts)
    (hyp_of_roles ((FromIter.upSide next it0).compose' (Take.pipeable max)) ForEach.downSide)
    (bound_compose (nx := fun st : FromIter.St ι α => st.nexts)
      (hyp_of_roles (FromIter.upSide next it0) (Take.pipeable max).downSide) (fi_nexts_le next it0 xs hx))

end

/-- what holds of EVERY reachable configuration (also in the middle of the operators' handlers) -/
def Always (xs : List α) (s : Sys (PSt ι α) (PLoc α) Unit α) : Prop :=
  s.panicked = none ∧ apps s.tr <+: xs

theorem always_of_inv {next : ι → Option (α × ι)} {it0 : ι} {max : Nat} {xs : List α} {s}
    (h : Inv next it0 max xs s) : Always xs s := by
  cases h with
  | init => exact ⟨rfl, List.nil_prefix⟩
  | mid j pre rest it b g tr hpl hg htr hxs hyr hur => exact ⟨rfl, ⟨rest, by rw [htr, hxs]⟩⟩
  | fin st g tr hg htr hap hn => exact ⟨rfl, by rw [hap]; exact List.prefix_refl _⟩

theorem always_mono (a b : Sys (PSt ι α) (PLoc α) Unit α) (hab : opStep (takePipe next it0 max) a = some b) (hb : Always xs b) :
    Always xs a :=
  ⟨(opStep_ghost _ a b hab).2.2 hb.1, (apps_prefix_of_opStep _ a b hab).trans hb.2⟩

theorem reach_always (hy : Yields next it0 xs) (hle : xs.length ≤ max) (hu : xs.length < max → Unfolds next it0 xs) :
    ∀ s, SReach (takePipe next it0 max) s → Always xs s :=
  reach_of_macro_inv (takePipe next it0 max) anyEnv (Always xs) (Inv next it0 max xs) .init
    (fun _ h => ⟨inv_turn h, always_of_inv h⟩)
    (fun s s' m hi he _ => inv_step next it0 max xs hy hle hu s s' m hi he)
    (always_mono next it0 max xs)

theorem reach_top (hy : Yields next it0 xs) (hle : xs.length ≤ max) (hu : xs.length < max → Unfolds next it0 xs) :
    ∀ s, SReach (takePipe next it0 max) s → s.stack = [] → s.tr ≠ [] →
      apps s.tr = xs ∧ s.st.1.1.nexts = min max (xs.length + 1) := by
  intro s hs hstk htr
  have hp := (reach_always next it0 max xs hy hle hu s hs).1
  obtain ⟨n, hn⟩ := reach_inv next it0 max xs hy hle hu s hs
  rw [advance_of_envTurn (envTurn_of_top hp hstk)] at hn
  cases hn with
  | init => exact absurd rfl htr
  | mid j pre rest it b g tr hpl hg htr hxs hyr hur => cases hstk
  | fin st g tr hg htr hap hn => exact ⟨hap, hn⟩

/-- LAZINESS. The iterator has at least `max` items (possibly infinitely many), `xs` are its first `max` items.  Then in every
reachable configuration — every micro-step of every handler — nothing has panicked, the closure `f` has been applied to a prefix of
`xs` in order, and the iterator has been advanced at most `max` times; and whenever control is back at top level after the
application `for_each(f)(source)`, `f` has been applied to exactly `xs` and the iterator has been advanced EXACTLY `max` times: the item
after the `max`-th is never requested. -/
theorem takePipe_lazy (next : ι → Option (α × ι)) (it0 : ι) (max : Nat) (xs : List α)
    (hy : Yields next it0 xs) (hl : xs.length = max) :
    (∀ s, SReach (takePipe next it0 max) s →
      s.panicked = none ∧ (∃ m, apps s.tr = xs.take m) ∧ s.st.1.1.nexts ≤ max) ∧
    (∀ s, SReach (takePipe next it0 max) s → s.stack = [] → s.tr ≠ [] → apps s.tr = xs ∧ s.st.1.1.nexts = max) := by
  have hle : xs.length ≤ max := by omega
  have hu : xs.length < max → Unfolds next it0 xs := fun h => by omega
  refine ⟨fun s hs => ?_, fun s hs h1 h2 => ?_⟩
  · obtain ⟨hp, hm⟩ := reach_always next it0 max xs hy hle hu s hs
    exact ⟨hp, ⟨_, List.prefix_iff_eq_take.1 hm⟩, nexts_le_max next it0 max s hs⟩
  · obtain ⟨ha, hn⟩ := reach_top next it0 max xs hy hle hu s hs h1 h2
    exact ⟨ha, by omega⟩

/-- The iterator ends early: it has exactly the items `xs`, fewer than `max`.  `f` is applied to exactly `xs`, and the iterator is
advanced `xs.length + 1` times (the last call returns `None`); no panic anywhere. -/
theorem takePipe_short (next : ι → Option (α × ι)) (it0 : ι) (max : Nat) (xs : List α)
    (hx : Unfolds next it0 xs) (hl : xs.length < max) :
    (∀ s, SReach (takePipe next it0 max) s →
      s.panicked = none ∧ (∃ m, apps s.tr = xs.take m) ∧ s.st.1.1.nexts ≤ xs.length + 1) ∧
    (∀ s, SReach (takePipe next it0 max) s → s.stack = [] → s.tr ≠ [] →
      apps s.tr = xs ∧ s.st.1.1.nexts = xs.length + 1) := by
  have hle : xs.length ≤ max := by omega
  refine ⟨fun s hs => ?_, fun s hs h1 h2 => ?_⟩
  · obtain ⟨hp, hm⟩ := reach_always next it0 max xs hx.yields hle (fun _ => hx) s hs
    exact ⟨hp, ⟨_, List.prefix_iff_eq_take.1 hm⟩, nexts_le_len next it0 max hx.toClosed s hs⟩
  · obtain ⟨ha, hn⟩ := reach_top next it0 max xs hx.yields hle (fun _ => hx) s hs h1 h2
    exact ⟨ha, by omega⟩

theorem yields_or_unfolds :
    ∃ xs, (Yields next it0 xs ∧ xs.length = max) ∨ (Unfolds next it0 xs ∧ xs.length < max) := by
  induction max generalizing it0 with
  | zero => exact ⟨[], Or.inl ⟨.nil, rfl⟩⟩
  | succ n ih =>
    cases h : next it0 with
    | none => exact ⟨[], Or.inr ⟨.nil h, Nat.succ_pos _⟩⟩
    | some p =>
      obtain ⟨a, it'⟩ := p
      obtain ⟨xs, hxs | hxs⟩ := ih it'
      · exact ⟨a :: xs, Or.inl ⟨.cons h hxs.1, congrArg (· + 1) hxs.2⟩⟩
      · exact ⟨a :: xs, Or.inr ⟨.cons h hxs.1, Nat.succ_lt_succ hxs.2⟩⟩

/-- PROGRESS, for EVERY iterator (finite or infinite) and every `max`: the pipeline never panics and every reachable configuration
runs, within finitely many operator micro-steps, into a configuration where the environment has control (inside an application of
`f`, or finished at top level); at most `max` applications of `f` happen.  So the pipeline terminates although the iterator may be
infinite. -/
theorem takePipe_progress (next : ι → Option (α × ι)) (it0 : ι) (max : Nat) :
    ∀ s, SReach (takePipe next it0 max) s →
      s.panicked = none ∧ (apps s.tr).length ≤ max ∧ ∃ n, EnvTurn (advance (takePipe next it0 max) n s) := by
  intro s hs
  obtain ⟨xs, hxs⟩ := yields_or_unfolds next it0 max
  have hy : Yields next it0 xs := hxs.elim (·.1) (·.1.yields)
  have hle : xs.length ≤ max := by rcases hxs with h | h <;> omega
  have hu : xs.length < max → Unfolds next it0 xs := by
    rcases hxs with h | h
    · intro h'; omega
    · exact fun _ => h.1
  obtain ⟨hp, hm⟩ := reach_always next it0 max xs hy hle hu s hs
  obtain ⟨n, hn⟩ := reach_inv next it0 max xs hy hle hu s hs
  exact ⟨hp, Nat.le_trans hm.length_le hle, n, inv_turn hn⟩

/-- play a script of environment moves, each followed by (at most) the given number of operator micro-steps -/
def play {St Loc α β : Type} (M : Machine St Loc α β) : List (Move α × Nat) → Sys St Loc α β → Sys St Loc α β
  | [], s => s
  | (m, n) :: ms, s => match envMove M s m with
    | some s' => play M ms (advance M n s')
    | none => s

theorem sReach_play {St Loc α β : Type} (M : Machine St Loc α β) (ms : List (Move α × Nat)) (s : Sys St Loc α β)
    (h : SReach M s) : SReach M (play M ms s) := by
  induction ms generalizing s with
  | nil => exact h
  | cons p ms ih =>
    obtain ⟨m, n⟩ := p
    simp only [play]
    cases he : envMove M s m with
    | none => exact h
    | some s' => exact ih _ (SReachR.advance n (.step h (.env ((envMove_iff M m s s').1 he) trivial)))

def nats (n : Nat) : Option (Nat × Nat) := some (n, n + 1)

/-- the hypotheses of `takePipe_lazy` are satisfiable by an infinite iterator -/
example : Yields nats 0 [0, 1] ∧ [0, 1].length = 2 := ⟨.cons rfl (.cons rfl .nil), rfl⟩

/-- … and the run `for_each(f)(take(2)(from_iter(0..)))`, `f(0)` returns, `f(1)` returns exists: the configuration at the end is reachable,
`f` has been applied to `0` and `1`, and the iterator stands at `2`, having been advanced twice -/
example : ∃ s, SReach (takePipe nats 0 2) s ∧ s.stack = [] ∧ s.tr ≠ [] ∧ apps s.tr = [0, 1] ∧
    s.st.1.1.nexts = 2 ∧ s.st.1.1.it = 2 ∧ s.panicked = none :=
  ⟨play (takePipe nats 0 2) [(.call (.subscribe 0), 22), (.ret, 17), (.ret, 22)] (Sys.init _),
    sReach_play _ _ _ .init, rfl, List.cons_ne_nil _ _, rfl, rfl, rfl, rfl⟩

/-- inside the second application of `f` the iterator has been advanced twice, not three times -/
example : ∃ s, SReach (takePipe nats 0 2) s ∧ (∃ l, s.stack = [.wait (.app 1) l]) ∧ apps s.tr = [0, 1] ∧ s.st.1.1.nexts = 2 :=
  ⟨play (takePipe nats 0 2) [(.call (.subscribe 0), 22), (.ret, 17)] (Sys.init _),
    sReach_play _ _ _ .init, ⟨_, rfl⟩, rfl, rfl⟩

/-- a one-item iterator under `take(3)`: `f(0)`, then the iterator is asked once more and says `None`: two advances -/
def one (n : Nat) : Option (Nat × Nat) := if n < 1 then some (n, n + 1) else none

example : Unfolds one 0 [0] ∧ [0].length < 3 := ⟨.cons rfl (.nil rfl), by decide⟩

example : ∃ s, SReach (takePipe one 0 3) s ∧ s.stack = [] ∧ s.tr ≠ [] ∧ apps s.tr = [0] ∧ s.st.1.1.nexts = 2 ∧ s.panicked = none :=
  ⟨play (takePipe one 0 3) [(.call (.subscribe 0), 22), (.ret, 25)] (Sys.init _),
    sReach_play _ _ _ .init, rfl, List.cons_ne_nil _ _, rfl, rfl, rfl⟩

end Cb.Closed.TakeP

#print axioms Cb.Closed.TakeP.takePipe_lazy
#print axioms Cb.Closed.TakeP.takePipe_short
#print axioms Cb.Closed.TakeP.takePipe_progress
