import CallbagModel.Closed.Sub
import CallbagModel.Thm.Replay
/-!
# Programs with `concat!`: the completeness clause of `prog_correct` is not vacuous — kernel-checked returned runs

`prog_correct` (`Closed/Sub.lean`) says, at every reachable configuration `s` of `thenM p.toM forEachM`,
`s.stack = [] → s.tr ≠ [] → applied s.tr = listSem p.toPipe`.  That a configuration with `s.stack = []` and `s.tr ≠ []` is REACHABLE
is `prog_nonvacuous` in general.  Here: runs the kernel has checked, for representative programs (three linear
stages with an early `take`; `concat!`; nested `concat!` under `take`, with an empty member and a `skip`; the empty program).

Method: the only environment there is makes the application (`subscribe 0`) and returns from every closure call.  `Thm.runInit`
(`Thm/Replay.lean`) replays such a list of moves with `envMove` (i.e. `legalIn`/`legalRet` — the legality of `SReach`, not the
superset `envMoveX` of `Script.runMoves`), running the operator for at most `fuel` micro-steps after each move; a successful replay
gives `SReach` (`replayStrict_sound`); the kernel evaluates the replay (`by decide`).  `returned_witness` turns a replay whose final
configuration passes the boolean test `returnedWith` into a reachable configuration with those properties.  To add a witness: `#eval`
the replay to find the number of `ret`s (one per closure call), then `returned_witness _ fuel n l (by decide)`.
-/
namespace Cb.Closed

theorem replayStrict_sound {St Loc α β : Type} (M : Machine St Loc α β) (fuel : Nat) (ms : List (Move α)) {s : Sys St Loc α β}
    (h : Thm.runInit M fuel ms = some s) : SReach M s :=
  Thm.runFuel_reach M fuel .init h

/-- the moves of the only environment of a closed program: the application, then `n` returns from closure calls -/
def closedScript (n : Nat) : List (Move Int) := .call (.subscribe 0) :: List.replicate n .ret

/-- the application has returned, something has happened, nothing panicked, `f` has been applied to exactly `l` — as a boolean
(`Frame` has no `DecidableEq`, hence `isEmpty`) -/
def returnedWith {St Loc : Type} (l : List Int) (s : Sys St Loc Int Int) : Bool :=
  s.stack.isEmpty && !s.tr.isEmpty && s.panicked.isNone && decide (applied s.tr = l)

theorem returnedWith_iff {St Loc : Type} (l : List Int) (s : Sys St Loc Int Int) :
    returnedWith l s = true ↔ s.stack = [] ∧ s.tr ≠ [] ∧ s.panicked = none ∧ applied s.tr = l := by
  simp [returnedWith, and_assoc]

theorem returned_witness (A : AnyM) (fuel n : Nat) (l : List Int)
    (h : (Thm.runInit A.M fuel (closedScript n)).map (returnedWith l) = some true) :
    ∃ s, SReach A.M s ∧ s.stack = [] ∧ s.tr ≠ [] ∧ s.panicked = none ∧ applied s.tr = l := by
  obtain ⟨s, hr, ht⟩ := Thm.witness_of_script A.M fuel (closedScript n) (returnedWith l) h
  exact ⟨s, hr, (returnedWith_iff l s).1 ht⟩

theorem listSem_of_witness (p : Prog) (hpos : p.takesPos) (l : List Int)
    (h : ∃ s, SReach (thenM p.toM forEachM).M s ∧ s.stack = [] ∧ s.tr ≠ [] ∧ s.panicked = none ∧ applied s.tr = l) :
    listSem p.toPipe = l := by
  obtain ⟨s, hr, hstk, htr, _, happ⟩ := h
  rw [← happ]; exact ((prog_correct p hpos s hr).2.2 hstk htr).symm

/-- fuel for the operator between two environment moves: no run in the examples below is longer (80 suffices) -/
abbrev fuel : Nat := 200

/-! ## (a) linear, three stages: `pipe!(from_iter(1..=6), filter(odd), scan(+, 0), take(2), for_each(f))` — `f(1)`, `f(4)`, return -/

def progA : Prog := .stage (.take 2) (.stage (.scan (· + ·) 0) (.stage (.filter (· % 2 == 1)) (.src [1, 2, 3, 4, 5, 6])))

theorem progA_returns : ∃ s, SReach (thenM progA.toM forEachM).M s ∧ s.stack = [] ∧ s.tr ≠ [] ∧ s.panicked = none ∧
    applied s.tr = [1, 4] :=
  returned_witness _ fuel 2 [1, 4] (by decide)

theorem progA_takesPos : progA.takesPos := ⟨fun n hn => (by cases hn; decide), ⟨fun n hn => (by cases hn), ⟨fun n hn => (by cases hn), trivial⟩⟩⟩

/-- derived from `prog_correct` and the witness, not computed -/
theorem progA_listSem : listSem progA.toPipe = [1, 4] := listSem_of_witness progA progA_takesPos _ progA_returns

example : listSem progA.toPipe = [1, 4] := by decide

/-! ## (b) `pipe!(concat!(from_iter([1,2]), pipe!(from_iter([3,4]), map(·*10))), for_each(f))` -/

def progB : Prog := .concat (.src [1, 2]) (.stage (.map (· * 10)) (.src [3, 4]))

theorem progB_returns : ∃ s, SReach (thenM progB.toM forEachM).M s ∧ s.stack = [] ∧ s.tr ≠ [] ∧ s.panicked = none ∧
    applied s.tr = [1, 2, 30, 40] :=
  returned_witness _ fuel 4 [1, 2, 30, 40] (by decide)

theorem progB_takesPos : progB.takesPos := ⟨trivial, ⟨fun n hn => (by cases hn), trivial⟩⟩

theorem progB_listSem : listSem progB.toPipe = [1, 2, 30, 40] := listSem_of_witness progB progB_takesPos _ progB_returns

example : listSem progB.toPipe = [1, 2, 30, 40] := by decide

/-! ## (c) nested: `pipe!(concat!(concat!(from_iter([1]), from_iter([])), pipe!(from_iter([7,8,9]), skip(1))), take(3), for_each(f))` -/

def progC : Prog := .stage (.take 3) (.concat (.concat (.src [1]) (.src [])) (.stage (.skip 1) (.src [7, 8, 9])))

theorem progC_returns : ∃ s, SReach (thenM progC.toM forEachM).M s ∧ s.stack = [] ∧ s.tr ≠ [] ∧ s.panicked = none ∧
    applied s.tr = [1, 8, 9] :=
  returned_witness _ fuel 3 [1, 8, 9] (by decide)

theorem progC_takesPos : progC.takesPos :=
  ⟨fun n hn => (by cases hn; decide), ⟨⟨trivial, trivial⟩, ⟨fun n hn => (by cases hn), trivial⟩⟩⟩

theorem progC_listSem : listSem progC.toPipe = [1, 8, 9] := listSem_of_witness progC progC_takesPos _ progC_returns

example : listSem progC.toPipe = [1, 8, 9] := by decide

/-! ## (d) the empty program `pipe!(from_iter([]), for_each(f))`: `f` is never applied, and the application returns (`s.tr ≠ []`) -/

def progD : Prog := .src []

theorem progD_returns : ∃ s, SReach (thenM progD.toM forEachM).M s ∧ s.stack = [] ∧ s.tr ≠ [] ∧ s.panicked = none ∧
    applied s.tr = [] :=
  returned_witness _ fuel 0 [] (by decide)

theorem progD_listSem : listSem progD.toPipe = [] := listSem_of_witness progD trivial _ progD_returns

end Cb.Closed

#print axioms Cb.Closed.replayStrict_sound
#print axioms Cb.Closed.returned_witness
#print axioms Cb.Closed.listSem_of_witness
#print axioms Cb.Closed.progA_returns
#print axioms Cb.Closed.progB_returns
#print axioms Cb.Closed.progC_returns
#print axioms Cb.Closed.progD_returns
#print axioms Cb.Closed.progA_listSem
