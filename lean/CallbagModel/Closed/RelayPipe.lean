import CallbagModel.Inv.Runs
import CallbagModel.Inv.FromIter
import CallbagModel.Sem
import CallbagModel.Ops.Compose
import CallbagModel.Ops.FromIter
import CallbagModel.Ops.Relay
import CallbagModel.Ops.ForEach
import CallbagModel.Spec
import CallbagModel.Fun.Relay
/-!
# The closed pull pipeline `pipe!(from_iter(it), op, for_each(f))`, end to end

`relayPipe next it0 k` = `compose (compose from_iter relay) for_each`: the three operator machines as ONE machine whose only boundary
events are the application `for_each(f)(source)` (`inp (subscribe 0)`), the closure calls (`out (app b)`) and their returns.
The environment can do nothing else (`env_moves`): nothing is ever greeted or subscribed at the boundary.

Proof: the environment-turn configurations are (A) initial, (B) inside a closure call — stack `[wait (app b) WB]`, from_iter in its
`while` loop with `got_pull = false` — and (C) finished.  All micro-steps between two boundary events are internal (`tau`), so the
ghost and the trace are untouched.  The runs between them are equations about `advance` (`init_seg`, `pull_seg`, `iter_emit`,
`iter_drop`, `iter_end`): a segment on a closed frame is evaluated (`rfl`); the steps that depend on a hypothesis (what `next` or
`xfer` returns) are peeled off first with `advance_tau`, fed by the component's action through the `compose_*` lemmas.  `loop_runs`
glues them by induction on the remaining items of the iterator (a slotted relay may drop arbitrarily many in a row: its re-`Pull`
re-enters from_iter, which only sets `got_pull` because `in_loop`, and returns into the loop).
-/

namespace Cb

section
variable {ι α α' β γ S2 L2 S3 L3 : Type} {next : ι → Option (α × ι)} {it0 it it' : ι} {a : α}
  {M2 : Machine S2 L2 α β} {M3 : Machine S3 L3 β γ}
  (n : Nat) (r : Option α) (c : Nat) (il gp cp rd : Bool) (s2 : S2) (s3 : S3)
  (r1 : List (CFr FromIter.Loc L2)) (r2 : List (CFr (List (CFr FromIter.Loc L2)) L3))
  (stk : List (Frame (List (CFr (List (CFr FromIter.Loc L2)) L3)) γ)) (g : G) (tr : List (Ev α' γ))

theorem advance_next_some (hn : next it = some (a, it')) :
    advance (compose (compose (FromIter.machine α' next it0) M2) M3) (n + 2)
        ⟨((⟨it, r, c, il, gp, cp, rd⟩, s2), s3), .run (.lo (.lo .w3 :: r1) :: r2) :: stk, g, tr, none⟩
      = advance (compose (compose (FromIter.machine α' next it0) M2) M3) n ⟨((⟨it', none, c + 1, il, gp, cp, false⟩, s2), s3),
          .run (.lo (.hi (M2.enter (.srcDown 0 (.data a))) :: .lo .w0 :: r1) :: r2) :: stk, g, tr, none⟩ :=
  (advance_tau (compose_lo_tau (compose_lo_tau (FromIter.step_w3_some hn))) ..).trans
    (advance_tau (compose_lo_tau (compose_lo_down FromIter.step_w4_some)) ..)

theorem advance_next_none (hn : next it = none) :
    advance (compose (compose (FromIter.machine α' next it0) M2) M3) (n + 2)
        ⟨((⟨it, r, c, il, gp, cp, rd⟩, s2), s3), .run (.lo (.lo .w3 :: r1) :: r2) :: stk, g, tr, none⟩
      = advance (compose (compose (FromIter.machine α' next it0) M2) M3) n ⟨((⟨it, none, c + 1, il, gp, cp, true⟩, s2), s3),
          .run (.lo (.hi (M2.enter (.srcDown 0 .term)) :: .lo .lend :: r1) :: r2) :: stk, g, tr, none⟩ :=
  (advance_tau (compose_lo_tau (compose_lo_tau (FromIter.step_w3_none hn))) ..).trans
    (advance_tau (compose_lo_tau (compose_lo_down FromIter.step_w4_none)) ..)

end
end Cb

namespace Cb.Closed

/-- the payloads of the closure applications in a boundary trace (traces are newest-first), in chronological order -/
def apps {α β : Type} (tr : List (Ev α β)) : List β :=
  tr.reverse.filterMap (fun e => match e with | .out (.app b) => some b | _ => none)

inductive Unfolds {ι α : Type} (next : ι → Option (α × ι)) : ι → List α → Prop
  | nil {it} : next it = none → Unfolds next it []
  | cons {it a it' xs} : next it = some (a, it') → Unfolds next it' xs → Unfolds next it (a :: xs)

theorem iterList_prefix {ι α : Type} {next : ι → Option (α × ι)} {it : ι} {xs : List α} (hx : Unfolds next it xs) :
    ∀ n, iterList next n it <+: xs := by
  induction hx with
  | nil h => intro n; cases n <;> simp [iterList, h]
  | cons h _ ih =>
    intro n
    cases n with
    | zero => simp [iterList]
    | succ n => simp only [iterList, h]; exact (List.cons_prefix_cons).2 ⟨rfl, ih n⟩

theorem iterList_complete {ι α : Type} {next : ι → Option (α × ι)} {it0 : ι} {xs : List α} (hx : Unfolds next it0 xs) :
    ∀ n it, iterAfter next n it0 = some it → next it = none → iterList next n it0 = xs := by
  induction hx with
  | nil h =>
    intro n it ha hn
    cases n with
    | zero => rfl
    | succ n => simp [iterAfter, h] at ha
  | cons h _ ih =>
    intro n it ha hn
    cases n with
    | zero => simp [iterAfter] at ha; subst ha; rw [h] at hn; cases hn
    | succ n =>
      simp only [iterAfter, h] at ha
      simp only [iterList, h, ih n it ha hn]

abbrev relayPipe {ι σ α β : Type} (next : ι → Option (α × ι)) (it0 : ι) (k : Relay.Kind σ α β) :=
  compose (compose (FromIter.machine Unit next it0) (Relay.machine k)) (ForEach.machine β)

variable {ι σ α β : Type}

abbrev PSt (ι σ α : Type) := (FromIter.St ι α × Relay.St σ) × ForEach.St
abbrev ILoc (α β : Type) := List (CFr FromIter.Loc (Relay.Loc α β))
abbrev PLoc (α β : Type) := List (CFr (ILoc α β) (ForEach.Loc β))
abbrev PSys (ι σ α β : Type) := Sys (PSt ι σ α) (PLoc α β) Unit β

/-- the continuation of the original `subscribe`: for_each `sub0`'s, the relay's greeting/`sub0`, from_iter `sub0`'s -/
def K : PLoc α β := [.hi .done, .lo [.hi .done, .lo .done, .hi .done], .hi .done]
/-- control is at `*res = iter.next()` in from_iter's `while` loop, which runs inside the first `Pull` of for_each -/
def Lw : PLoc α β := .lo [.lo .w3, .hi .done] :: K
/-- the continuation of a closure call -/
def WB : PLoc α β := .hi .pull :: .lo [.hi .done, .lo .w0, .hi .done] :: K

-- in the loop, `got_pull` consumed: the state inside a closure call and also at `*res = iter.next()`
def waitSt (it : ι) (c : Nat) (sl : Bool) (priv : σ) : PSt ι σ α :=
  ((⟨it, none, c, true, false, false, false⟩, ⟨sl, priv⟩), ⟨true⟩)
def endSt (it : ι) (c : Nat) (sl : Bool) (priv : σ) : PSt ι σ α :=
  ((⟨it, none, c, false, false, false, true⟩, ⟨sl, priv⟩), ⟨true⟩)

variable (next : ι → Option (α × ι)) (it0 : ι) (k : Relay.Kind σ α β)

theorem init_seg (g : G) (tr : List (Ev Unit β)) :
    advance (relayPipe next it0 k) 16 ⟨(relayPipe next it0 k).init, [.run ((relayPipe next it0 k).enter (.subscribe 0))], g, tr, none⟩
      = ⟨waitSt it0 0 k.slotted k.seed, [.run Lw], g, tr, none⟩ := by
  obtain ⟨sl, seed, xfer⟩ := k
  cases sl <;> rfl

theorem pull_seg (it : ι) (c : Nat) (priv : σ) (g : G) (tr : List (Ev Unit β)) :
    advance (relayPipe next it0 k) 11 ⟨waitSt it c k.slotted priv, [.run WB], g, tr, none⟩
      = ⟨waitSt it c k.slotted priv, [.run Lw], g, tr, none⟩ := by
  obtain ⟨sl, seed, xfer⟩ := k
  cases sl <;> rfl

theorem iter_emit (it it' : ι) (a : α) (b : β) (c : Nat) (sl : Bool) (priv : σ) (g : G) (tr : List (Ev Unit β))
    (hn : next it = some (a, it')) (hx : (k.xfer priv a).2 = some b) :
    advance (relayPipe next it0 k) 5 ⟨waitSt it c sl priv, [.run Lw], g, tr, none⟩
      = ⟨waitSt it' (c + 1) sl (k.xfer priv a).1, [.wait (.app b) WB],
          g.onOut (relayPipe next it0 k).shape (.app b), .out (.app b) :: tr, none⟩ :=
  (advance_next_some 3 (hn := hn) ..).trans <|
    (advance_tau (compose_lo_tau (compose_hi_tau (Relay.step_d0_pass k (st := ⟨sl, priv⟩) hx))) 2 ..).trans rfl

theorem iter_drop (it it' : ι) (a : α) (c : Nat) (priv : σ) (g : G) (tr : List (Ev Unit β))
    (hn : next it = some (a, it')) (hx : (k.xfer priv a).2 = none) :
    advance (relayPipe next it0 k) 11 ⟨waitSt it c true priv, [.run Lw], g, tr, none⟩
      = ⟨waitSt it' (c + 1) true (k.xfer priv a).1, [.run Lw], g, tr, none⟩ :=
  (advance_next_some 9 (hn := hn) ..).trans <|
    (advance_tau (compose_lo_tau (compose_hi_tau (Relay.step_d0_drop k (st := ⟨true, priv⟩) hx))) 8 ..).trans rfl

theorem iter_end (it : ι) (c : Nat) (sl : Bool) (priv : σ) (g : G) (tr : List (Ev Unit β))
    (hn : next it = none) :
    advance (relayPipe next it0 k) 13 ⟨waitSt it c sl priv, [.run Lw], g, tr, none⟩
      = ⟨endSt it (c + 1) sl priv, [], g.onRetO 0, .retO :: tr, none⟩ :=
  (advance_next_none 11 (hn := hn) ..).trans rfl

@[simp] theorem apps_nil : apps ([] : List (Ev Unit β)) = [] := rfl
@[simp] theorem apps_app {α : Type} (b : β) (tr : List (Ev α β)) : apps (.out (.app b) :: tr) = apps tr ++ [b] := by
  simp [apps]
@[simp] theorem apps_inp {α : Type} (i : In α) (tr : List (Ev α β)) : apps (.inp i :: tr) = apps tr := by simp [apps]
@[simp] theorem apps_retE {α : Type} (tr : List (Ev α β)) : apps (.retE :: tr) = apps tr := by simp [apps]
@[simp] theorem apps_retO {α : Type} (tr : List (Ev α β)) : apps (.retO :: tr) = apps tr := by simp [apps]
@[simp] theorem apps_panic (tr : List (Ev Unit β)) : apps (.panic :: tr) = apps tr := by simp [apps]

theorem apps_cons_prefix {α : Type} (e : Ev α β) (tr : List (Ev α β)) : apps tr <+: apps (e :: tr) := by
  simp only [apps, List.reverse_cons, List.filterMap_append]
  exact List.prefix_append _ _

theorem apps_prefix_of_opStep {St Loc α β : Type} (M : Machine St Loc α β) (a b : Sys St Loc α β) (h : opStep M a = some b) :
    apps a.tr <+: apps b.tr := by
  obtain ⟨_, l, stk, _, rfl⟩ := opStep_eq_some h
  cases M.step a.st l with
  | tau s' l' => exact List.prefix_refl _
  | call o s' l' => exact apps_cons_prefix _ _
  | ret => exact apps_cons_prefix _ _
  | panic m => exact apps_cons_prefix _ _

theorem default_sinkPh : (default : SinkPh) = .idle := rfl
theorem default_srcPh : (default : SrcPh) = .idle := rfl

/-- the ghost phases once `for_each(f)(source)` has been applied: nothing at the boundary is ever greeted or subscribed -/
def ph1 : Ph := ⟨[.subscribed], [], []⟩

theorem onIn_subscribe_ph {α : Type} (g : G) (hg : g.ph = {}) (n : Nat) : (g.onIn n (.subscribe 0 : In α)).ph = ph1 := by
  simp only [G.onIn, hg, Ph.onIn, Ph.setSink, setAt, ph1]

/-- before `for_each(f)(source)` a conformant environment can do nothing else … -/
theorem legalIn_init {α β : Type} (sh : Shape) (hm : sh.multiSink = false) (c : Ctx β) (i : In α)
    (h : legalIn sh {} c i = true) : i = .subscribe 0 := by
  cases i with
  | subscribe j => simp only [legalIn, hm, Bool.or_false, Bool.and_eq_true, beq_iff_eq] at h; rw [h.2]
  | sinkUp j u => simp [legalIn] at h
  | srcGreet j => simp [legalIn] at h
  | srcDown j d => simp [legalIn] at h

/-- … and after it, a single-sink machine that greets nobody and subscribes to nobody cannot be called at all -/
theorem legalIn_ph1 {α β : Type} (sh : Shape) (hm : sh.multiSink = false) (c : Ctx β) (i : In α) :
    legalIn sh ph1 c i = false := by
  cases i with
  | subscribe j => cases j <;> simp [legalIn, ph1, Ph.sinkPh, phAt, hm]
  | sinkUp j u => cases j <;> simp [legalIn, ph1, Ph.sinkPh, phAt, default_sinkPh]
  | srcGreet j => simp [legalIn, ph1, Ph.srcPh, phAt, default_srcPh]
  | srcDown j d => simp [legalIn, ph1, Ph.srcPh, phAt, default_srcPh]

section
variable {St Loc α β : Type} {M : Machine St Loc α β} {m : Move α} {s s' : Sys St Loc α β}

theorem envStep_init (hm : M.shape.multiSink = false) (he : EnvStep M m s s') (hg : s.g.ph = {}) (hstk : s.stack = []) :
    m = .call (.subscribe 0) ∧
      s' = ⟨s.st, [.run (M.enter (.subscribe 0))], s.g.onIn 0 (.subscribe 0 : In α), .inp (.subscribe 0) :: s.tr, none⟩ := by
  cases he with
  | @call st stk g tr c i hc hl =>
    cases hstk
    cases legalIn_init _ hm c i (by rw [← show g.ph = {} from hg]; exact hl)
    exact ⟨rfl, rfl⟩
  | ret hl => cases hstk

theorem envStep_ph1 (hm : M.shape.multiSink = false) (he : EnvStep M m s s') (hg : s.g.ph = ph1) :
    m = .ret ∧ ∃ o l stk, s.stack = .wait o l :: stk ∧ s' = ⟨s.st, .run l :: stk, s.g, .retE :: s.tr, none⟩ := by
  cases he with
  | @call st stk g tr c i hc hl => rw [show g.ph = ph1 from hg, legalIn_ph1 _ hm] at hl; cases hl
  | ret hl => exact ⟨rfl, _, _, _, rfl, rfl⟩

end

variable (xs : List α)

def InvA (s : PSys ι σ α β) : Prop :=
  s.st = (relayPipe next it0 k).init ∧ s.stack = [] ∧ s.g.ph = {} ∧ s.tr = []

/-- (B) inside a closure call: what `f` has seen so far, followed by what the rest of the iterator will produce, is the list function -/
def InvB (s : PSys ι σ α β) : Prop :=
  ∃ it c priv b rest, s.st = waitSt it c k.slotted priv ∧ s.stack = [.wait (.app b) WB] ∧ s.g.ph = ph1 ∧
    Unfolds next it rest ∧ apps s.tr ++ xferOut k.xfer priv rest = xferOut k.xfer k.seed xs ∧ c + rest.length = xs.length

def InvC (s : PSys ι σ α β) : Prop :=
  s.stack = [] ∧ s.g.ph = ph1 ∧ apps s.tr = xferOut k.xfer k.seed xs ∧ s.st.1.1.nexts = xs.length + 1 ∧ s.tr ≠ []

def Inv (s : PSys ι σ α β) : Prop :=
  s.panicked = none ∧ (InvA next it0 k s ∨ InvB next k xs s ∨ InvC k xs s)

theorem inv_init : Inv next it0 k xs (Sys.init (relayPipe next it0 k)) :=
  ⟨rfl, Or.inl ⟨rfl, rfl, rfl, rfl⟩⟩

theorem inv_turn (s : PSys ι σ α β) (h : Inv next it0 k xs s) : EnvTurn s := by
  obtain ⟨hp, h | ⟨_, _, _, _, _, _, h, _⟩ | h⟩ := h
  · exact ⟨hp, by rw [h.2.1]; rfl⟩
  · exact ⟨hp, by rw [h]; rfl⟩
  · exact ⟨hp, by rw [h.1]; rfl⟩

theorem loop_runs (hk : k.slotted = false → ∀ s a, (k.xfer s a).2 ≠ none) (it : ι) (rest : List α) (hu : Unfolds next it rest) :
    ∀ (c : Nat) (priv : σ) (g : G) (tr : List (Ev Unit β)), g.ph = ph1 →
      apps tr ++ xferOut k.xfer priv rest = xferOut k.xfer k.seed xs → c + rest.length = xs.length →
      ∃ n, Inv next it0 k xs (advance (relayPipe next it0 k) n ⟨waitSt it c k.slotted priv, [.run Lw], g, tr, none⟩) ∧
        c < (advance (relayPipe next it0 k) n ⟨waitSt it c k.slotted priv, [.run Lw], g, tr, none⟩).st.1.1.nexts := by
  induction hu with
  | @nil it hn =>
    intro c priv g tr hg happ hc
    refine ⟨13, ?_⟩
    rw [iter_end next it0 k it c _ priv g tr hn]
    exact ⟨⟨rfl, .inr (.inr ⟨rfl, (onRetO_ph g 0).trans hg, by rw [apps_retO, ← happ]; exact (List.append_nil _).symm,
      congrArg (· + 1) hc, List.cons_ne_nil _ _⟩)⟩, Nat.lt_succ_self c⟩
  | @cons it a it' rest hn hu' ih =>
    intro c priv g tr hg happ hc
    rw [List.length_cons] at hc
    cases hx : (k.xfer priv a).2 with
    | some b =>
      refine ⟨5, ?_⟩
      rw [iter_emit next it0 k it it' a b c _ priv g tr hn hx]
      refine ⟨⟨rfl, .inr (.inl ⟨it', c + 1, _, b, rest, rfl, rfl, (onOut_ph _ g _).trans hg, hu', ?_, by omega⟩)⟩, Nat.lt_succ_self c⟩
      rw [apps_app, List.append_assoc, ← happ]; simp only [xferOut, hx]; rfl
    | none =>
      have hs := Relay.slotted_of_drop k hk hx
      obtain ⟨n, hi, hlt⟩ := ih (c + 1) (k.xfer priv a).1 g tr hg (by rw [← happ]; simp only [xferOut, hx]) (by omega)
      refine ⟨11 + n, ?_⟩
      rw [advance_add]
      rw [hs] at hi hlt ⊢
      rw [iter_drop next it0 k it it' a c priv g tr hn hx]
      exact ⟨hi, Nat.lt_of_succ_lt hlt⟩

theorem env_moves (s s' : PSys ι σ α β) (m : Move Unit) (hi : Inv next it0 k xs s) (he : EnvStep (relayPipe next it0 k) m s s') :
    (m = .call (.subscribe 0) ∧ InvA next it0 k s) ∨ (m = .ret ∧ InvB next k xs s) := by
  obtain ⟨_, hA | hB | hC⟩ := hi
  · exact Or.inl ⟨(envStep_init rfl he hA.2.2.1 hA.2.1).1, hA⟩
  · have hg : s.g.ph = ph1 := by obtain ⟨_, _, _, _, _, _, _, hg, _⟩ := hB; exact hg
    exact Or.inr ⟨(envStep_ph1 rfl he hg).1, hB⟩
  · obtain ⟨_, _, _, _, hstk, _⟩ := envStep_ph1 rfl he hC.2.1
    rw [hC.1] at hstk; cases hstk

theorem inv_step (hk : k.slotted = false → ∀ s a, (k.xfer s a).2 ≠ none) (hx : Unfolds next it0 xs)
    (s s' : PSys ι σ α β) (m : Move Unit) (hi : Inv next it0 k xs s) (he : EnvStep (relayPipe next it0 k) m s s') :
    ∃ n, Inv next it0 k xs (advance (relayPipe next it0 k) n s') := by
  rcases env_moves next it0 k xs s s' m hi he with ⟨_, hst, hstk, hg, htr⟩ | ⟨_, it, c, priv, b, rest, hst, hstk, hg, hu, happ, hc⟩
  · obtain ⟨_, hs'⟩ := envStep_init rfl he hg hstk
    obtain ⟨n, hn, _⟩ := loop_runs next it0 k xs hk it0 xs hx 0 k.seed (s.g.onIn 0 (.subscribe 0)) [.inp (.subscribe 0)]
      (onIn_subscribe_ph _ hg 0) rfl (Nat.zero_add _)
    refine ⟨16 + n, ?_⟩
    rw [hs', hst, htr, advance_add, init_seg]; exact hn
  · obtain ⟨_, o, l, stk, hstk', hs'⟩ := envStep_ph1 rfl he hg
    rw [hstk] at hstk'; cases hstk'
    obtain ⟨n, hn, _⟩ := loop_runs next it0 k xs hk it rest hu c priv s.g (.retE :: s.tr) hg (by rw [apps_retE]; exact happ) hc
    refine ⟨11 + n, ?_⟩
    rw [hs', hst, advance_add, pull_seg]; exact hn

def Good (s : PSys ι σ α β) : Prop := s.panicked = none ∧ apps s.tr <+: xferOut k.xfer k.seed xs

theorem good_of_inv (s : PSys ι σ α β) (h : Inv next it0 k xs s) : Good k xs s := by
  obtain ⟨hp, ⟨_, _, _, htr⟩ | ⟨_, _, _, _, _, _, _, _, _, happ, _⟩ | ⟨_, _, happ, _⟩⟩ := h
  · exact ⟨hp, by rw [htr]; exact List.nil_prefix⟩
  · exact ⟨hp, ⟨_, happ⟩⟩
  · exact ⟨hp, by rw [happ]; exact List.prefix_refl _⟩

theorem good_mono (a b : PSys ι σ α β) (h : opStep (relayPipe next it0 k) a = some b) (hb : Good k xs b) : Good k xs a :=
  ⟨(opStep_ghost _ a b h).2.2 hb.1, (apps_prefix_of_opStep _ a b h).trans hb.2⟩

theorem relayPipe_good (hk : k.slotted = false → ∀ s a, (k.xfer s a).2 ≠ none) (hx : Unfolds next it0 xs) :
    ∀ s, SReach (relayPipe next it0 k) s → Good k xs s :=
  reach_of_macro_inv (relayPipe next it0 k) anyEnv (Good k xs) (Inv next it0 k xs) (inv_init next it0 k xs)
    (fun s hi => ⟨inv_turn next it0 k xs s hi, good_of_inv next it0 k xs s hi⟩)
    (fun s s' m hi he _ => inv_step next it0 k xs hk hx s s' m hi he)
    (good_mono next it0 k xs)

theorem relayPipe_runs_into_inv (hk : k.slotted = false → ∀ s a, (k.xfer s a).2 ≠ none) (hx : Unfolds next it0 xs) :
    ∀ s, SReach (relayPipe next it0 k) s → ∃ n, Inv next it0 k xs (advance (relayPipe next it0 k) n s) :=
  reach_runs_into_inv (relayPipe next it0 k) anyEnv (Inv next it0 k xs) (inv_init next it0 k xs)
    (inv_turn next it0 k xs) (fun s s' m hi he _ => inv_step next it0 k xs hk hx s s' m hi he)

/-- `f` is only ever applied to a prefix of the list function, in order, and nothing panics (in particular for_each's
`expect("source talkback not set")`, the relay's, and from_iter's `unwrap` never fire) -/
theorem relayPipe_prefix (hk : k.slotted = false → ∀ s a, (k.xfer s a).2 ≠ none) (hx : Unfolds next it0 xs) :
    ∀ s, SReach (relayPipe next it0 k) s →
      s.panicked = none ∧ ∃ m, apps s.tr = (xferOut k.xfer k.seed xs).take m := by
  intro s hs
  obtain ⟨hp, hpre⟩ := relayPipe_good next it0 k xs hk hx s hs
  exact ⟨hp, _, List.prefix_iff_eq_take.1 hpre⟩

/-- when control is back at top level after the application `for_each(f)(source)`, everything has been delivered and the iterator was
advanced exactly `xs.length + 1` times -/
theorem relayPipe_complete (hk : k.slotted = false → ∀ s a, (k.xfer s a).2 ≠ none) (hx : Unfolds next it0 xs) :
    ∀ s, SReach (relayPipe next it0 k) s → s.stack = [] → s.tr ≠ [] →
      apps s.tr = xferOut k.xfer k.seed xs ∧ s.st.1.1.nexts = xs.length + 1 := by
  intro s hs hstk htr
  have hp := (relayPipe_good next it0 k xs hk hx s hs).1
  have ht := envTurn_of_top hp hstk
  obtain ⟨n, hn⟩ := relayPipe_runs_into_inv next it0 k xs hk hx s hs
  rw [advance_of_envTurn ht] at hn
  obtain ⟨_, ⟨_, _, _, h⟩ | ⟨_, _, _, _, _, _, h, _⟩ | ⟨_, _, h1, h2, _⟩⟩ := hn
  · exact absurd h htr
  · rw [hstk] at h; cases h
  · exact ⟨h1, h2⟩

/-- the pipeline never diverges between two closure calls -/
theorem relayPipe_progress (hk : k.slotted = false → ∀ s a, (k.xfer s a).2 ≠ none) (hx : Unfolds next it0 xs) :
    ∀ s, SReach (relayPipe next it0 k) s → ∃ n, EnvTurn (advance (relayPipe next it0 k) n s) := by
  intro s hs
  obtain ⟨n, hn⟩ := relayPipe_runs_into_inv next it0 k xs hk hx s hs
  exact ⟨n, inv_turn next it0 k xs _ hn⟩

/-- the hypotheses of `relayPipe_complete` are satisfiable: if the closure returns every time, the application returns -/
theorem relayPipe_finishes (hk : k.slotted = false → ∀ s a, (k.xfer s a).2 ≠ none) (hx : Unfolds next it0 xs) :
    ∃ s, SReach (relayPipe next it0 k) s ∧ s.stack = [] ∧ s.tr ≠ [] := by
  -- from `*res = iter.next()` after `c` items, by induction on a bound `N` of the number of items left
  have key : ∀ (N : Nat) (it : ι) (rest : List α) (c : Nat) (priv : σ) (g : G) (tr : List (Ev Unit β)),
      xs.length < c + N → Unfolds next it rest → g.ph = ph1 →
      apps tr ++ xferOut k.xfer priv rest = xferOut k.xfer k.seed xs → c + rest.length = xs.length →
      SReach (relayPipe next it0 k) ⟨waitSt it c k.slotted priv, [.run Lw], g, tr, none⟩ →
      ∃ s, SReach (relayPipe next it0 k) s ∧ s.stack = [] ∧ s.tr ≠ [] := by
    intro N
    induction N with
    | zero => intro it rest c priv g tr hN _ _ _ hc; omega
    | succ N ih =>
      intro it rest c priv g tr hN hu hg happ hc hr
      obtain ⟨n, hi, hlt⟩ := loop_runs next it0 k xs hk it rest hu c priv g tr hg happ hc
      have hr' := hr.advance n
      revert hi hlt hr'
      generalize advance (relayPipe next it0 k) n _ = s'
      rintro ⟨hp, hA | ⟨it', c', priv', b, rest', hst, hstk, hg', hu', happ', hc'⟩ | ⟨hstk, _, _, _, htr⟩⟩ hlt hr'
      · rw [hA.1] at hlt; exact absurd hlt (Nat.not_lt_zero c)
      · obtain ⟨st, stk, g', tr', p⟩ := s'
        cases hp; cases hst; cases hstk
        have hr2 : SReach _ (advance _ 11 ⟨waitSt it' c' k.slotted priv', [.run WB], g', .retE :: tr', none⟩) :=
          (SReachR.step hr' (.env (EnvStep.ret (by rfl)) trivial)).advance 11
        rw [pull_seg] at hr2
        have hlt' : c < c' := hlt
        exact ih it' rest' c' priv' _ _ (by omega) hu' hg' (by rw [apps_retE]; exact happ') hc' hr2
      · exact ⟨s', hr', hstk, htr⟩
  have h1 := (SReachR.step (.init : SReach (relayPipe next it0 k) _) (.env (EnvStep.call (c := .top) (.subscribe 0) rfl
    (by simp [legalIn, isTop, Ph.sinkPh, phAt, default_sinkPh])) trivial)).advance 16
  rw [show ([] : List (Frame (PLoc α β) β)).length = 0 from rfl, init_seg] at h1
  exact key (xs.length + 1) it0 xs 0 k.seed _ _ (by omega) hx (onIn_subscribe_ph _ rfl 0) rfl (Nat.zero_add _) h1

theorem relayPipe_all (hk : k.slotted = false → ∀ s a, (k.xfer s a).2 ≠ none) (hx : Unfolds next it0 xs)
    (out : List β) (hout : xferOut k.xfer k.seed xs = out) :
    ∀ s, SReach (relayPipe next it0 k) s →
      s.panicked = none ∧ (∃ m, apps s.tr = out.take m) ∧
      (s.stack = [] → s.tr ≠ [] → apps s.tr = out ∧ s.st.1.1.nexts = xs.length + 1) ∧
      ∃ n, EnvTurn (advance (relayPipe next it0 k) n s) := by
  intro s hs
  subst hout
  exact ⟨(relayPipe_prefix next it0 k xs hk hx s hs).1, (relayPipe_prefix next it0 k xs hk hx s hs).2,
    relayPipe_complete next it0 k xs hk hx s hs, relayPipe_progress next it0 k xs hk hx s hs⟩

/-- `pipe!(from_iter(xs), map(f), for_each(g))`: `g` is applied to `xs.map f` -/
theorem map_pipe {β : Type} (f : α → β) (hx : Unfolds next it0 xs) :
    ∀ s, SReach (relayPipe next it0 (Relay.map f)) s →
      s.panicked = none ∧ (∃ m, apps s.tr = (xs.map f).take m) ∧
      (s.stack = [] → s.tr ≠ [] → apps s.tr = xs.map f ∧ s.st.1.1.nexts = xs.length + 1) ∧
      ∃ n, EnvTurn (advance (relayPipe next it0 (Relay.map f)) n s) :=
  relayPipe_all next it0 (Relay.map f) xs (Relay.map_ok f) hx _ (RelayFun.xferOut_map f _ xs)

/-- `pipe!(from_iter(xs), filter(p), for_each(g))`: `g` is applied to `xs.filter p` -/
theorem filter_pipe (p : α → Bool) (hx : Unfolds next it0 xs) :
    ∀ s, SReach (relayPipe next it0 (Relay.filter p)) s →
      s.panicked = none ∧ (∃ m, apps s.tr = (xs.filter p).take m) ∧
      (s.stack = [] → s.tr ≠ [] → apps s.tr = xs.filter p ∧ s.st.1.1.nexts = xs.length + 1) ∧
      ∃ n, EnvTurn (advance (relayPipe next it0 (Relay.filter p)) n s) :=
  relayPipe_all next it0 (Relay.filter p) xs (Relay.filter_ok p) hx _ (RelayFun.xferOut_filter p _ xs)

/-- `pipe!(from_iter(xs), scan(r, seed), for_each(g))`: `g` is applied to the running fold `scanF r seed xs` -/
theorem scan_pipe {β : Type} (r : β → α → β) (seed : β) (hx : Unfolds next it0 xs) :
    ∀ s, SReach (relayPipe next it0 (Relay.scan r seed)) s →
      s.panicked = none ∧ (∃ m, apps s.tr = (scanF r seed xs).take m) ∧
      (s.stack = [] → s.tr ≠ [] → apps s.tr = scanF r seed xs ∧ s.st.1.1.nexts = xs.length + 1) ∧
      ∃ n, EnvTurn (advance (relayPipe next it0 (Relay.scan r seed)) n s) :=
  relayPipe_all next it0 (Relay.scan r seed) xs (Relay.scan_ok r seed) hx _ (RelayFun.xferOut_scan r seed seed xs)

/-- `pipe!(from_iter(xs), skip(n), for_each(g))`: `g` is applied to `xs.drop n` -/
theorem skip_pipe (n : Nat) (hx : Unfolds next it0 xs) :
    ∀ s, SReach (relayPipe next it0 (Relay.skip (α := α) n)) s →
      s.panicked = none ∧ (∃ m, apps s.tr = (xs.drop n).take m) ∧
      (s.stack = [] → s.tr ≠ [] → apps s.tr = xs.drop n ∧ s.st.1.1.nexts = xs.length + 1) ∧
      ∃ m, EnvTurn (advance (relayPipe next it0 (Relay.skip (α := α) n)) m s) :=
  relayPipe_all next it0 (Relay.skip n) xs (Relay.skip_ok n) hx _ (RelayFun.xferOut_skip_seed n xs)

def listNext {α : Type} : List α → Option (α × List α)
  | [] => none
  | a :: as => some (a, as)

theorem unfolds_list {α : Type} (xs : List α) : Unfolds listNext xs xs := by
  induction xs with
  | nil => exact .nil rfl
  | cons a as ih => exact .cons rfl ih

example : Unfolds listNext [1, 2, 3] [1, 2, 3] := unfolds_list _

/-- an iterator that is not a list: counting down -/
example : Unfolds (fun n : Nat => if n = 0 then none else some (10 * n, n - 1)) 3 [30, 20, 10] :=
  .cons rfl (.cons rfl (.cons rfl (.nil rfl)))

/-- `pipe!(from_iter([1,2,3,4,5]), filter(even), for_each(f))`: once the application has returned, `f` was applied to `2` and `4`, in
this order, and `next` was called six times -/
example (s) (hs : SReach (relayPipe listNext [1, 2, 3, 4, 5] (Relay.filter (fun n => n % 2 == 0))) s) (h : s.stack = [])
    (h' : s.tr ≠ []) : apps s.tr = [2, 4] ∧ s.st.1.1.nexts = 6 :=
  ((filter_pipe listNext [1, 2, 3, 4, 5] [1, 2, 3, 4, 5] _ (unfolds_list _) s hs).2.2.1 h h')

/-- … and such a configuration exists: the theorem is not about an empty set of runs -/
example : ∃ s, SReach (relayPipe listNext [1, 2, 3] (Relay.map (· + 1))) s ∧ s.stack = [] ∧ apps s.tr = [2, 3, 4] := by
  obtain ⟨s, hs, h, h'⟩ := relayPipe_finishes listNext [1, 2, 3] (Relay.map (· + 1)) [1, 2, 3] (Relay.map_ok _) (unfolds_list _)
  exact ⟨s, hs, h, ((map_pipe listNext [1, 2, 3] [1, 2, 3] _ (unfolds_list _) s hs).2.2.1 h h').1⟩

end Cb.Closed

#print axioms Cb.Closed.relayPipe_prefix
#print axioms Cb.Closed.relayPipe_complete
#print axioms Cb.Closed.relayPipe_progress
#print axioms Cb.Closed.relayPipe_finishes
#print axioms Cb.Closed.env_moves
#print axioms Cb.Closed.map_pipe
#print axioms Cb.Closed.filter_pipe
#print axioms Cb.Closed.scan_pipe
#print axioms Cb.Closed.skip_pipe
