import CallbagModel.Closed.LinearInf
import CallbagModel.Closed.LinearCost
/-!
# `take n` over an UNBOUNDED iterator advances it at most `n` times

`linearInf_cost_take`: for `pipe!(from_iter(it), pre…, take(n), post…, for_each(f))` over an ARBITRARY iterator
`next : ι → Option (Int × ι)` (it may never end), `pre` non-dropping (`map`, `scan`), `post` arbitrary: at EVERY reachable configuration,
under every conformant environment, the ghost counter of `Iterator::next` calls is at most `n`.  With `linearInf_returns`
(`Closed/LinearInf.lean`): take over an unbounded iterator stops, having advanced it at most `n` times.

No list, hence no `SrcSpec`: the stage rules `StageDem M up ys` of `Inv/ComposeCost.lean` are used at `ys := ` what has been sent so far
(`HeadUpD.stage` there; for `map`, `scan`, `take` the demand passed on does not depend on the data).
-/
namespace Cb.Closed
open FlatPlugFun ComposeCost

structure HeadD (A : AnyM) : Prop where
  up : UpSide A.M
  pull : PullOnly A.M
  dem : HeadUpD A.M A.nexts

theorem HeadD.stage {A : AnyM} (h : HeadD A) (s : Stg) (hs : s.keeps) : HeadD (thenM A s.toM) := by
  have H := hyp_of_roles h.up s.pipeable.downSide
  refine ⟨h.up.compose' s.pipeable, PullOnly.compose h.pull (Stg.stagePull s) H, ?_⟩
  intro d st hst hd
  have hrule : ∀ ys, StageDem s.toM.M (fun dem => dem) ys := by
    cases s with
    | map f => exact (Stg.map f).stageDem
    | scan r seed => exact (Stg.scan r seed).stageDem
    | filter q | take n | skip n => exact hs.elim
  rw [Stg.thenM_nexts]; exact HeadUpD.stage h.dem H h.pull hrule (some d) d rfl st hst hd

/-- below `take n`, the head has been advanced at most `n` times — whatever the sink does -/
theorem HeadD.take {A : AnyM} (h : HeadD A) (n : Nat) :
    ∀ s, SReach (thenM A (Stg.take n).toM).M s → (thenM A (Stg.take n).toM).nexts s.st ≤ n := by
  intro st hst
  have H := hyp_of_roles h.up (Stg.take n).pipeable.downSide
  rw [Stg.thenM_nexts]
  exact HeadUpD.stage h.dem H h.pull (fun ys => (Stg.take n).stageDem ys) none n rfl st hst (demOk_none _)

theorem Stg.bound (s : Stg) {A : AnyM} {n : Nat} (h : UpSide A.M ∧ ∀ st, SReach A.M st → A.nexts st.st ≤ n) :
    UpSide (thenM A s.toM).M ∧ ∀ st, SReach (thenM A s.toM).M st → (thenM A s.toM).nexts st.st ≤ n := by
  refine ⟨h.1.compose' s.pipeable, fun st hst => ?_⟩
  rw [Stg.thenM_nexts]; exact bound_compose (nx := A.nexts) (hyp_of_roles h.1 s.pipeable.downSide) h.2 st hst

/-- **`take n` over an unbounded iterator advances it at most `n` times** — at every reachable configuration, under every conformant
environment; `pre` non-dropping, `post` arbitrary -/
theorem linearInf_cost_take {ι : Type} (next : ι → Option (Int × ι)) (it0 : ι) (pre post : List Stg) (n : Nat)
    (hpre : ∀ s ∈ pre, s.keeps) :
    ∀ s, SReach (thenM (chainIM next it0 (pre ++ .take n :: post)) forEachM).M s →
      (thenM (chainIM next it0 (pre ++ .take n :: post)) forEachM).nexts s.st ≤ n := by
  have h0 : HeadD (srcIM next it0) := ⟨FromIter.upSide next it0, FromIter.pullOnly _ _, FromIter.headUpD next it0⟩
  have h1 := chain_induction (P := HeadD) pre (fun s hs _ h => h.stage s (hpre s hs)) _ h0
  have h2 := chain_induction (P := fun A => UpSide A.M ∧ ∀ s, SReach A.M s → A.nexts s.st ≤ n) post (fun s _ _ h => s.bound h) _
    ⟨h1.up.compose' (Stg.take n).pipeable, h1.take n⟩
  have hc : chainIM next it0 (pre ++ .take n :: post)
      = post.foldl (fun A s => thenM A s.toM) (thenM (pre.foldl (fun A s => thenM A s.toM) (srcIM next it0)) (Stg.take n).toM) := by
    unfold chainIM; rw [List.foldl_append, List.foldl_cons]
  rw [hc]
  exact bound_forEach h2.1 h2.2

section
/- as in `Closed/LinearInf.lean`: the two occurrences of the machine in the statement are compared as written -/
attribute [local irreducible] chainIM thenM

/-- the natural numbers from `a`: `pipe!(from_iter(a..), map(·*2), take(3), filter(odd), for_each(f))` advances the iterator at most
three times -/
example (a : Int) : ∀ s, SReach (thenM (chainIM (fun i : Int => some (i, i + 1)) a
      ([.map (· * 2)] ++ .take 3 :: [.filter (fun x => x % 2 == 1)])) forEachM).M s →
    (thenM (chainIM (fun i : Int => some (i, i + 1)) a
      ([.map (· * 2)] ++ .take 3 :: [.filter (fun x => x % 2 == 1)])) forEachM).nexts s.st ≤ 3 :=
  linearInf_cost_take _ a _ _ 3 (fun s hs => by simp at hs; subst hs; trivial)

end

end Cb.Closed

#print axioms Cb.Closed.linearInf_cost_take
