import CallbagModel.Closed.Prog3Def
import CallbagModel.Closed.Heads
import CallbagModel.Inv.FlatDemandCost
/-!
# Programs with n-ary `concat!`: what `listSem` and `sem` say of the constructors

Facts about the specification only (`Ops/Pipeline.lean`), no machine.  The cost under every demand is put in the forms `costJ` of
`Inv/JoinDemand.lean` and `flatC` of `Inv/FlatDemandCost.lean`, in which the closure lemmas of the `Inv/` layers state the cost of the networks.
-/
namespace Cb.Closed
open JoinDemand FlatDemand

theorem Prog3.toMs_length (ps : List Prog3) : (Prog3.toMs ps).length = ps.length := by
  rw [Prog3.toMs_eq_map, List.length_map]

theorem Prog3.toMs_pos {ps : List Prog3} (h : ps ≠ []) : 0 < (Prog3.toMs ps).length := by
  rw [Prog3.toMs_length]; exact List.length_pos_iff.2 h

theorem listSem_toPipes : ∀ ps : List Prog3, listSem (Prog3.toPipes ps) = (ps.map (fun p => listSem p.toPipe)).flatten
  | [] => rfl
  | [p] => by simp [Prog3.toPipes]
  | p :: q :: ps => by
    have ih := listSem_toPipes (q :: ps)
    simp only [Prog3.toPipes, listSem, ih, List.map_cons, List.flatten_cons]

theorem cost_toPipes : ∀ ps : List Prog3, ps ≠ [] →
    (sem (Prog3.toPipes ps) none).2 = (ps.map (fun p => (sem p.toPipe none).2)).sum
  | [], h => absurd rfl h
  | [p], _ => by simp [Prog3.toPipes]
  | p :: q :: ps, _ => by
    have ih := cost_toPipes (q :: ps) (by simp)
    simp only [Prog3.toPipes, sem, ih, List.map_cons, List.sum_cons]

theorem cost_flatRep (k : Nat) (p : Pipe) :
    (sem (Pipe.flatMap (fun a => Pipe.src (rangeFrom a k)) p) none).2 = (sem p none).2 + (listSem p).length * (k + 1) := by
  rw [sem_flatMap_cost, flatCost_none]
  have : ∀ l : List Int, (l.map (fun a => (sem (Pipe.src (rangeFrom a k)) none).2)).sum = l.length * (k + 1) := by
    intro l
    induction l with
    | nil => simp
    | cons a t ih =>
      rw [List.map_cons, List.sum_cons, ih, cost_src, rangeFrom_length, List.length_cons, Nat.succ_mul]; omega
  rw [this]; omega

theorem cost_concat (p q : Pipe) (dem : Demand) :
    (sem (Pipe.concat p q) dem).2 = (sem p dem).2 + (sem q (dsub dem (listSem p).length)).2 := by
  cases dem with
  | none => simp [sem, dsub]
  | some d =>
    simp only [sem, dsub]
    have hl := length_sem_some p d
    by_cases h : (listSem p).length < d
    · have : (sem p (some d)).1.length = (listSem p).length := by rw [hl]; omega
      rw [this, if_pos h]
    · have : (sem p (some d)).1.length = d := by rw [hl]; omega
      rw [this, if_neg (Nat.lt_irrefl _)]
      have : d - (listSem p).length = 0 := by omega
      rw [this, cost_zero, Nat.add_zero]

theorem cost_toPipes_dem : ∀ (ps : List Prog3) (dem : Demand), ps ≠ [] →
    (sem (Prog3.toPipes ps) dem).2 =
      (termsL (ps.map (fun p dem => (sem p.toPipe dem).2)) (ps.map (fun p => listSem p.toPipe)) dem).sum
  | [], _, h => absurd rfl h
  | [p], dem, _ => by simp [Prog3.toPipes, termsL]
  | p :: q :: ps, dem, _ => by
    have ih := cost_toPipes_dem (q :: ps) (dsub dem (listSem p.toPipe).length) (by simp)
    rw [Prog3.toPipes, cost_concat, ih]
    simp [termsL]

theorem cost_flatRep_dem (k : Nat) (p : Pipe) (dem : Demand) :
    (sem (Pipe.flatMap (fun a => Pipe.src (rangeFrom a k)) p) dem).2 =
      flatC (fun d => (sem p d).2) (fun a d => (sem (Pipe.src (rangeFrom a k)) d).2) (fun a => rangeFrom a k) (listSem p) dem := by
  rw [sem_flatMap_cost]
  exact (flatC_eq_flatCost (fun a d => sem (Pipe.src (rangeFrom a k)) d) (fun d => (sem p d).2) (fun a => rangeFrom a k)
    (fun a d => length_sem_some _ d) (fun a => cost_zero _) (listSem p) dem).symm

end Cb.Closed
