import CallbagModel.Closed.Embed
import CallbagModel.Closed.Prog3
/-!
# Linear programs, `Prog` and `Prog2`: the theorems of `Prog3` on the sublanguages

`Closed/Embed.lean` maps a linear program `(xs, ss)`, a `Prog`, a `Prog2` to a `Prog3` with the same machine and the
same program text, the side condition going to `Prog3.ok`; rewriting along these two equalities turns each statement below into the
`Prog3` theorem at the image.  A linear program is `eager`, so its cost is `prog3_cost`; `linear_cost_noTake`, `linear_cost_take` and
`linear_cost_take_gen` add to `linear_cost` what `sem` says of a chain (`sem_fold_noTake`, `sem_fold_keeps`, `sem_take_cost` of
`Closed/LinearCost.lean`).

`take(0)` is excluded throughout: `take(0)` never completes a pulling sink (a documented observation about the crate).
-/
namespace Cb.Closed
open FlatPlugFun ComposeTerm

/-- **every linear program**: for the machine the executable check builds from the program text, at every reachable configuration
under every conformant environment: phase-level safe and no panic; the closure of `for_each` applied, in order, to a prefix of the
list function of the program; and to exactly the list function once the application has returned -/
theorem linear_correct (xs : List Int) (ss : List Stg) (hpos : ∀ n, Stg.take n ∈ ss → 0 < n) :
    ∀ s, SReach (thenM (chainM xs ss) forEachM).M s →
      BasicSafe s ∧ applied s.tr <+: listSem (chainPipe xs ss) ∧
      (s.stack = [] → s.tr ≠ [] → applied s.tr = listSem (chainPipe xs ss)) := by
  rw [← chain3_toM, ← chain3_toPipe]; exact prog3_correct _ (chain3_ok xs ss hpos)

/-- `pipe!(from_iter([1, …, 6]), filter(odd), scan(+, 0), take(2), for_each(f))`: `f` is applied to `1`, then `4`, and nothing else -/
example : ∀ s, SReach (thenM (thenM (thenM (thenM (srcM [1, 2, 3, 4, 5, 6])
        (relayM (Relay.filter (fun x => x % 2 == 1)))) (relayM (Relay.scan (· + ·) 0))) (takeM 2)) forEachM).M s →
      BasicSafe s ∧ applied s.tr <+: [1, 4] ∧ (s.stack = [] → s.tr ≠ [] → applied s.tr = [1, 4]) :=
  linear_correct [1, 2, 3, 4, 5, 6] [.filter (fun x => x % 2 == 1), .scan (· + ·) 0, .take 2]
    (by intro n hn; simp at hn; omega)

/-- **every linear head** `pipe!(from_iter(xs), ss…)` delivers data only in answer to a `Pull` -/
theorem chain_pullOnly (xs : List Int) (ss : List Stg) (hpos : ∀ n, Stg.take n ∈ ss → 0 < n) : PullOnly (chainM xs ss).M := by
  rw [← chain3_toM]; exact (prog3_headOkT2 _ (Prog3.ok2_of_ok _ (chain3_ok xs ss hpos))).2.2 (chain3_linear xs ss)

theorem linear_progress (xs : List Int) (ss : List Stg) (hpos : ∀ n, Stg.take n ∈ ss → 0 < n) :
    ∀ s, SReach (thenM (chainM xs ss) forEachM).M s → ∃ n, EnvTurn (advance (thenM (chainM xs ss) forEachM).M n s) := by
  rw [← chain3_toM]; exact prog3_progress _ (chain3_ok xs ss hpos)

theorem linear_returns (xs : List Int) (ss : List Stg) (hpos : ∀ n, Stg.take n ∈ ss → 0 < n) :
    ∀ s, SReach (thenM (chainM xs ss) forEachM).M s → ∃ t, SReach (thenM (chainM xs ss) forEachM).M t ∧ t.stack = [] ∧
      (s.tr ≠ [] → t.tr ≠ []) ∧ Drain (thenM (chainM xs ss) forEachM).M s t := by
  rw [← chain3_toM]; exact prog3_returns _ (chain3_ok xs ss hpos)

/-- the last clause of `linear_correct` is not vacuous -/
theorem linear_nonvacuous (xs : List Int) (ss : List Stg) (hpos : ∀ n, Stg.take n ∈ ss → 0 < n) :
    ∃ s, SReach (thenM (chainM xs ss) forEachM).M s ∧ s.stack = [] ∧ s.tr ≠ [] ∧ applied s.tr = listSem (chainPipe xs ss) := by
  rw [← chain3_toM, ← chain3_toPipe]; exact prog3_nonvacuous _ (chain3_ok xs ss hpos)

/-- **the cost of every linear program**: never more advances of the iterator than the demand semantics says — at every reachable
configuration, under every conformant environment — and exactly that many when the application has returned -/
theorem linear_cost (xs : List Int) (ss : List Stg) (hpos : ∀ n, Stg.take n ∈ ss → 0 < n) :
    ∀ s, SReach (thenM (chainM xs ss) forEachM).M s →
      (thenM (chainM xs ss) forEachM).nexts s.st ≤ (sem (chainPipe xs ss) none).2 ∧
      (s.stack = [] → s.tr ≠ [] → (thenM (chainM xs ss) forEachM).nexts s.st = (sem (chainPipe xs ss) none).2) := by
  rw [← chain3_toM, ← chain3_toPipe]; exact prog3_cost _ (chain3_ok xs ss hpos) (Prog3.eager_of_linear _ (chain3_linear xs ss))

/-- (1) the cheap fragment: without `take`, the whole list and the discovery of its end -/
theorem linear_cost_noTake (xs : List Int) (ss : List Stg) (hss : ∀ s ∈ ss, s.noTake) :
    ∀ s, SReach (thenM (chainM xs ss) forEachM).M s →
      (thenM (chainM xs ss) forEachM).nexts s.st ≤ xs.length + 1 ∧
      (s.stack = [] → s.tr ≠ [] → (thenM (chainM xs ss) forEachM).nexts s.st = xs.length + 1) := by
  have h := linear_cost xs ss (fun n hn => (hss _ hn).elim)
  have hc : (sem (chainPipe xs ss) none).2 = xs.length + 1 := by
    unfold chainPipe; rw [sem_fold_noTake ss hss, cost_src]
  rw [hc] at h; exact h

/-- (2) **laziness**: `take n` below non-dropping stages stops the iterator after `n` advances, however long the list is and whatever
follows the `take` -/
theorem linear_cost_take (xs : List Int) (pre post : List Stg) (n : Nat) (hpre : ∀ s ∈ pre, s.keeps')
    (hpos : ∀ m, Stg.take m ∈ pre ++ .take n :: post → 0 < m) :
    ∀ s, SReach (thenM (chainM xs (pre ++ .take n :: post)) forEachM).M s →
      (thenM (chainM xs (pre ++ .take n :: post)) forEachM).nexts s.st ≤ n ∧
      (n ≤ xs.length → (thenM (chainM xs (pre ++ .take n :: post)) forEachM).nexts s.st < xs.length + 1) := by
  intro s hs
  have h := (linear_cost xs _ hpos s hs).1
  have h1 := sem_take_cost pre post n xs
  have h2 : (sem (chainPipe xs pre) (some n)).2 ≤ n := by
    unfold chainPipe; rw [sem_fold_keeps pre hpre]; exact cost_src_le xs n
  exact ⟨by omega, fun _ => by omega⟩

/-- (3) the same in general: the iterator is advanced at most as often as the part before `take n` needs to produce `n` items -/
theorem linear_cost_take_gen (xs : List Int) (pre post : List Stg) (n : Nat)
    (hpos : ∀ m, Stg.take m ∈ pre ++ .take n :: post → 0 < m) :
    ∀ s, SReach (thenM (chainM xs (pre ++ .take n :: post)) forEachM).M s →
      (thenM (chainM xs (pre ++ .take n :: post)) forEachM).nexts s.st ≤ (sem (chainPipe xs pre) (some n)).2 :=
  fun s hs => Nat.le_trans (linear_cost xs _ hpos s hs).1 (sem_take_cost pre post n xs)

/-- **every program with `concat!`** -/
theorem prog_correct (p : Prog) (hpos : p.takesPos) :
    ∀ s, SReach (thenM p.toM forEachM).M s →
      BasicSafe s ∧ applied s.tr <+: listSem p.toPipe ∧ (s.stack = [] → s.tr ≠ [] → applied s.tr = listSem p.toPipe) := by
  rw [← p.to3_toM, ← p.to3_toPipe]; exact prog3_correct _ (p.to3_ok hpos)

/-- … and in full: C01–C05, C17 -/
theorem prog_safe (p : Prog) (hpos : p.takesPos) :
    ∀ s, SReach (thenM p.toM forEachM).M s → Safe s ∧ SafeFor 4 s ∧ SafeFor 5 s := by
  rw [← p.to3_toM]; exact prog3_safe _ (p.to3_ok hpos)

/-- `pipe!(concat!(from_iter([1,2,3]), pipe!(from_iter([4,5,6]), map(·*10))), take(4), for_each(f))`: `f` is applied to 1, 2, 3, 40 -/
example : ∀ s, SReach (thenM (Prog.stage (.take 4) (.concat (.src [1, 2, 3]) (.stage (.map (· * 10)) (.src [4, 5, 6])))).toM forEachM).M s →
      BasicSafe s ∧ applied s.tr <+: [1, 2, 3, 40] ∧ (s.stack = [] → s.tr ≠ [] → applied s.tr = [1, 2, 3, 40]) :=
  prog_correct _ ⟨fun n hn => (by cases hn; decide), ⟨trivial, ⟨fun n hn => (by cases hn), trivial⟩⟩⟩

theorem prog_progress (p : Prog) (hpos : p.takesPos) :
    ∀ s, SReach (thenM p.toM forEachM).M s → ∃ n, EnvTurn (advance (thenM p.toM forEachM).M n s) := by
  rw [← p.to3_toM]; exact prog3_progress _ (p.to3_ok hpos)

theorem prog_returns (p : Prog) (hpos : p.takesPos) :
    ∀ s, SReach (thenM p.toM forEachM).M s → ∃ t, SReach (thenM p.toM forEachM).M t ∧ t.stack = [] ∧
      (s.tr ≠ [] → t.tr ≠ []) ∧ Drain (thenM p.toM forEachM).M s t := by
  rw [← p.to3_toM]; exact prog3_returns _ (p.to3_ok hpos)

/-- the last clause of `prog_correct` is not vacuous -/
theorem prog_nonvacuous (p : Prog) (hpos : p.takesPos) :
    ∃ s, SReach (thenM p.toM forEachM).M s ∧ s.stack = [] ∧ s.tr ≠ [] ∧ applied s.tr = listSem p.toPipe := by
  rw [← p.to3_toM, ← p.to3_toPipe]; exact prog3_nonvacuous _ (p.to3_ok hpos)

/-- **every program with `concat!` and `flatRep`** (with `Prog2.ok`) -/
theorem prog2_correct (p : Prog2) (hok : p.ok) :
    ∀ s, SReach (thenM p.toM forEachM).M s →
      BasicSafe s ∧ applied s.tr <+: listSem p.toPipe ∧ (s.stack = [] → s.tr ≠ [] → applied s.tr = listSem p.toPipe) := by
  rw [← p.to3_toM, ← p.to3_toPipe]; exact prog3_correct _ (p.to3_ok hok)

/-- … and in full: C01–C05, C17 -/
theorem prog2_safe (p : Prog2) (hok : p.ok) :
    ∀ s, SReach (thenM p.toM forEachM).M s → Safe s ∧ SafeFor 4 s ∧ SafeFor 5 s := by
  rw [← p.to3_toM]; exact prog3_safe _ (p.to3_ok hok)

/-- `pipe!(concat!(flatten(map(|a| from_iter(a..a+2))(pipe!(from_iter([1,5]), map(·*10)))), from_iter([7])), take(4), for_each(f))`:
`f` is applied to 10, 11, 50, 51 -/
example : ∀ s, SReach (thenM (Prog2.stage (.take 4)
      (.concat (.flatRep 2 (.stage (.map (· * 10)) (.src [1, 5]))) (.src [7]))).toM forEachM).M s →
      BasicSafe s ∧ applied s.tr <+: [10, 11, 50, 51] ∧ (s.stack = [] → s.tr ≠ [] → applied s.tr = [10, 11, 50, 51]) :=
  prog2_correct _ ⟨fun n hn => (by cases hn; decide), ⟨⟨trivial, ⟨fun n hn => (by cases hn), trivial⟩⟩, trivial⟩⟩

theorem prog2_progress (p : Prog2) (hok : p.ok) :
    ∀ s, SReach (thenM p.toM forEachM).M s → ∃ n, EnvTurn (advance (thenM p.toM forEachM).M n s) := by
  rw [← p.to3_toM]; exact prog3_progress _ (p.to3_ok hok)

theorem prog2_returns (p : Prog2) (hok : p.ok) :
    ∀ s, SReach (thenM p.toM forEachM).M s → ∃ t, SReach (thenM p.toM forEachM).M t ∧ t.stack = [] ∧
      (s.tr ≠ [] → t.tr ≠ []) ∧ Drain (thenM p.toM forEachM).M s t := by
  rw [← p.to3_toM]; exact prog3_returns _ (p.to3_ok hok)

/-- the last clause of `prog2_correct` is not vacuous -/
theorem prog2_nonvacuous (p : Prog2) (hok : p.ok) :
    ∃ s, SReach (thenM p.toM forEachM).M s ∧ s.stack = [] ∧ s.tr ≠ [] ∧ applied s.tr = listSem p.toPipe := by
  rw [← p.to3_toM, ← p.to3_toPipe]; exact prog3_nonvacuous _ (p.to3_ok hok)

end Cb.Closed

#print axioms Cb.Closed.linear_correct
#print axioms Cb.Closed.chain_pullOnly
#print axioms Cb.Closed.linear_progress
#print axioms Cb.Closed.linear_returns
#print axioms Cb.Closed.linear_nonvacuous
#print axioms Cb.Closed.linear_cost
#print axioms Cb.Closed.linear_cost_noTake
#print axioms Cb.Closed.linear_cost_take
#print axioms Cb.Closed.linear_cost_take_gen
#print axioms Cb.Closed.prog_correct
#print axioms Cb.Closed.prog_safe
#print axioms Cb.Closed.prog_progress
#print axioms Cb.Closed.prog_returns
#print axioms Cb.Closed.prog_nonvacuous
#print axioms Cb.Closed.prog2_correct
#print axioms Cb.Closed.prog2_safe
#print axioms Cb.Closed.prog2_progress
#print axioms Cb.Closed.prog2_returns
#print axioms Cb.Closed.prog2_nonvacuous
