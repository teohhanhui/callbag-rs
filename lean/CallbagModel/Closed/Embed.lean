import CallbagModel.Closed.Prog3Def
/-!
# The narrower syntaxes are sublanguages of `Prog3`

`Prog`, `Prog2` and the linear programs `(xs, ss)` embed into `Prog3`.  The embedding keeps the machine (`toM`) and the syntax of
`Ops/Pipeline.lean` (`toPipe`) — both as EQUALITIES of terms, so a statement about `thenM p.toM forEachM` can be rewritten into one about
the image — and carries each side condition into `Prog3.ok` and `Prog3.linear`.
-/
namespace Cb.Closed

def Prog2.to3 : Prog2 → Prog3
  | .src xs => .src xs
  | .stage s p => .stage s p.to3
  | .concat p q => .concat2 p.to3 q.to3
  | .flatRep k p => .flatRep k p.to3

def Prog.to2 : Prog → Prog2
  | .src xs => .src xs
  | .stage s p => .stage s p.to2
  | .concat p q => .concat p.to2 q.to2

def Prog.to3 (p : Prog) : Prog3 := p.to2.to3

/-- `pipe!(from_iter(xs), ss…)` -/
def chain3 (xs : List Int) (ss : List Stg) : Prog3 := ss.foldl (fun p s => .stage s p) (.src xs)

theorem Prog2.to3_spec (p : Prog2) :
    p.to3.toM = p.toM ∧ p.to3.toPipe = p.toPipe ∧ (p.linear → p.to3.linear) ∧ (p.ok → p.to3.ok) := by
  induction p with
  | src xs => exact ⟨rfl, rfl, id, id⟩
  | stage s p ih =>
    obtain ⟨hM, hP, hL, hO⟩ := ih
    exact ⟨congrArg (thenM · s.toM) hM, congrArg s.toPipe hP, hL, fun h => ⟨h.1, hO h.2⟩⟩
  | concat p q ihp ihq =>
    obtain ⟨hM, hP, _, hO⟩ := ihp
    obtain ⟨hM', hP', _, hO'⟩ := ihq
    exact ⟨congr (congrArg (plugM 0) hM) (congrArg (plugM 1 · concat2M) hM'), congr (congrArg Pipe.concat hP) hP', False.elim,
      fun h => ⟨hO h.1, hO' h.2⟩⟩
  | flatRep k p ih =>
    obtain ⟨hM, hP, hL, hO⟩ := ih
    exact ⟨congrArg (flatM k) hM, congrArg (Pipe.flatMap _) hP, False.elim, fun h => ⟨hL h.1, hO h.2⟩⟩

theorem Prog.to2_spec (p : Prog) : p.to2.toM = p.toM ∧ p.to2.toPipe = p.toPipe ∧ (p.takesPos → p.to2.ok) := by
  induction p with
  | src xs => exact ⟨rfl, rfl, id⟩
  | stage s p ih =>
    obtain ⟨hM, hP, hO⟩ := ih
    exact ⟨congrArg (thenM · s.toM) hM, congrArg s.toPipe hP, fun h => ⟨h.1, hO h.2⟩⟩
  | concat p q ihp ihq =>
    obtain ⟨hM, hP, hO⟩ := ihp
    obtain ⟨hM', hP', hO'⟩ := ihq
    exact ⟨congr (congrArg (plugM 0) hM) (congrArg (plugM 1 · concat2M) hM'), congr (congrArg Pipe.concat hP) hP',
      fun h => ⟨hO h.1, hO' h.2⟩⟩

theorem stages_spec (ss : List Stg) : ∀ p : Prog3,
    (ss.foldl (fun p s => Prog3.stage s p) p).toM = ss.foldl (fun A s => thenM A s.toM) p.toM ∧
    (ss.foldl (fun p s => Prog3.stage s p) p).toPipe = ss.foldl (fun q s => s.toPipe q) p.toPipe ∧
    (p.linear → (ss.foldl (fun p s => Prog3.stage s p) p).linear) ∧
    ((∀ n, Stg.take n ∈ ss → 0 < n) → p.ok → (ss.foldl (fun p s => Prog3.stage s p) p).ok) := by
  induction ss with
  | nil => exact fun p => ⟨rfl, rfl, id, fun _ => id⟩
  | cons s ss ih =>
    intro p
    obtain ⟨h1, h2, h3, h4⟩ := ih (.stage s p)
    exact ⟨h1, h2, h3, fun hpos hok =>
      h4 (fun n hn => hpos n (List.mem_cons_of_mem _ hn)) ⟨fun n hn => hpos n (hn ▸ List.mem_cons_self), hok⟩⟩

theorem Prog2.to3_toM (p : Prog2) : p.to3.toM = p.toM := p.to3_spec.1
theorem Prog2.to3_toPipe (p : Prog2) : p.to3.toPipe = p.toPipe := p.to3_spec.2.1
theorem Prog2.to3_ok (p : Prog2) (h : p.ok) : p.to3.ok := p.to3_spec.2.2.2 h

theorem Prog.to3_toM (p : Prog) : p.to3.toM = p.toM := p.to2.to3_toM.trans p.to2_spec.1
theorem Prog.to3_toPipe (p : Prog) : p.to3.toPipe = p.toPipe := p.to2.to3_toPipe.trans p.to2_spec.2.1
theorem Prog.to3_ok (p : Prog) (h : p.takesPos) : p.to3.ok := p.to2.to3_ok (p.to2_spec.2.2 h)

theorem chain3_toM (xs : List Int) (ss : List Stg) : (chain3 xs ss).toM = chainM xs ss := (stages_spec ss (.src xs)).1
theorem chain3_toPipe (xs : List Int) (ss : List Stg) : (chain3 xs ss).toPipe = chainPipe xs ss := (stages_spec ss (.src xs)).2.1
theorem chain3_linear (xs : List Int) (ss : List Stg) : (chain3 xs ss).linear := (stages_spec ss (.src xs)).2.2.1 trivial
theorem chain3_ok (xs : List Int) (ss : List Stg) (hpos : ∀ n, Stg.take n ∈ ss → 0 < n) : (chain3 xs ss).ok :=
  (stages_spec ss (.src xs)).2.2.2 hpos trivial

end Cb.Closed
