import CallbagModel.Closed.LinearDef
import CallbagModel.Inv.ComposeComplete
import CallbagModel.Ops.Pipeline
/-!
# Stages and heads: what the theorems over program syntax are assembled from

A LINEAR program is `pipe!(from_iter(xs), stage₁, …, stageₙ, for_each(f))` with unary stages `map`, `filter`, `scan`, `take`, `skip`:
a list of stages (`List Stg`), any number of them, any closures, any finite input — the definitions are in `Closed/LinearDef.lean`, shared
with the driver.

A head of `ys` (`HeadOk M ys`) closed with `for_each` (`head_forEach_correct`): at EVERY reachable configuration under every conformant
environment no interface of the network records a protocol violation and nothing panics (`BasicSafe`); the closure of `for_each` has
been applied, in order, to a prefix of `ys`; and, once the application has returned, to exactly `ys`.
`Stg.relay_or_take` and `chain_induction` are the two case analyses every theorem over a list of stages goes through: a stage machine is a
relay or `take`; a chain is built by `thenM`, one stage at a time.

The list iterator of `srcM` is `listNextI` (`Closed/Exec.lean`); `Cb.Closed.listNext` is the polymorphic one of `Closed/RelayPipe.lean`, which
this file imports too (through `Inv/ComposeComplete.lean`).
-/
namespace Cb.Closed
open ComposeComplete

/-- the running fold of `Props.lean` is the running fold of `Ops/Pipeline.lean` -/
theorem scanF_eq_scanl' (r : Int → Int → Int) (s : Int) (l : List Int) : scanF r s l = scanl' r s l := by
  induction l generalizing s with
  | nil => rfl
  | cons a as ih => simp only [scanF, scanl', ih]

theorem scanF_length {σ α : Type} (r : σ → α → σ) : ∀ (s : σ) (l : List α), (scanF r s l).length = l.length
  | _, [] => rfl
  | s, a :: as => by simp [scanF, scanF_length r (r s a) as]

theorem Stg.fn_listSem (s : Stg) (p : Pipe) : s.fn (listSem p) = listSem (s.toPipe p) := by
  cases s with
  | map f => rfl
  | filter q => rfl
  | scan r seed => exact scanF_eq_scanl' r seed _
  | take n => rfl
  | skip n => rfl

theorem foldFn_listSem (ss : List Stg) (p : Pipe) :
    ss.foldl (fun l s => s.fn l) (listSem p) = listSem (ss.foldl (fun p s => s.toPipe p) p) := by
  induction ss generalizing p with
  | nil => rfl
  | cons s ss ih => simp only [List.foldl_cons, Stg.fn_listSem, ih]

theorem chainFn_eq_listSem (xs : List Int) (ss : List Stg) : chainFn ss xs = listSem (chainPipe xs ss) :=
  foldFn_listSem ss (Pipe.src xs)

theorem unfolds_listNextI (xs : List Int) : Unfolds listNextI xs xs := by
  induction xs with
  | nil => exact .nil rfl
  | cons a as ih => exact .cons rfl ih

/-- every stage but `take` is a relay, of a kind that passes every item on unless it has a slot and whose list function is the stage's:
what holds of those relays and of `take` holds of every stage machine -/
theorem Stg.relay_or_take {P : AnyM → Prop} (s : Stg)
    (relay : ∀ {σ : Type} (k : Relay.Kind σ Int Int), (k.slotted = false → ∀ x a, (k.xfer x a).2 ≠ none) →
      (∀ l, xferOut k.xfer k.seed l = s.fn l) → P (relayM k))
    (take : ∀ n, s = .take n → P (takeM n)) : P s.toM := by
  cases s with
  | map f => exact relay _ (Relay.map_ok f) (RelayFun.xferOut_map f _)
  | filter q => exact relay _ (Relay.filter_ok q) (RelayFun.xferOut_filter q _)
  | scan r seed => exact relay _ (Relay.scan_ok r seed) (RelayFun.xferOut_scan r seed _)
  | take n => exact take n rfl
  | skip n => exact relay _ (Relay.skip_ok n) (RelayFun.xferOut_skip_seed n)

theorem Stg.pipeable (s : Stg) : Pipeable s.toM.M :=
  s.relay_or_take (P := fun A => Pipeable A.M) (fun k hk _ => Relay.pipeable k hk) (fun n _ => Take.pipeable n)

theorem chain_induction {P : AnyM → Prop} (ss : List Stg) (step : ∀ s ∈ ss, ∀ A, P A → P (thenM A s.toM)) (A : AnyM) (h : P A) :
    P (ss.foldl (fun A s => thenM A s.toM) A) := by
  induction ss generalizing A with
  | nil => exact h
  | cons s ss ih => exact ih (fun t ht => step t (List.mem_cons_of_mem _ ht)) _ (step s List.mem_cons_self A h)

theorem head_forEach_correct {S L α β : Type} {M : Machine S L α β} {ys : List β} (h : HeadOk M ys) :
    ∀ s, SReach (compose M (ForEach.machine β)) s →
      BasicSafe s ∧ applied s.tr <+: ys ∧ (s.stack = [] → s.tr ≠ [] → applied s.tr = ys) := fun s hs =>
  ⟨(head_forEach_prefix_all h.up h.spec s hs).1, (head_forEach_prefix_all h.up h.spec s hs).2, closed_complete h s hs⟩

end Cb.Closed

#print axioms Cb.Closed.chainFn_eq_listSem
