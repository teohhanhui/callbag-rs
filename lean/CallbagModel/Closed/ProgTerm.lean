import CallbagModel.Closed.LinearCost
import CallbagModel.Inv.ComposeTerm
import CallbagModel.Inv.FlatPlugTerm
/-!
# The application returns: "… and then completes without stalling", at machine level

For a head closed with `for_each(f)` (`upSide_forEach_term`, which asks nothing of what the head delivers; `head_forEach_term`,
`head_forEach_nonvacuous`):

* progress: from every reachable configuration the machine runs — by operator steps alone — into an environment turn
  (no divergence between two boundary events);
* return: from every reachable configuration, operator steps and environment RETURNS (the closure calls returning) lead back to
  top level (`Drain`): whatever has happened, if the closures keep returning, the application returns;
* non-vacuity: hence there IS a reachable configuration with `s.stack = [] ∧ s.tr ≠ []`, at which the last clause of
  `head_forEach_correct` says `applied s.tr = ys`.

Method (`Inv/ComposeTerm.lean`): a potential for every operator, asked of every state and location (no invariants), composed
syntactically (`from_iter`'s loop is paid for by the length of the remaining list).  Safety (no panic) comes from the head.
-/
namespace Cb.Closed
open ComposeComplete ComposeTerm

theorem listNextI_len : ∀ (it : List Int) (a : Int) (it' : List Int), listNextI it = some (a, it') → it'.length < it.length := by
  intro it a it' h
  cases it with
  | nil => simp [listNextI] at h
  | cons x t => simp [listNextI] at h; obtain ⟨_, rfl⟩ := h; simp

theorem srcM_headPot (xs : List Int) : HeadPot (srcM xs).M :=
  HeadPot.fromIter Int listNextI xs List.length listNextI_len

theorem Stg.headPot (s : Stg) {A : AnyM} (h : HeadPot A.M) : HeadPot (thenM A s.toM).M := by
  cases s with
  | map f => exact h.relay (Relay.map f)
  | filter q => exact h.relay (Relay.filter q)
  | scan r seed => exact h.relay (Relay.scan r seed)
  | take n => exact h.take n
  | skip n => exact h.relay (Relay.skip n)

theorem _root_.Cb.ComposeTerm.upSide_forEach_term {St Loc α β : Type} {M : Machine St Loc α β} (U : UpSide M)
    (hn : ComposeFull.NoUpstream M) (hp : HeadPot M) :
    (∀ s, SReach (compose M (ForEach.machine β)) s → ∃ n, EnvTurn (advance (compose M (ForEach.machine β)) n s)) ∧
    (∀ s, SReach (compose M (ForEach.machine β)) s → ∃ t, SReach (compose M (ForEach.machine β)) t ∧ t.stack = [] ∧
      (s.tr ≠ [] → t.tr ≠ []) ∧ Drain (compose M (ForEach.machine β)) s t) := by
  obtain ⟨P, hg⟩ := hp.closed
  have hsafe := compose_safe_of_roles U ForEach.downSide
  have hno := ComposeFull.NoUpstream.compose hn (hyp_of_roles U ForEach.downSide)
  refine ⟨progress_of_pot P hg hsafe, fun s hs => ?_⟩
  obtain ⟨t, h1, h2, h3, _, h5⟩ := returns_of_pot P hg hsafe hno s hs
  exact ⟨t, h2, h3, h5, h1⟩

theorem head_forEach_term {S L : Type} {M : Machine S L Int Int} {ys : List Int} (h : HeadOk M ys) (hn : ComposeFull.NoUpstream M)
    (hp : HeadPot M) :
    (∀ s, SReach (compose M (ForEach.machine Int)) s → ∃ n, EnvTurn (advance (compose M (ForEach.machine Int)) n s)) ∧
    (∀ s, SReach (compose M (ForEach.machine Int)) s → ∃ t, SReach (compose M (ForEach.machine Int)) t ∧ t.stack = [] ∧
      (s.tr ≠ [] → t.tr ≠ []) ∧ Drain (compose M (ForEach.machine Int)) s t) :=
  upSide_forEach_term h.up hn hp

/-- after the application `for_each(f)(source)` — the only move of the environment at top level — the trace is not empty -/
theorem head_forEach_nonvacuous {S L : Type} {M : Machine S L Int Int} {ys : List Int} (h : HeadOk M ys) (hn : ComposeFull.NoUpstream M)
    (hp : HeadPot M) : ∃ s, SReach (compose M (ForEach.machine Int)) s ∧ s.stack = [] ∧ s.tr ≠ [] ∧ applied s.tr = ys := by
  have he := EnvStep.call (M := compose M (ForEach.machine Int)) (st := (compose M (ForEach.machine Int)).init) (stk := [])
    (g := {}) (tr := []) (.subscribe 0) rfl (by simp [legalIn, isTop])
  have hr := reach_env (SReachR.init (M := compose M (ForEach.machine Int)) (R := anyEnv)) he
  obtain ⟨t, h1, h2, h3, _⟩ := (head_forEach_term h hn hp).2 _ hr
  exact ⟨t, h1, h2, h3 (by simp), (head_forEach_correct h t h1).2.2 h2 (h3 (by simp))⟩

theorem inner_headPotW (k : Nat) :
    HeadPotW (srcM []).M (fun a => ({ (srcM []).M.init with it := rangeFrom a k } : (srcM []).St)) :=
  HeadPotW.fromIter Int listNextI [] List.length listNextI_len _ k (fun a => Nat.le_of_eq (rangeFrom_length a k))

end Cb.Closed

#print axioms Cb.ComposeTerm.upSide_forEach_term
