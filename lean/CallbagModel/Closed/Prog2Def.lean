import CallbagModel.Closed.ProgDef
import CallbagModel.Ops.FlatPlug
/-!
# Programs with `concat!` and `flatten(map(…))`: syntax, the machine, the syntax of `Ops/Pipeline.lean` — definitions only

`Prog2` = `Prog` + `flatRep k p` = `flatten(map(|a| from_iter(a .. a+k))(p))`.  `Prog2.toM` builds the machine with the constructors of
`Closed/Exec.lean` and `flatM` (below: the network `flatPlug` of `Ops/FlatPlug.lean`, every inner source an instance of the `from_iter`
machine started with the list `rangeFrom a k`), so that the compiled driver can build the same term; the proofs (`prog2_correct` … in
`Closed/Sub.lean`) are not imported here.
-/
namespace Cb.Closed

/-- `[a, a+1, …, a+n-1]` (the definition of `Driver/PipeDrv.lean`) -/
def rangeFrom (a : Int) (n : Nat) : List Int := (List.range n).map (fun (i : Nat) => a + Int.ofNat i)

inductive Prog2 where
  | src (xs : List Int)
  | stage (s : Stg) (p : Prog2)
  | concat (p q : Prog2)
  | flatRep (k : Nat) (p : Prog2)

/-- `flatten(map(|a| from_iter(a .. a+k))(A))`: the outer source `A`, flatten, and one `from_iter` machine per outer datum.
`nexts` = the outer's + the sum over the inner sources created so far. -/
def flatM (k : Nat) (A : AnyM) : AnyM :=
  { St := FPSt A.St (srcM []).St
    Loc := List (FFr A.Loc (Flatten.Loc Int) (srcM []).Loc)
    M := flatPlug A.M (srcM []).M (fun a => { (srcM []).M.init with it := rangeFrom a k })
    nexts := fun s => A.nexts s.outer + (s.inners.map (fun p => (srcM []).nexts p.2)).sum }

/-- the machine of a program -/
def Prog2.toM : Prog2 → AnyM
  | .src xs => srcM xs
  | .stage s p => thenM p.toM s.toM
  | .concat p q => plugM 0 p.toM (plugM 1 q.toM concat2M)
  | .flatRep k p => flatM k p.toM

/-- the program as syntax of `Ops/Pipeline.lean` -/
def Prog2.toPipe : Prog2 → Pipe
  | .src xs => Pipe.src xs
  | .stage s p => s.toPipe p.toPipe
  | .concat p q => Pipe.concat p.toPipe q.toPipe
  | .flatRep k p => Pipe.flatMap (fun a => Pipe.src (rangeFrom a k)) p.toPipe

/-- `from_iter(xs)` followed by unary stages -/
def Prog2.linear : Prog2 → Prop
  | .src _ => True
  | .stage _ p => p.linear
  | .concat _ _ => False
  | .flatRep _ _ => False

/-- the side condition of `prog2_correct`: every `take n` has `0 < n`, and the argument of every `flatRep` is linear (hence delivers data
only when pulled) -/
def Prog2.ok : Prog2 → Prop
  | .src _ => True
  | .stage s p => (∀ n, s = .take n → 0 < n) ∧ p.ok
  | .concat p q => p.ok ∧ q.ok
  | .flatRep _ p => p.linear ∧ p.ok

end Cb.Closed
