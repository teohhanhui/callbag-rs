import CallbagModel.Closed.ProgTerm
import CallbagModel.Inv.TakeTerm
/-!
# Linear programs over an UNBOUNDED iterator: `take` stops the pipeline

`pipe!(from_iter(it), pre…, take(n), post…, for_each(f))` for an ARBITRARY iterator `next : ι → Option (Int × ι)` started in `it0`
(it may never end), the stages `pre` above `take` non-dropping (`map`, `scan`), the stages `post` arbitrary:

* `linearInf_progress`: from every reachable configuration the machine runs into an environment turn (no divergence);
* `linearInf_returns`: from every reachable configuration, operator steps and environment RETURNS lead back to top level — the
  application returns if the closures do.

No functional hypothesis (no `Yields`/`Unfolds`): safety comes from the role conditions (`compose_safe_of_roles`), termination from the
potentials of `Inv/TakeTerm.lean`.  The restriction on `pre` is necessary: `filter(|_| false)` above `take` over an unbounded source
never answers.  `srcM xs = srcIM listNextI xs` by `rfl`, so the list-based chains are instances.
-/
namespace Cb.Closed
open ComposeTerm

def srcIM {ι : Type} (next : ι → Option (Int × ι)) (it0 : ι) : AnyM :=
  { St := FromIter.St ι Int, Loc := FromIter.Loc, M := FromIter.machine Int next it0, nexts := fun s => s.nexts }

example (xs : List Int) : srcM xs = srcIM listNextI xs := rfl

/-- `pipe!(from_iter(it), ss…)` -/
def chainIM {ι : Type} (next : ι → Option (Int × ι)) (it0 : ι) (ss : List Stg) : AnyM :=
  ss.foldl (fun A s => thenM A s.toM) (srcIM next it0)

def Stg.keeps : Stg → Prop
  | .map _ => True
  | .scan _ _ => True
  | _ => False

theorem Stg.headPotI (s : Stg) (hs : s.keeps) {A : AnyM} (h : HeadPotI A.M) : HeadPotI (thenM A s.toM).M := by
  cases s with
  | map f => exact h.relayND (Relay.map f) (Relay.map_ok f rfl)
  | scan r seed => exact h.relayND (Relay.scan r seed) (Relay.scan_ok r seed rfl)
  | filter q | take n | skip n => exact hs.elim

theorem chainI_headPot {ι : Type} (next : ι → Option (Int × ι)) (it0 : ι) (pre post : List Stg) (n : Nat)
    (hpre : ∀ s ∈ pre, s.keeps) : HeadPot (chainIM next it0 (pre ++ .take n :: post)).M := by
  unfold chainIM
  rw [List.foldl_append, List.foldl_cons]
  exact chain_induction (P := fun A => HeadPot A.M) post (fun s _ _ h => s.headPot h) _
    ((chain_induction (P := fun A => HeadPotI A.M) pre (fun s hs _ h => s.headPotI (hpre s hs) h) _ (HeadPotI.fromIter Int next it0)).take n)

theorem chainI_roles {ι : Type} (next : ι → Option (Int × ι)) (it0 : ι) (ss : List Stg) :
    UpSide (chainIM next it0 ss).M ∧ ComposeFull.NoUpstream (chainIM next it0 ss).M :=
  chain_induction (P := fun A => UpSide A.M ∧ ComposeFull.NoUpstream A.M) ss
    (fun s _ _ h => ⟨h.1.compose' s.pipeable, ComposeFull.NoUpstream.compose h.2 (hyp_of_roles h.1 s.pipeable.downSide)⟩) _
    ⟨FromIter.upSide next it0, ComposeFull.FromIter.noUpstream next it0⟩

/-- **`take` over an unbounded iterator stops: no divergence** -/
theorem linearInf_progress {ι : Type} (next : ι → Option (Int × ι)) (it0 : ι) (pre post : List Stg) (n : Nat)
    (hpre : ∀ s ∈ pre, s.keeps) :
    ∀ s, SReach (thenM (chainIM next it0 (pre ++ .take n :: post)) forEachM).M s →
      ∃ k, EnvTurn (advance (thenM (chainIM next it0 (pre ++ .take n :: post)) forEachM).M k s) :=
  (upSide_forEach_term (chainI_roles next it0 _).1 (chainI_roles next it0 _).2 (chainI_headPot next it0 pre post n hpre)).1

/-- **… and the application returns** if the closures do -/
theorem linearInf_returns {ι : Type} (next : ι → Option (Int × ι)) (it0 : ι) (pre post : List Stg) (n : Nat)
    (hpre : ∀ s ∈ pre, s.keeps) :
    ∀ s, SReach (thenM (chainIM next it0 (pre ++ .take n :: post)) forEachM).M s →
      ∃ t, SReach (thenM (chainIM next it0 (pre ++ .take n :: post)) forEachM).M t ∧ t.stack = [] ∧ (s.tr ≠ [] → t.tr ≠ []) ∧
        Drain (thenM (chainIM next it0 (pre ++ .take n :: post)) forEachM).M s t :=
  (upSide_forEach_term (chainI_roles next it0 _).1 (chainI_roles next it0 _).2 (chainI_headPot next it0 pre post n hpre)).2

/-- … safety, for every iterator and every chain -/
theorem linearInf_safe {ι : Type} (next : ι → Option (Int × ι)) (it0 : ι) (ss : List Stg) :
    ∀ s, SReach (thenM (chainIM next it0 ss) forEachM).M s → Safe s ∧ SafeFor 4 s ∧ SafeFor 5 s :=
  ComposeFull.closed_pipeline_full₀ (chainI_roles next it0 ss).1

section
/- The statement names the machine three times; kept opaque, the three are compared as written instead of being unfolded stage by stage
while the stage literals are still being elaborated. -/
attribute [local irreducible] chainIM thenM

/-- the natural numbers from `a`: `pipe!(from_iter(a..), map(·*2), take(3), filter(odd), for_each(f))` returns -/
example (a : Int) : ∀ s, SReach (thenM (chainIM (fun i : Int => some (i, i + 1)) a
      ([.map (· * 2)] ++ .take 3 :: [.filter (fun x => x % 2 == 1)])) forEachM).M s →
    ∃ t, SReach (thenM (chainIM (fun i : Int => some (i, i + 1)) a
      ([.map (· * 2)] ++ .take 3 :: [.filter (fun x => x % 2 == 1)])) forEachM).M t ∧ t.stack = [] ∧ (s.tr ≠ [] → t.tr ≠ []) ∧
      Drain (thenM (chainIM (fun i : Int => some (i, i + 1)) a
        ([.map (· * 2)] ++ .take 3 :: [.filter (fun x => x % 2 == 1)])) forEachM).M s t :=
  linearInf_returns _ a _ _ 3 (fun s hs => by simp at hs; subst hs; trivial)

end

end Cb.Closed

#print axioms Cb.Closed.linearInf_progress
#print axioms Cb.Closed.linearInf_returns
#print axioms Cb.Closed.linearInf_safe
