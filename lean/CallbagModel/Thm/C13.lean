import CallbagModel.Dual
import CallbagModel.Ops.Take
/-!
# C13 — subscriptions are independent: every output is a reusable, cold source

`DReach M a b` (Dual.lean): `a` and `b` are the configurations of two subscriptions to the same operator value after ANY
interleaving of their steps. The theorems are generic in the machine: they hold for every operator model except `share`, which is
the exception the property makes and whose model keeps its state across subscriptions inside one configuration.
Because these theorems are true by the shape of the model (per-subscription state only), the tie to the code carries the weight:
`./check C13` runs two overlapping subscriptions of ONE operator value on the real crate, with interleaved and nested moves, and
compares each projection with the solo run — state hoisted out of the `Handshake` branch shows up as a difference.
-/
namespace Cb.Thm
variable {St Loc α β : Type}

theorem C13_independent (M : Machine St Loc α β) {a b : Sys St Loc α β} (h : DReach M a b) : SReach M a ∧ SReach M b :=
  dual_independent M h

theorem C13_every_pair_of_solo_runs_interleaves (M : Machine St Loc α β) {a b : Sys St Loc α β} (ha : SReach M a) (hb : SReach M b) :
    DReach M a b :=
  dual_complete M ha hb

theorem C13_properties_transfer (M : Machine St Loc α β) (P : Sys St Loc α β → Prop) (h : ∀ s, SReach M s → P s)
    {a b : Sys St Loc α β} (hd : DReach M a b) : P a ∧ P b :=
  dual_transfer M P h hd

/-- instantiation: e.g. two overlapping subscriptions to `take(max)(source)` each count on their own -/
example (max : Nat) {a b : Sys Take.St (Take.Loc Nat) Nat Nat} (h : DReach (Take.machine Nat max) a b) :
    SReach (Take.machine Nat max) a ∧ SReach (Take.machine Nat max) b := C13_independent _ h

end Cb.Thm
