import CallbagModel.Thm.Replay
import CallbagModel.Ops.Combine
import CallbagModel.Ops.Share
import CallbagModel.Ops.Merge
/-!
# Counterexamples: the known deviations of the crate are reachable violations in the models

Each theorem is a kernel-checked witness `∃ s, SReach M s ∧ v ∈ s.g.viols`: a concrete script of a conformant environment
(`legalIn`/`legalRet`) is replayed on the model by `runFuel` (`Thm/Replay.lean`), `runFuel_reach` turns the replay into a
reachability proof, and the violation is read off the ghost monitor of the final configuration by evaluation (`decide`).

Script notation (header of `Script.lean`): `S<k>` subscribe · `U<k>p|t|e<id>` sink talkback · `G<i>` upstream greets ·
`D<i>d<v>|t|e<id>` upstream delivers · `R` return.
-/
namespace Cb.Thm

namespace CE

abbrev S (k : Nat) : Move Nat := .call (.subscribe k)
abbrev G (i : Nat) : Move Nat := .call (.srcGreet i)
abbrev Dd (i v : Nat) : Move Nat := .call (.srcDown i (.data v))
abbrev Dt (i : Nat) : Move Nat := .call (.srcDown i .term)
abbrev De (i e : Nat) : Move Nat := .call (.srcDown i (.err e))
abbrev Up (k : Nat) : Move Nat := .call (.sinkUp k .pull)
abbrev Ut (k : Nat) : Move Nat := .call (.sinkUp k .term)
abbrev Ue (k e : Nat) : Move Nat := .call (.sinkUp k (.err e))
abbrev R : Move Nat := .ret

/-- fuel for the operator between two environment moves: no handler in the scripts below runs longer -/
abbrev fuel : Nat := 16

/-- KF1: `S0 G0 R G1 R R D0e10` (then the handler returns) -/
def kf1 : List (Move Nat) := [S 0, G 0, R, G 1, R, R, De 0 10]
/-- KF2: `S0 G0 R G1 R R D0t U0p` -/
def kf2 : List (Move Nat) := [S 0, G 0, R, G 1, R, R, Dt 0, Up 0]
/-- KF3: `S0 G0 R G1 R R D0d1 D1d2 R U0p D0d3 U0t R R R R` -/
def kf3 : List (Move Nat) := [S 0, G 0, R, G 1, R, R, Dd 0 1, Dd 1 2, R, Up 0, Dd 0 3, Ut 0, R, R, R, R]
/-- KF5a: `S0 G0 R R S2 U2p D0d1 U0p D0d2 U0e20 R R D0e10 R R R` -/
def kf5a : List (Move Nat) := [S 0, G 0, R, R, S 2, Up 2, Dd 0 1, Up 0, Dd 0 2, Ue 0 20, R, R, De 0 10, R, R, R]
/-- KF5b: `S1 G0 R R S0 R D0d1 U1p D0d2 R U0e20 R R R` -/
def kf5b : List (Move Nat) := [S 1, G 0, R, R, S 0, R, Dd 0 1, Up 1, Dd 0 2, R, Ue 0 20, R, R, R]
/-- merge, late greeting after the sink disposed: `S0 G0 R R R U0t R G1` (then the handler returns to top level) -/
def lateGreet : List (Move Nat) := [S 0, G 0, R, R, R, Ut 0, R, G 1]
/-- merge, an upstream `Error` arrives inside the `Pull` broadcast: `S0 G0 R R G1 R U0p D0e10 R R R` -/
def pullAfterTerm : List (Move Nat) := [S 0, G 0, R, R, G 1, R, Up 0, De 0 10, R, R, R]

end CE
open CE

/-- KF1 (C05, combine): an upstream `Error` is counted as a completion: the live sink never receives it
(`errLost 10 0`), and the other upstream is still live when the handler has returned (`errSibling 10 1`). -/
theorem C05_combine_counterexample :
    ∃ s, SReach (Combine.machine Nat 2) s ∧ Viol.errLost 10 0 ∈ s.g.viols ∧ Viol.errSibling 10 1 ∈ s.g.viols :=
  reach_of_script (Combine.machine Nat 2) fuel kf1 (fun s => Viol.errLost 10 0 ∈ s.g.viols ∧ Viol.errSibling 10 1 ∈ s.g.viols)
    (by decide)

/-- KF2 (C04, combine): the sink's `Pull` is broadcast to an upstream that has already terminated. -/
theorem C04_combine_counterexample_ended :
    ∃ s, SReach (Combine.machine Nat 2) s ∧ Viol.upNotLive 0 .ended ∈ s.g.viols :=
  reach_of_script (Combine.machine Nat 2) fuel kf2 (fun s => Viol.upNotLive 0 .ended ∈ s.g.viols) (by decide)

/-- KF3 (C04, combine): a `Terminate` sent by the sink from inside a delivery that is nested in a `Pull` broadcast
disposes every upstream; the outer broadcast then resumes and pulls upstream 1, which is disposed. -/
theorem C04_combine_counterexample_disposed :
    ∃ s, SReach (Combine.machine Nat 2) s ∧ Viol.upNotLive 1 .disposed ∈ s.g.viols :=
  reach_of_script (Combine.machine Nat 2) fuel kf3 (fun s => Viol.upNotLive 1 .disposed ∈ s.g.viols) (by decide)

/-- KF5a (C02, share): the fan-out loop iterates over a snapshot of the sinks: sink 2 receives the terminal of a nested
delivery and then the datum of the outer loop, after its terminal. -/
theorem C02_share_counterexample :
    ∃ s, SReach (Share.machine Nat) s ∧ Viol.afterTerm 2 ∈ s.g.viols :=
  reach_of_script (Share.machine Nat) fuel kf5a (fun s => Viol.afterTerm 2 ∈ s.g.viols) (by decide)

/-- KF5b (C03, share): sink 0 disposes while an outer fan-out loop still holds it in its snapshot, and is delivered to
after it disposed. -/
theorem C03_share_counterexample :
    ∃ s, SReach (Share.machine Nat) s ∧ Viol.afterDispose 0 ∈ s.g.viols :=
  reach_of_script (Share.machine Nat) fuel kf5b (fun s => Viol.afterDispose 0 ∈ s.g.viols) (by decide)

/-! ## merge: the code before the fixes (`fx = false`) against the current code (`fx = true`) -/

/-- C04, merge before fix 39e2d74: a member that greets after the sink disposed is stored and never disposed. -/
theorem C04_merge_legacy_orphan :
    ∃ s, SReach (Merge.machine Nat 2 false) s ∧ Viol.orphan 1 ∈ s.g.viols :=
  reach_of_script (Merge.machine Nat 2 false) fuel lateGreet (fun s => Viol.orphan 1 ∈ s.g.viols) (by decide)

/-- … and when that member then delivers (`D1d1`), the disposed sink receives the datum (C03). -/
theorem C04_merge_legacy_orphan_delivers :
    ∃ s, SReach (Merge.machine Nat 2 false) s ∧ Viol.orphan 1 ∈ s.g.viols ∧ Viol.afterDispose 0 ∈ s.g.viols :=
  reach_of_script (Merge.machine Nat 2 false) fuel (lateGreet ++ [Dd 1 1])
    (fun s => Viol.orphan 1 ∈ s.g.viols ∧ Viol.afterDispose 0 ∈ s.g.viols) (by decide)

/-- the current code on the same script (the late member is disposed at once, inside its greeting): no violation, neither
while that `Terminate` is open nor after it returned to top level -/
theorem C04_merge_fixed_orphan :
    (runInit (Merge.machine Nat 2 true) fuel lateGreet).map (·.g.viols) = some [] ∧
    (runInit (Merge.machine Nat 2 true) fuel (lateGreet ++ [R])).map (·.g.viols) = some [] := by
  decide

/-- C04, merge before fix eb7070b: an upstream `Error` arriving inside the `Pull` broadcast disposes the other member;
the broadcast resumes and pulls that disposed member. -/
theorem C04_merge_legacy_pull_after_terminate :
    ∃ s, SReach (Merge.machine Nat 2 false) s ∧ Viol.upNotLive 1 .disposed ∈ s.g.viols :=
  reach_of_script (Merge.machine Nat 2 false) fuel pullAfterTerm (fun s => Viol.upNotLive 1 .disposed ∈ s.g.viols) (by decide)

/-- the current code on the same script: no violation -/
theorem C04_merge_fixed_pull_after_terminate :
    (runInit (Merge.machine Nat 2 true) fuel pullAfterTerm).map (·.g.viols) = some [] := by
  decide

end Cb.Thm
#print axioms Cb.Thm.runFuel_reach
#print axioms Cb.Thm.witness_of_script
#print axioms Cb.Thm.C05_combine_counterexample
#print axioms Cb.Thm.C04_combine_counterexample_ended
#print axioms Cb.Thm.C04_combine_counterexample_disposed
#print axioms Cb.Thm.C02_share_counterexample
#print axioms Cb.Thm.C03_share_counterexample
#print axioms Cb.Thm.C04_merge_legacy_orphan
#print axioms Cb.Thm.C04_merge_legacy_orphan_delivers
#print axioms Cb.Thm.C04_merge_fixed_orphan
#print axioms Cb.Thm.C04_merge_legacy_pull_after_terminate
#print axioms Cb.Thm.C04_merge_fixed_pull_after_terminate
