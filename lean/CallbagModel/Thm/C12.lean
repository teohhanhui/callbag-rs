import CallbagModel.Fun.Share
/-!
# C12 — share: one upstream subscription, reference-counted over its sinks

Environments are those of C12's own quantifier: conformant, and the source does not deliver from inside one of share's own
deliveries (`noNestedFanout`, Env.lean); any number of sinks.  `shareOk tr` (Spec.lean): a sink attaching while none is attached
starts a FRESH upstream subscription, any other is greeted at once; the sink's `Terminate`/`Error` that empties the attached list is
followed by `Terminate` upstream, any other just returns; upstream is never terminated otherwise; a new upstream subscription is
made only when every earlier one has ended or been disposed (at most one alive).  `ShareFun.share_fanout_reach` (Fun/Share.lean): every attached sink receives every
datum emitted while it is attached, in attachment order, one call each.
-/
namespace Cb.Thm
open Cb.ShareFun

theorem C12_share {α : Type} [DecidableEq α] :
    ∀ s, SReachR (Share.machine α) noNestedFanout s → EnvTurn s → shareOk s.tr = true :=
  share_spec

/-- the trace-level notion of "attached" is the operator's sink list -/
theorem C12_attached_is_refcount {α : Type} (s : Sys Share.St (Share.Loc α) α α)
    (hs : SReachR (Share.machine α) noNestedFanout s) (ht : EnvTurn s) :
    attached s.tr = expAtt s.st.sinks s.stack ∧ subscriptions s.tr = List.range s.st.gen :=
  share_attached s hs ht

end Cb.Thm
