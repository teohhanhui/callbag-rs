import CallbagModel.Inv.Pipeline
import CallbagModel.Closed.RelayPipe
import CallbagModel.Closed.TakePipe
import CallbagModel.Inv.ComposeClosed
import CallbagModel.Inv.ComposeComplete
import CallbagModel.Inv.ConcatN
import CallbagModel.Closed.Prog3
import CallbagModel.Closed.LinearInf
import CallbagModel.Closed.LinearCost
import CallbagModel.Closed.LinearInfCost
import CallbagModel.Closed.Prog3Wide
import CallbagModel.Closed.Sub
/-!
# C06 — iterable programming: pull pipelines compute the corresponding list function

Layer L1 of DESIGN §4: `Pipe` is the applied form of `pipe!(from_iter(xs), stages…)` (the macro is plain left-to-right application;
`./check C06` compares macro instances of length 2–6 and a nested one with the nested application on the real crate); `listSem` is the
list function (map, filter, running fold, take, drop, append, concat-map); `sem p dem` is the demand-driven semantics of the pull
protocol: the items a consumer receives and the number of `Iterator::next` calls made, when it pulls to the end (`none`) or `d`
times (`some d`).  The theorems hold for EVERY pipeline (any nesting depth), all closures, all parameters, all finite inputs.
`sem` is tied to the crate by `./check C06` (random programs run on the real operators with counting iterators: the arguments of
`for_each`'s closure, completion, and the number of iterator advances must equal `listSem` / `sem`).
Layer L2 (the NETWORK of the operator machines of `Ops/*.lean`, built with `compose`, `plug` and `flatPlug`, closed by `from_iter` and
`for_each`): first the one-stage closed pipelines `pipe!(from_iter(it), op, for_each(f))`, then closed pipelines of any length, then
programs quantified over their syntax (sources, unary stages, `concat!` of any arity, `flatten(map(…))`): the result, both monitor
layers, completion and the iterator cost, each for the syntax and under the side condition its section states.  Each section says what
it leaves to the comparison (`./check C06` also runs the programs of its random stream on the composed machines, `Closed/Exec.lean`,
and compares with `sem` and with the crate).
-/
namespace Cb.Thm
open Cb.ComposeComplete

/-- f is called on exactly the elements of the corresponding list function, in order -/
theorem C06_computes_list_function (p : Pipe) : (sem p none).1 = listSem p := sem_none p

/-- laziness yields a prefix: a consumer that pulls `d` times receives the first `d` elements -/
theorem C06_prefix (p : Pipe) (d : Nat) : (sem p (some d)).1 = (listSem p).take d := sem_some p d

/-- the iterator is advanced only on demand -/
theorem C06_on_demand (p : Pipe) (d : Nat) : (sem p (some d)).2 ≤ (sem p none).2 := cost_mono p d
theorem C06_no_pull_no_advance (p : Pipe) : (sem p (some 0)).2 = 0 := cost_zero p

/-- … once per element delivered plus once to discover exhaustion -/
theorem C06_source_cost (xs : List Int) : (sem (.src xs) none).2 = xs.length + 1 := cost_src xs
theorem C06_source_cost_partial_demand (xs : List Int) (d : Nat) (h : d ≤ xs.length) : (sem (.src xs) (some d)).2 = d :=
  cost_src_some xs d h

/-- take over an arbitrarily long (in the limit: unbounded) iterator stops after exactly `n` advances, whatever follows -/
theorem C06_take_stops (n : Nat) (xs ys : List Int) (h : n ≤ xs.length) :
    sem (.take n (.src (xs ++ ys))) none = sem (.take n (.src xs)) none ∧ (sem (.take n (.src xs)) none).2 = n :=
  take_stops n xs ys h

/-- non-vacuity: a nested program with every kind of stage -/
example : (sem (.take 4 (.flatMap (fun a => .skip 1 (.src [a, a + 1, a + 2])) (.filter (· % 2 == 1) (.concat (.src [1, 2]) (.map (· * 3) (.src [1, 4])))))) none)
    = ([2, 3, 4, 5], 11) := by decide

/-! ## the network of operator machines (layer L2, one-stage closed pipelines)

`Closed.relayPipe next it0 k` = `compose (compose (FromIter.machine …) (Relay.machine k)) (ForEach.machine …)`: the three operator
machines wired by `compose` (internal synchronous calls), closed: the only environment moves are the application
`for_each(f)(source)` and the returns of the closure calls (`Closed.env_moves`).  `Closed.apps tr` are the arguments of the closure
calls in order; `nexts` is from_iter's ghost counter of `Iterator::next` calls.  The iterator is an arbitrary state machine. -/

/-- `f` is only ever applied to a prefix of the list function, in order; no `expect`/`unwrap` fires -/
theorem C06_machines_relay_prefix {ι σ α β : Type} (next : ι → Option (α × ι)) (it0 : ι) (k : Relay.Kind σ α β) (xs : List α)
    (hk : k.slotted = false → ∀ s a, (k.xfer s a).2 ≠ none) (hx : Closed.Unfolds next it0 xs) :
    ∀ s, SReach (Closed.relayPipe next it0 k) s →
      s.panicked = none ∧ ∃ m, Closed.apps s.tr = (xferOut k.xfer k.seed xs).take m :=
  Closed.relayPipe_prefix next it0 k xs hk hx

/-- when the application has returned, `f` has been applied to exactly the list function and the iterator was advanced once per
element plus once to discover exhaustion -/
theorem C06_machines_relay_complete {ι σ α β : Type} (next : ι → Option (α × ι)) (it0 : ι) (k : Relay.Kind σ α β) (xs : List α)
    (hk : k.slotted = false → ∀ s a, (k.xfer s a).2 ≠ none) (hx : Closed.Unfolds next it0 xs) :
    ∀ s, SReach (Closed.relayPipe next it0 k) s → s.stack = [] → s.tr ≠ [] →
      Closed.apps s.tr = xferOut k.xfer k.seed xs ∧ s.st.1.1.nexts = xs.length + 1 :=
  Closed.relayPipe_complete next it0 k xs hk hx

/-- the pipeline never diverges between two closure calls (a filter may drop arbitrarily many items in a row) -/
theorem C06_machines_relay_progress {ι σ α β : Type} (next : ι → Option (α × ι)) (it0 : ι) (k : Relay.Kind σ α β) (xs : List α)
    (hk : k.slotted = false → ∀ s a, (k.xfer s a).2 ≠ none) (hx : Closed.Unfolds next it0 xs) :
    ∀ s, SReach (Closed.relayPipe next it0 k) s → ∃ n, EnvTurn (advance (Closed.relayPipe next it0 k) n s) :=
  Closed.relayPipe_progress next it0 k xs hk hx

/-- laziness, on the machines: `pipe!(from_iter(it), take(max), for_each(f))` with an iterator that yields at least `max` items —
possibly infinitely many — applies `f` to the first `max` and advances the iterator exactly `max` times (no read-ahead) -/
theorem C06_machines_take_lazy {ι α : Type} (next : ι → Option (α × ι)) (it0 : ι) (max : Nat) (xs : List α)
    (hy : Closed.TakeP.Yields next it0 xs) (hl : xs.length = max) :
    (∀ s, SReach (Closed.TakeP.takePipe next it0 max) s →
      s.panicked = none ∧ (∃ m, Closed.TakeP.apps s.tr = xs.take m) ∧ s.st.1.1.nexts ≤ max) ∧
    (∀ s, SReach (Closed.TakeP.takePipe next it0 max) s → s.stack = [] → s.tr ≠ [] →
      Closed.TakeP.apps s.tr = xs ∧ s.st.1.1.nexts = max) :=
  Closed.TakeP.takePipe_lazy next it0 max xs hy hl

/-- … and with a shorter iterator: all of it, `length + 1` advances -/
theorem C06_machines_take_short {ι α : Type} (next : ι → Option (α × ι)) (it0 : ι) (max : Nat) (xs : List α)
    (hx : Closed.TakeP.Unfolds next it0 xs) (hl : xs.length < max) :
    (∀ s, SReach (Closed.TakeP.takePipe next it0 max) s →
      s.panicked = none ∧ (∃ m, Closed.TakeP.apps s.tr = xs.take m) ∧ s.st.1.1.nexts ≤ xs.length + 1) ∧
    (∀ s, SReach (Closed.TakeP.takePipe next it0 max) s → s.stack = [] → s.tr ≠ [] →
      Closed.TakeP.apps s.tr = xs ∧ s.st.1.1.nexts = xs.length + 1) :=
  Closed.TakeP.takePipe_short next it0 max xs hx hl

/-- it terminates whatever the iterator (even infinite), never panics, and applies `f` at most `max` times -/
theorem C06_machines_take_progress {ι α : Type} (next : ι → Option (α × ι)) (it0 : ι) (max : Nat) :
    ∀ s, SReach (Closed.TakeP.takePipe next it0 max) s →
      s.panicked = none ∧ (Closed.TakeP.apps s.tr).length ≤ max ∧ ∃ n, EnvTurn (advance (Closed.TakeP.takePipe next it0 max) n s) :=
  Closed.TakeP.takePipe_progress next it0 max

/-! ## closed pull pipelines of ANY length (safety half of layer L2)

`pipe!(from_iter(it), stage₁, …, stageₙ, for_each(f))` as nested `compose`s of the operator machines.  At EVERY reachable configuration
no interface records a protocol violation, nothing panics, and `f` has been applied to a PREFIX of `F xs`, in order, where `xs` are the
iterator's items and `F` the composition of the stages' list functions (`MonoStage`: a pipeable stage with a prefix-monotone list
function; closed under `compose`).  For infinite iterators: `closed_pipeline_gen` (the closure has been applied to exactly `F` of some
finite unfolding). -/

theorem C06_closed_pipeline_prefix {S1 L1 S2 L2 α β γ : Type} {Msrc : Machine S1 L1 α β} {Mmid : Machine S2 L2 β γ}
    {xs : List β} {F : List β → List γ} (hsrc : UpSide Msrc) (hspec : SrcSpec Msrc xs) (hmid : MonoStage Mmid F) :
    ∀ s, SReach (compose (compose Msrc Mmid) (ForEach.machine γ)) s → BasicSafe s ∧ applied s.tr <+: F xs :=
  closed_pipeline_prefix_all hsrc hspec hmid

/-- worked instance: `pipe!(from_iter(it), filter(p), map(f), take(n), for_each(g))` -/
theorem C06_closed_filter_map_take {ι α β : Type} (next : ι → Option (α × ι)) (it0 : ι) (xs : List α)
    (hx : Closed.Unfolds next it0 xs) (p : α → Bool) (f : α → β) (n : Nat) :
    ∀ s, SReach (compose (compose (FromIter.machine Unit next it0)
        (compose (compose (Relay.machine (Relay.filter p)) (Relay.machine (Relay.map f))) (Take.machine β n)))
        (ForEach.machine β)) s → BasicSafe s ∧ applied s.tr <+: ((xs.filter p).map f).take n :=
  fromIter_filter_map_take_forEach next it0 xs hx p f n

/-! ## closed pull pipelines of ANY length: completeness (layer L2 for linear programs)

`DemandStage M F` (`Inv/ComposeComplete.lean`): a monotone stage which, at its top level, keeps its upstream live while its sink is
live, has forwarded an unserved Pull of its sink (`aP → bP`: if the last event at the sink interface is a Pull, the last event at the
upstream interface is a Pull), and ends its sink only when its output is final.  Closed under `compose`; instances: every relay
(map, filter, scan, skip) and `take(max)` with `0 < max`.  With `from_iter` as the head (`HeadOk`: a Pull is served before control
returns; the terminal comes only after exhaustion) and `for_each` as the tail (it owes no Pull only when its upstream has ended), at
the pipeline's top level after the application the upstream of `for_each` has ended, hence everything has been applied.
That the application returns (termination of the drain) and the number of iterator advances are not proved for an arbitrary
`DemandStage` but for one stage above (`C06_machines_relay_progress`, `C06_machines_take_progress`) and for programs given by their
syntax in the sections on completion and on the cost below. -/

theorem C06_closed_pipeline_correct {ι α α' β S L : Type} (next : ι → Option (α × ι)) (it0 : ι) (xs : List α)
    (hx : Closed.Unfolds next it0 xs) {Mmid : Machine S L α β} {F : List α → List β} (hmid : DemandStage Mmid F) :
    ∀ s, SReach (compose (compose (FromIter.machine α' next it0) Mmid) (ForEach.machine β)) s →
      BasicSafe s ∧ applied s.tr <+: F xs ∧ (s.stack = [] → s.tr ≠ [] → applied s.tr = F xs) :=
  closed_pipeline_correct next it0 xs hx hmid

/-- the stages, and their closure under composition -/
theorem C06_demand_stages {α β : Type} (f : α → β) (p : α → Bool) (r : β → α → β) (seed : β) (n max : Nat) (hmax : 0 < max) :
    DemandStage (Relay.machine (Relay.map f)) (List.map f) ∧ DemandStage (Relay.machine (Relay.filter p)) (List.filter p) ∧
    DemandStage (Relay.machine (Relay.scan r seed)) (scanF r seed) ∧ DemandStage (Relay.machine (Relay.skip (α := α) n)) (List.drop n) ∧
    DemandStage (Take.machine α max) (List.take max) :=
  ⟨Relay.map_demandStage f, Relay.filter_demandStage p, Relay.scan_demandStage r seed, Relay.skip_demandStage n, Take.demandStage max hmax⟩

theorem C06_demand_stage_compose {S1 L1 S2 L2 α β γ : Type} {M1 : Machine S1 L1 α β} {M2 : Machine S2 L2 β γ}
    {F1 : List α → List β} {F2 : List β → List γ} (d1 : DemandStage M1 F1) (d2 : DemandStage M2 F2) :
    DemandStage (compose M1 M2) (F2 ∘ F1) := d1.compose d2

/-- worked instance: `pipe!(from_iter(it), filter(p), map(f), take(n), for_each(g))`, `n ≥ 1` -/
theorem C06_closed_filter_map_take_correct {ι α β : Type} (next : ι → Option (α × ι)) (it0 : ι) (xs : List α)
    (hx : Closed.Unfolds next it0 xs) (p : α → Bool) (f : α → β) (n : Nat) (hn : 0 < n) :
    ∀ s, SReach (compose (compose (FromIter.machine Unit next it0)
        (compose (compose (Relay.machine (Relay.filter p)) (Relay.machine (Relay.map f))) (Take.machine β n))) (ForEach.machine β)) s →
      BasicSafe s ∧ applied s.tr <+: ((xs.filter p).map f).take n ∧
        (s.stack = [] → s.tr ≠ [] → applied s.tr = ((xs.filter p).map f).take n) :=
  fromIter_filter_map_take_forEach_complete next it0 xs hx p f n hn

/-! ## every linear program, quantified over the program SYNTAX, for exactly the machines the differential check runs

`Closed.chainM xs ss` is the term `cbdrv pipe` builds from a program text (`Closed/LinearDef.lean` is shared by the driver and by this
theorem); `chainPipe xs ss : Pipe` is the same program as syntax of `Ops/Pipeline.lean`, so `listSem` here is the `listSem` of the L1
theorems above. -/

theorem C06_every_linear_program (xs : List Int) (ss : List Closed.Stg) (hpos : ∀ n, Closed.Stg.take n ∈ ss → 0 < n) :
    ∀ s, SReach (Closed.thenM (Closed.chainM xs ss) Closed.forEachM).M s →
      BasicSafe s ∧ applied s.tr <+: listSem (Closed.chainPipe xs ss) ∧
      (s.stack = [] → s.tr ≠ [] → applied s.tr = listSem (Closed.chainPipe xs ss)) :=
  Closed.linear_correct xs ss hpos

/-! ## every program of sources, unary stages and `concat!` — quantified over the syntax, for the machines the check runs

`Closed.Prog` (`Closed/ProgDef.lean`, shared with the driver): `src xs | stage s p | concat p q`; `Prog.toM`: stages composed, the two
members of a `concat!` PLUGGED into the slots of the binary concat machine (`Ops/Plug.lean`).  The proof (`Inv/PlugSafe.lean`,
`Inv/ConcatK.lean`, `Inv/PlugConcat.lean`) is the assume–guarantee projection for `plug` with traces, four small-step invariants of `concat`, and a head
specification strengthened to every environment turn and to "no Error" (`HeadOkT`: plain `HeadOk` does not compose through `concat!` —
a member may still be inside its own terminal delivery when the next member starts, and a head that ends with an Error makes
`concat!` skip the rest). -/

theorem C06_every_program_with_concat (p : Closed.Prog) (hpos : p.takesPos) :
    ∀ s, SReach (Closed.thenM p.toM Closed.forEachM).M s →
      BasicSafe s ∧ applied s.tr <+: listSem p.toPipe ∧ (s.stack = [] → s.tr ≠ [] → applied s.tr = listSem p.toPipe) :=
  Closed.prog_correct p hpos

/-- … and it is fully safe (both monitor layers: C04, C05) -/
theorem C06_every_program_with_concat_safe (p : Closed.Prog) (hpos : p.takesPos) :
    ∀ s, SReach (Closed.thenM p.toM Closed.forEachM).M s → Safe s ∧ SafeFor 4 s ∧ SafeFor 5 s :=
  Closed.prog_safe p hpos

/-! ## … and `flatten(map(…))`

`Closed.Prog2 = src | stage | concat | flatRep k p` (`flatRep k p` = `flatten(map(|a| from_iter(a .. a+k))(p))`); `Prog2.toM` builds the
network `flatPlug` of `Ops/FlatPlug.lean`: the outer source, the `Flatten` machine, and one `from_iter` machine per outer datum, created
when flatten subscribes to it.  Side condition `Prog2.ok`: `take n` with `n ≥ 1`, and the argument of every `flatRep` is LINEAR — it then
delivers data only when pulled (`PullOnly`), so flatten never switches away from a live inner source.  Without that the statement is
FALSE against lazy sinks (execution in the header of `Inv/FlatPlugFun.lean`: `flatten` over `concat!(take(1)(…), …)`: concat's `got_pull`
is sticky, the unrequested datum makes flatten drop a live inner — observation O7 of DESIGN §9.4); closed with the eager `for_each` such
programs are covered by the differential comparison only, as is the `tri` family (`flatRep` over `flatRep` and n-ary `concat!` as one
machine: the sections below). -/

theorem C06_every_program (p : Closed.Prog2) (hok : p.ok) :
    ∀ s, SReach (Closed.thenM p.toM Closed.forEachM).M s →
      BasicSafe s ∧ applied s.tr <+: listSem p.toPipe ∧ (s.stack = [] → s.tr ≠ [] → applied s.tr = listSem p.toPipe) :=
  Closed.prog2_correct p hok

theorem C06_every_program_safe (p : Closed.Prog2) (hok : p.ok) :
    ∀ s, SReach (Closed.thenM p.toM Closed.forEachM).M s → Safe s ∧ SafeFor 4 s ∧ SafeFor 5 s :=
  Closed.prog2_safe p hok

/-! ## "… and then completes without stalling"

`Inv/ComposeTerm.lean`: syntactic POTENTIALS — a machine has a potential if every micro-step of every handler decreases a measure
(`Ψ` of the state + `ρ` of the running location / `ω` of a waiting one) by more than what the callee of each call may spend; potentials
compose through `compose`, `plug` and `flatPlug` (the callee's `ω` is charged at its entry location), `from_iter` pays for its loop with
the length of the remaining list, all other handlers are loop-free.  With no panic (from the correctness theorems) this gives, for
EVERY program: from every reachable configuration the network runs into an environment turn (no divergence between two closure
calls), and if the closures keep returning the application returns (`Drain`: operator steps and environment RETURNS only) — so the last
clause of `C06_every_program` is never vacuous. -/

theorem C06_every_program_completes (p : Closed.Prog2) (hok : p.ok) :
    (∀ s, SReach (Closed.thenM p.toM Closed.forEachM).M s → ∃ n, EnvTurn (advance (Closed.thenM p.toM Closed.forEachM).M n s)) ∧
    (∀ s, SReach (Closed.thenM p.toM Closed.forEachM).M s → ∃ t, SReach (Closed.thenM p.toM Closed.forEachM).M t ∧ t.stack = [] ∧
      (s.tr ≠ [] → t.tr ≠ []) ∧ ComposeTerm.Drain (Closed.thenM p.toM Closed.forEachM).M s t) ∧
    (∃ s, SReach (Closed.thenM p.toM Closed.forEachM).M s ∧ s.stack = [] ∧ s.tr ≠ [] ∧ applied s.tr = listSem p.toPipe) :=
  ⟨Closed.prog2_progress p hok, Closed.prog2_returns p hok, Closed.prog2_nonvacuous p hok⟩

/-! ## n-ary `concat!` as ONE machine

For n ≥ 3 the driver plugs every member into the n-ary concat machine (`Closed.concatM`: a fold of `plugM` over the members, slot 0
innermost).  `Inv/ConcatN.lean` proves the head specification for exactly that term, by induction on the number of plugged slots
(a PARTIALLY plugged concat machine projects onto the concat machine alone; each plugged member is summarised by what that machine's
trace says at its index), hence: -/

theorem C06_nary_concat (As : List Closed.AnyM) (hne : 0 < As.length) (ys : Nat → List Int)
    (h : ∀ i (hi : i < As.length), PlugConcat.HeadOkT As[i].M (ys i) ∧ ComposeFull.NoUpstream As[i].M) :
    ∀ s, SReach (Closed.thenM (Closed.concatM As) Closed.forEachM).M s →
      BasicSafe s ∧ applied s.tr <+: ConcatN.catN ys As.length ∧
      (s.stack = [] → s.tr ≠ [] → applied s.tr = ConcatN.catN ys As.length) :=
  ConcatN.concatN_correct As hne ys h

/-! ## all of it over one syntax: `Prog3 = src | stage | concat2 | concatN | flatRep`

`Prog3.toM` builds exactly the terms of the driver (binary `concat!`: both slots of the binary machine plugged; three or more members:
`concatM`).  This is the theorem the C06 comparison stream is run against: every program of the stream that does not use the `tri`
family is `(toProg3 text).toM`. -/

theorem C06_every_program_nary (p : Closed.Prog3) (hok : p.ok) :
    (∀ s, SReach (Closed.thenM p.toM Closed.forEachM).M s →
      BasicSafe s ∧ applied s.tr <+: listSem p.toPipe ∧ (s.stack = [] → s.tr ≠ [] → applied s.tr = listSem p.toPipe)) ∧
    (∀ s, SReach (Closed.thenM p.toM Closed.forEachM).M s → Safe s ∧ SafeFor 4 s ∧ SafeFor 5 s) ∧
    (∀ s, SReach (Closed.thenM p.toM Closed.forEachM).M s → ∃ n, EnvTurn (advance (Closed.thenM p.toM Closed.forEachM).M n s)) ∧
    (∃ s, SReach (Closed.thenM p.toM Closed.forEachM).M s ∧ s.stack = [] ∧ s.tr ≠ [] ∧ applied s.tr = listSem p.toPipe) :=
  ⟨Closed.prog3_correct p hok, Closed.prog3_safe p hok, Closed.prog3_progress p hok, Closed.prog3_nonvacuous p hok⟩

/-! ## "… so `take` over an UNBOUNDED iterator stops" — for chains of any length

`Closed.chainIM next it0 ss`: the linear network over an ARBITRARY iterator `next : ι → Option (Int × ι)` (a state machine, possibly
infinite; `srcM xs` is the instance `listNextI`).  If the chain contains a `take n` and the stages ABOVE it never drop (map, scan —
a `filter` rejecting everything over an unbounded source really diverges, and the property excludes it), every reachable configuration
runs into an environment turn and the application returns if the closures do.  The potential of `from_iter` here is length-free: an
iteration of its loop is paid by the Pull that set `got_pull`; the circle "a delivery pays the next Pull pays the next iteration pays the
next delivery" is broken by `take`'s budget `(max − taken)·R` (`Inv/TakeTerm.lean`).  The stages below `take` are unrestricted.
Safety (both layers) holds for every chain over every iterator. -/

theorem C06_take_over_unbounded_stops {ι : Type} (next : ι → Option (Int × ι)) (it0 : ι) (pre post : List Closed.Stg) (n : Nat)
    (hpre : ∀ s ∈ pre, s.keeps) :
    (∀ s, SReach (Closed.thenM (Closed.chainIM next it0 (pre ++ .take n :: post)) Closed.forEachM).M s →
      ∃ k, EnvTurn (advance (Closed.thenM (Closed.chainIM next it0 (pre ++ .take n :: post)) Closed.forEachM).M k s)) ∧
    (∀ s, SReach (Closed.thenM (Closed.chainIM next it0 (pre ++ .take n :: post)) Closed.forEachM).M s →
      ∃ t, SReach (Closed.thenM (Closed.chainIM next it0 (pre ++ .take n :: post)) Closed.forEachM).M t ∧ t.stack = [] ∧
        (s.tr ≠ [] → t.tr ≠ []) ∧
        ComposeTerm.Drain (Closed.thenM (Closed.chainIM next it0 (pre ++ .take n :: post)) Closed.forEachM).M s t) :=
  ⟨Closed.linearInf_progress next it0 pre post n hpre, Closed.linearInf_returns next it0 pre post n hpre⟩

theorem C06_unbounded_safe {ι : Type} (next : ι → Option (Int × ι)) (it0 : ι) (ss : List Closed.Stg) :
    ∀ s, SReach (Closed.thenM (Closed.chainIM next it0 ss) Closed.forEachM).M s → Safe s ∧ SafeFor 4 s ∧ SafeFor 5 s :=
  Closed.linearInf_safe next it0 ss

/-! ## "The iterator is advanced only on demand": the cost, on the machines, for every linear program

`nexts` is from_iter's ghost counter of `Iterator::next` calls inside the network; `(sem p none).2` is the cost of the demand semantics
(the L1 theorems at the top of this file are about it).  `Inv/ComposeCost.lean`: a demand transformer per stage mirroring `sem`
(`Stg.up`: map/scan keep the demand; `filter q`: `needFor q d ys`; `skip n`: `d + n`; `take n`: `min n d`), an upper bound conditional on
the sink's demand (`HeadUp`: each stage pulls upstream only while it still wants items) and a lower bound at rest (`HeadLow`), both
composed through `compose` by the projection with traces. -/

/-- never more advances than the demand semantics says, and exactly that many when the application has returned -/
theorem C06_linear_cost (xs : List Int) (ss : List Closed.Stg) (hpos : ∀ n, Closed.Stg.take n ∈ ss → 0 < n) :
    ∀ s, SReach (Closed.thenM (Closed.chainM xs ss) Closed.forEachM).M s →
      (Closed.thenM (Closed.chainM xs ss) Closed.forEachM).nexts s.st ≤ (sem (Closed.chainPipe xs ss) none).2 ∧
      (s.stack = [] → s.tr ≠ [] →
        (Closed.thenM (Closed.chainM xs ss) Closed.forEachM).nexts s.st = (sem (Closed.chainPipe xs ss) none).2) :=
  Closed.linear_cost xs ss hpos

/-- laziness: below a `take n` whose upstream stages never drop, the iterator is advanced at most `n` times — whatever follows the
take and however long the input is -/
theorem C06_linear_cost_take (xs : List Int) (pre post : List Closed.Stg) (n : Nat) (hpre : ∀ s ∈ pre, s.keeps')
    (hpos : ∀ m, Closed.Stg.take m ∈ pre ++ .take n :: post → 0 < m) :
    ∀ s, SReach (Closed.thenM (Closed.chainM xs (pre ++ .take n :: post)) Closed.forEachM).M s →
      (Closed.thenM (Closed.chainM xs (pre ++ .take n :: post)) Closed.forEachM).nexts s.st ≤ n ∧
      (n ≤ xs.length → (Closed.thenM (Closed.chainM xs (pre ++ .take n :: post)) Closed.forEachM).nexts s.st < xs.length + 1) :=
  Closed.linear_cost_take xs pre post n hpre hpos

/-- … and with arbitrary stages above the take: at most the cost of producing `n` outputs of the upper part -/
theorem C06_linear_cost_take_gen (xs : List Int) (pre post : List Closed.Stg) (n : Nat)
    (hpos : ∀ m, Closed.Stg.take m ∈ pre ++ .take n :: post → 0 < m) :
    ∀ s, SReach (Closed.thenM (Closed.chainM xs (pre ++ .take n :: post)) Closed.forEachM).M s →
      (Closed.thenM (Closed.chainM xs (pre ++ .take n :: post)) Closed.forEachM).nexts s.st ≤ (sem (Closed.chainPipe xs pre) (some n)).2 :=
  Closed.linear_cost_take_gen xs pre post n hpos

/-- over an ARBITRARY (possibly infinite) iterator: below a `take n` whose upstream stages never drop the iterator is advanced at most
`n` times — with `C06_take_over_unbounded_stops`: take over an unbounded iterator stops, having advanced it at most `n` times -/
theorem C06_unbounded_cost_take {ι : Type} (next : ι → Option (Int × ι)) (it0 : ι) (pre post : List Closed.Stg) (n : Nat)
    (hpre : ∀ s ∈ pre, s.keeps) :
    ∀ s, SReach (Closed.thenM (Closed.chainIM next it0 (pre ++ .take n :: post)) Closed.forEachM).M s →
      (Closed.thenM (Closed.chainIM next it0 (pre ++ .take n :: post)) Closed.forEachM).nexts s.st ≤ n :=
  Closed.linearInf_cost_take next it0 pre post n hpre

/-- the cost of programs with `concat!` and `flatten(map(…))`, when no `take` sits over a join (`Prog3.eager`): the SUM of the advances of
all member / inner sources is at most `(sem p none).2` everywhere and equal to it at return.  For a `take` over a join the natural demand
rule is FALSE against lazy sinks (again `concat`'s sticky `got_pull`: execution in the header of `Closed/Prog3.lean`); closed with
`for_each` it is covered by the comparison only. -/
theorem C06_program_cost (p : Closed.Prog3) (hok : p.ok) (he : p.eager) :
    ∀ s, SReach (Closed.thenM p.toM Closed.forEachM).M s →
      (Closed.thenM p.toM Closed.forEachM).nexts s.st ≤ (sem p.toPipe none).2 ∧
      (s.stack = [] → s.tr ≠ [] → (Closed.thenM p.toM Closed.forEachM).nexts s.st = (sem p.toPipe none).2) :=
  Closed.prog3_cost p hok he

/-- … and with a `take` OVER a `concat!` whose members are take-free (they end only when pulled: `Prog3.lazy`, which contains
`Prog3.eager`): e.g. `take 4 (concat!(src [1,2,3], filter even (src [4,5,6,7]), src [8,9]))` advances the iterators at most 5 times and
never touches the third member (`Inv/JoinDemand.lean`: end-only-on-Pull, the demand invariant of the concat machine).  `flatRep` under a
`take` is outside this class (`hc` is false of a `flatRep`): the next theorem. -/
theorem C06_program_cost_take (p : Closed.Prog3) (hok : p.ok) (he : p.lazy) :
    ∀ s, SReach (Closed.thenM p.toM Closed.forEachM).M s →
      (Closed.thenM p.toM Closed.forEachM).nexts s.st ≤ (sem p.toPipe none).2 ∧
      (s.stack = [] → s.tr ≠ [] → (Closed.thenM p.toM Closed.forEachM).nexts s.st = (sem p.toPipe none).2) :=
  Closed.prog3_cost_take p hok he

/-- … and with `flatten(map(…))` under a `take` (and as a member of a `concat!` under a `take`): `Prog3.lazy2` ⊇ `Prog3.lazy` ⊇
`Prog3.eager` (`Inv/FlatDemand.lean`, `Inv/FlatDemandCost.lean`: the two demand invariants of the flatten machine — at most one upstream
is being pulled, inner `j` only while the sink wants more than the first `j − 1` inners deliver, the outer only while the inners created
so far have not met the demand).  Example: `take 4 (concat!(flatRep 2 (map (·*10) (src [1,5])), src [7]))` advances the iterators exactly
7 times and never touches `src [7]`.  Still outside: a `take` over a join one of whose members ends by itself (contains a `take`) — the
refuted rule (`Closed/Prog3.lean`). -/
theorem C06_program_cost_flat (p : Closed.Prog3) (hok : p.ok) (he : p.lazy2) :
    ∀ s, SReach (Closed.thenM p.toM Closed.forEachM).M s →
      (Closed.thenM p.toM Closed.forEachM).nexts s.st ≤ (sem p.toPipe none).2 ∧
      (s.stack = [] → s.tr ≠ [] → (Closed.thenM p.toM Closed.forEachM).nexts s.st = (sem p.toPipe none).2) :=
  Closed.prog3_cost_flat p hok he

/-! ## the widest domain: `Prog3.ok2`

The argument of a `flatRep` may be linear OR take-free (`tf2`: sources, non-`take` stages, `concat!`, nested `flatRep`): such programs
deliver and end only when pulled, which is all `flatten` needs (`PullOnly` from the join machinery).  Still excluded, for the recorded
reason (observation O7): `flatRep` over a program in which a member ends by `take`. -/

theorem C06_every_program_wide (p : Closed.Prog3) (hok : p.ok2) :
    (∀ s, SReach (Closed.thenM p.toM Closed.forEachM).M s →
      BasicSafe s ∧ applied s.tr <+: listSem p.toPipe ∧ (s.stack = [] → s.tr ≠ [] → applied s.tr = listSem p.toPipe)) ∧
    (∀ s, SReach (Closed.thenM p.toM Closed.forEachM).M s → Safe s ∧ SafeFor 4 s ∧ SafeFor 5 s) :=
  ⟨Closed.prog3_correct2 p hok, Closed.prog3_safe2 p hok⟩

theorem C06_program_cost_wide (p : Closed.Prog3) (hok : p.ok2) (he : p.lazy2) :
    ∀ s, SReach (Closed.thenM p.toM Closed.forEachM).M s →
      (Closed.thenM p.toM Closed.forEachM).nexts s.st ≤ (sem p.toPipe none).2 ∧
      (s.stack = [] → s.tr ≠ [] → (Closed.thenM p.toM Closed.forEachM).nexts s.st = (sem p.toPipe none).2) :=
  Closed.prog3_cost_wide p hok he

end Cb.Thm
