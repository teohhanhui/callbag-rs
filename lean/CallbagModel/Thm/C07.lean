import CallbagModel.Fun.Relay
import CallbagModel.Fun.Take
import CallbagModel.Inv.Fuse
import CallbagModel.Inv.ComposeFun
/-!
# C07 — reactive programming: unary operators are incremental list functions

`relayOk xfer seed tr` / `takeOk max tr` (Spec.lean) are the executable specifications: at every point where the environment has
control, the data the sink has received equals the list function of the data upstream has sent so far; every output is produced
immediately after the input that caused it (nothing in between: inside that delivery); `map`/`filter`/`scan`/`skip` complete exactly
when upstream does, with the same error; `take(max ≥ 1)` terminates upstream and completes the sink right after the `max`-th item's
delivery returns.  Every emitted sequence and timing (bursts inside the greeting included), every sink reaction policy, every
`n` / predicate / reducer / seed / closure.
-/
namespace Cb.Thm

theorem C07_map {α β : Type} [DecidableEq β] (f : α → β) :
    ∀ s, SReach (Relay.machine (Relay.map f)) s → EnvTurn s →
      relayOk (Relay.map f).xfer () s.tr = true ∧ recvData 0 s.tr = (sentData 0 s.tr).map f :=
  RelayFun.map_spec f

theorem C07_filter {α : Type} [DecidableEq α] (p : α → Bool) :
    ∀ s, SReach (Relay.machine (Relay.filter p)) s → EnvTurn s →
      relayOk (Relay.filter p).xfer () s.tr = true ∧ recvData 0 s.tr = (sentData 0 s.tr).filter p :=
  RelayFun.filter_spec p

theorem C07_scan {α β : Type} [DecidableEq β] (r : β → α → β) (seed : β) :
    ∀ s, SReach (Relay.machine (Relay.scan r seed)) s → EnvTurn s →
      relayOk (Relay.scan r seed).xfer seed s.tr = true ∧ recvData 0 s.tr = scanF r seed (sentData 0 s.tr) :=
  RelayFun.scan_spec r seed

theorem C07_skip {α : Type} [DecidableEq α] (n : Nat) :
    ∀ s, SReach (Relay.machine (Relay.skip (α := α) n)) s → EnvTurn s →
      relayOk (Relay.skip (α := α) n).xfer 0 s.tr = true ∧ recvData 0 s.tr = (sentData 0 s.tr).drop n :=
  RelayFun.skip_spec n

theorem C07_take {α : Type} [DecidableEq α] (max : Nat) :
    ∀ s, SReach (Take.machine α max) s → EnvTurn s → takeOk max s.tr = true :=
  TakeFun.take_spec max

/-! ## pipelines: `pipe!(source, op₁, op₂)` of two relays

`compose M₁ M₂` (Ops/Compose.lean) is the pipeline as ONE machine (validated against the crate by `./check`, chain instances);
`Fuse.compose_relay_refines`: at its boundary it is a reachable configuration of the single relay with the fused transfer function
(same trace, same monitor state).  Hence the incremental-list-function statement holds of two-stage pipelines with the composed
function, and, since the fused kind is again a relay kind, of chains of any length by iteration. -/

theorem C07_pipe_of_two_relays {σ₁ σ₂ α β γ : Type} [DecidableEq γ] (k₁ : Relay.Kind σ₁ α β) (k₂ : Relay.Kind σ₂ β γ)
    (h₁ : k₁.slotted = false → ∀ s a, (k₁.xfer s a).2 ≠ none) (h₂ : k₂.slotted = false → ∀ s b, (k₂.xfer s b).2 ≠ none) :
    ∀ s, SReach (compose (Relay.machine k₁) (Relay.machine k₂)) s → EnvTurn s →
      relayOk (Fuse.fuse k₁ k₂).xfer (k₁.seed, k₂.seed) s.tr = true := by
  intro s hs ht
  obtain ⟨s', hr, ht', htr, _⟩ := Fuse.compose_relay_refines k₁ k₂ h₁ h₂ s hs ht
  rw [← htr]
  exact RelayFun.relay_spec (Fuse.fuse k₁ k₂) (Fuse.fuse_side k₁ k₂ h₁ h₂) s' hr ht'

/-! ## pipelines of ANY length: the list function of a pipeline is the composition of the list functions of its stages

`ComposeFun.compose_inv_tr` (`Inv/ComposeSafe.lean`) is the assume–guarantee projection with the TRACES: every reachable
configuration of `compose M₁ M₂` projects onto reachable configurations of `M₁` and `M₂` whose sink-side / source-side events are the
pipeline's, and whose events on the internal interface mirror each other; at the pipeline's environment turns both components are at
environment turns of their own.  `Stage M F`: `M` is pipeable and at every environment turn `recvData 0 tr = F (sentData 0 tr)`. -/

theorem C07_pipeline {S1 L1 S2 L2 α β γ : Type} {M1 : Machine S1 L1 α β} {M2 : Machine S2 L2 β γ}
    {F1 : List α → List β} {F2 : List β → List γ} (h1 : Stage M1 F1) (h2 : Stage M2 F2) :
    (∀ s, SReach (compose M1 M2) s → BasicSafe s) ∧
    (∀ s, SReach (compose M1 M2) s → EnvTurn s → recvData 0 s.tr = (F2 ∘ F1) (sentData 0 s.tr)) :=
  (h1.compose h2).spec

/-- the stages: map, filter, scan, skip, take (and every composition of stages, by `Stage.compose`) -/
theorem C07_stages {α β : Type} (f : α → β) (p : α → Bool) (r : β → α → β) (seed : β) (n : Nat) :
    Stage (Relay.machine (Relay.map f)) (List.map f) ∧ Stage (Relay.machine (Relay.filter p)) (List.filter p) ∧
    Stage (Relay.machine (Relay.scan r seed)) (scanF r seed) ∧ Stage (Relay.machine (Relay.skip (α := α) n)) (List.drop n) ∧
    Stage (Take.machine α n) (List.take n) :=
  ⟨Relay.map_stage f, Relay.filter_stage p, Relay.scan_stage r seed, Relay.skip_stage n, Take.stage n⟩

/-- worked instance: `pipe!(source, map(f), filter(p))` delivers `(xs.map f).filter p` -/
theorem C07_pipe_map_filter {α β : Type} (f : α → β) (p : β → Bool) :
    ∀ s, SReach (compose (Relay.machine (Relay.map f)) (Relay.machine (Relay.filter p))) s → EnvTurn s →
      recvData 0 s.tr = ((sentData 0 s.tr).map f).filter p :=
  (C07_pipeline (Relay.map_stage f) (Relay.filter_stage p)).2

/-- worked instance, three stages -/
theorem C07_pipe_map_filter_take {α β : Type} (f : α → β) (p : β → Bool) (n : Nat) :
    ∀ s, SReach (compose (compose (Relay.machine (Relay.map f)) (Relay.machine (Relay.filter p))) (Take.machine β n)) s →
      EnvTurn s → recvData 0 s.tr = (((sentData 0 s.tr).map f).filter p).take n :=
  (map_filter_take f p n).2

end Cb.Thm
