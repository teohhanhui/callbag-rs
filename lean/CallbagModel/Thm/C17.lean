import CallbagModel.Inv.XViols
import CallbagModel.Inv.Combine
import CallbagModel.Inv.ComposeInst
import CallbagModel.Inv.ComposeSafe
import CallbagModel.Inv.Concat
import CallbagModel.Inv.FlatPlugSafe
import CallbagModel.Inv.Flatten
import CallbagModel.Inv.ForEach
import CallbagModel.Inv.FromIter
import CallbagModel.Inv.Fuse
import CallbagModel.Inv.LateMember
import CallbagModel.Inv.Merge
import CallbagModel.Inv.MonSound
import CallbagModel.Inv.PlugOpSafe
import CallbagModel.Inv.PlugSafe
import CallbagModel.Inv.Readable
import CallbagModel.Inv.Relay
import CallbagModel.Inv.ShareCS
import CallbagModel.Inv.ShareFull
import CallbagModel.Inv.ShareWeak
import CallbagModel.Inv.Take
/-!
# C17 — no panics with conformant peers: property theorems (statements only; the invariants are in `Inv/`)

`SafeFor 17 s`: the monitor (`Core.lean`, `Ph.onOut` / `G.onOut` / `G.onRetO`) has recorded no violation belonging to C17 in
configuration `s` and the operator has not panicked.
`SReach M s`: `s` is reachable from the initial configuration of `M` by operator micro-steps and moves of a conformant
environment (`legalIn`/`legalRet`, DESIGN §1.2) — every history, every nesting depth, every data value, every closure.
Theorems whose name ends in `_partial` carry an explicit extra hypothesis or a weaker conclusion; the reason is stated
beside them and in DESIGN.md §9.4 (known findings).
-/
namespace Cb.Thm

theorem C17_map {α β : Type} (f : α → β) :
    ∀ s, SReach (Relay.machine (Relay.map f)) s → SafeFor 17 s :=
  fun s hs => safeFor_of_basicSafe _ s hs (Relay.map_basicSafe f s hs) 17 (by decide)

theorem C17_filter {α : Type} (p : α → Bool) :
    ∀ s, SReach (Relay.machine (Relay.filter p)) s → SafeFor 17 s :=
  fun s hs => safeFor_of_basicSafe _ s hs (Relay.filter_basicSafe p s hs) 17 (by decide)

theorem C17_scan {α β : Type} (r : β → α → β) (seed : β) :
    ∀ s, SReach (Relay.machine (Relay.scan r seed)) s → SafeFor 17 s :=
  fun s hs => safeFor_of_basicSafe _ s hs (Relay.scan_basicSafe r seed s hs) 17 (by decide)

theorem C17_skip {α : Type} (n : Nat) :
    ∀ s, SReach (Relay.machine (Relay.skip (α := α) n)) s → SafeFor 17 s :=
  fun s hs => safeFor_of_basicSafe _ s hs (Relay.skip_basicSafe n s hs) 17 (by decide)

theorem C17_take {α : Type} (max : Nat) :
    ∀ s, SReach (Take.machine α max) s → SafeFor 17 s :=
  fun s hs => safeFor_of_basicSafe _ s hs (Take.take_basicSafe max s hs) 17 (by decide)

theorem C17_from_iter {ι α α' : Type} (next : ι → Option (α × ι)) (it0 : ι) :
    ∀ s, SReach (FromIter.machine α' next it0) s → SafeFor 17 s :=
  fun s hs => safeFor_of_basicSafe _ s hs (FromIter.fromIter_basicSafe next it0 s hs) 17 (by decide)

theorem C17_for_each {α : Type} :
    ∀ s, SReach (ForEach.machine α) s → SafeFor 17 s :=
  fun s hs => safeFor_of_basicSafe _ s hs (ForEach.forEach_basicSafe s hs) 17 (by decide)

theorem C17_concat {α : Type} (n : Nat) (hn : 0 < n) :
    ∀ s, SReach (Concat.machine α n) s → SafeFor 17 s :=
  fun s hs => safeFor_of_basicSafe _ s hs (Concat.concat_basicSafe n hn s hs) 17 (by decide)

theorem C17_merge {α : Type} (n : Nat) :
    ∀ s, SReach (Merge.machine α n) s → SafeFor 17 s :=
  fun s hs => safeFor_of_basicSafe _ s hs (Merge.merge_basicSafe n s hs) 17 (by decide)

theorem C17_flatten {α : Type} :
    ∀ s, SReach (Flatten.machine α) s → SafeFor 17 s :=
  fun s hs => safeFor_of_basicSafe _ s hs (Flatten.flatten_basicSafe s hs) 17 (by decide)

theorem C17_pipe_of_two_relays {σ₁ σ₂ α β γ : Type} (k₁ : Relay.Kind σ₁ α β) (k₂ : Relay.Kind σ₂ β γ)
    (h₁ : k₁.slotted = false → ∀ s a, (k₁.xfer s a).2 ≠ none) (h₂ : k₂.slotted = false → ∀ s b, (k₂.xfer s b).2 ≠ none) :
    ∀ s, SReach (compose (Relay.machine k₁) (Relay.machine k₂)) s → SafeFor 17 s :=
  fun s hs => safeFor_of_basicSafe _ s hs (Fuse.compose_relay_basicSafe k₁ k₂ h₁ h₂ s hs) 17 (by decide)

theorem C17_pipeline {S1 L1 S2 L2 α β γ : Type} {M1 : Machine S1 L1 α β} {M2 : Machine S2 L2 β γ} (P1 : Pipeable M1) (P2 : Pipeable M2) :
    ∀ s, SReach (compose M1 M2) s → SafeFor 17 s :=
  fun s hs => safeFor_of_basicSafe _ s hs ((P1.compose P2).safe s hs) 17 (by decide)

theorem C17_closed_pipeline {S1 L1 S2 L2 α β γ : Type} {Msrc : Machine S1 L1 α β} {Mmid : Machine S2 L2 β γ} (hsrc : UpSide Msrc) (hmid : Pipeable Mmid) :
    ∀ s, SReach (compose (compose Msrc Mmid) (ForEach.machine γ)) s → SafeFor 17 s :=
  fun s hs => safeFor_of_basicSafe _ s hs (closed_pipeline_safe hsrc hmid s hs) 17 (by decide)

theorem C17_plugged {S1 L1 S2 L2 α β γ : Type} {M1 : Machine S1 L1 α β} {M2 : Machine S2 L2 β γ} (H : PlugSafe.HypP M1 M2) (j : Nat) :
    ∀ s, SReach (plug j M1 M2) s → SafeFor 17 s :=
  fun s hs => safeFor_of_basicSafe _ s hs (PlugSafe.plug_basicSafe H j s hs) 17 (by decide)

theorem C17_flatten_network {So Lo Si Li αo αi : Type} {Mo : Machine So Lo αo Int} {Mi : Machine Si Li αi Int} {initOf : Int → Si}
    (H : FlatPlugSafe.HypF Mo Mi initOf) :
    ∀ s, SReach (flatPlug Mo Mi initOf) s → SafeFor 17 s :=
  fun s hs => safeFor_of_basicSafe _ s hs (FlatPlugSafe.flatPlug_basicSafe H s hs) 17 (by decide)

theorem C17_member_of_concat {S1 L1 β : Type} {M1 : Machine S1 L1 β β} (h1 : Pipeable M1) (n : Nat) (hn : 0 < n) (j : Nat) :
    ∀ s, SReach (plugOp j M1 (Concat.machine β n)) s → SafeFor 17 s :=
  fun s hs => safeFor_of_basicSafe _ s hs (PlugOpSafe.plugOp_concat_basicSafe h1 n hn j s hs) 17 (by decide)

theorem C17_take_member_of_merge {α : Type} (max n j : Nat) :
    ∀ s, SReach (plugOp j (Take.machine α max) (Merge.machine α n true)) s → SafeFor 17 s :=
  fun s hs => safeFor_of_basicSafe _ s hs (LateMember.plugOp_take_merge_basicSafe max n j s hs) 17 (by decide)

theorem C17_relay_member_of_merge {σ α : Type} (kd : Relay.Kind σ α α) (hk : kd.slotted = false → ∀ s a, (kd.xfer s a).2 ≠ none) (n j : Nat) :
    ∀ s, SReach (plugOp j (Relay.machine kd) (Merge.machine α n true)) s → SafeFor 17 s :=
  fun s hs => safeFor_of_basicSafe _ s hs (LateMember.plugOp_relay_merge_basicSafe kd hk n j s hs) 17 (by decide)

/-- `share`, EVERY conformant environment (nested fan-out included): the only phase-level violations share can commit are deliveries
to sinks that are already done (C02/C03, known findings KF5a/KF5b), hence C17 holds in full. -/
theorem C17_share {α : Type} :
    ∀ s, SReach (Share.machine α) s → SafeFor 17 s :=
  fun s hs => safeFor_of_onlyLateDelivery _ s hs (ShareWeak.share_safe_weak s hs).1 (ShareWeak.share_safe_weak s hs).2 17 (by decide)

/-- `share` under the WIDER cross-sink environment (`SemCS.lean`: while share is delivering to one sink any live sink may pull or dispose —
`merge!(s, s)` over a shared `s`): its only deviations are late deliveries (C02/C03: KF5a–KF5c) and a Pull forwarded to an upstream
that has just ended (C04: KF5d); hence C17 holds on those histories too (`Inv/ShareCS.lean`). -/
theorem C17_share_cross_sink {α : Type} :
    ∀ s, CSReach (Share.machine α) s → SafeFor 17 s :=
  fun s hs => ShareCS.share_cs_safeFor s hs 17 (by decide)
/-- `combine!`: the full phase-level safety statement is false (known findings KF2, KF3: messages to members that are not
live, a C04 matter); what is proved is that those are the ONLY phase-level violations, hence C17 holds in full. -/
theorem C17_combine {α : Type} (n : Nat) :
    ∀ s, SReach (Combine.machine α n) s → SafeFor 17 s :=
  fun s hs => safeFor_of_onlyUpNotLive _ s hs (Combine.combine_safe_partial n s hs).1 (Combine.combine_safe_partial n s hs).2 17 (by decide)

/-- `share`: proved for environments in which the source does not deliver from inside one of share's own deliveries
(`noNestedFanout`, the restriction C12 makes in its own quantifier). Without it C02 and C03 are false for 2+ sinks (known
findings KF5a, KF5b; see `Thm/Counterexamples.lean`). -/
theorem C17_share_partial {α : Type} :
    ∀ s, SReachR (Share.machine α) noNestedFanout s → SafeFor 17 s :=
  fun s hs => safeFor_of_basicSafe _ s hs.weaken (Share.share_basicSafe_partial s hs) 17 (by decide)

end Cb.Thm
