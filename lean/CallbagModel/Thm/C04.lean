import CallbagModel.Inv.XViols
import CallbagModel.Inv.Combine
import CallbagModel.Inv.ComposeFull
import CallbagModel.Inv.ComposeInst
import CallbagModel.Inv.ConcatFull
import CallbagModel.Inv.FlatPlugSafe
import CallbagModel.Inv.FlattenFull
import CallbagModel.Inv.ForEachFull
import CallbagModel.Inv.FromIterFull
import CallbagModel.Inv.MergeFull
import CallbagModel.Inv.MonSound
import CallbagModel.Inv.RelayFull
import CallbagModel.Inv.ShareCS
import CallbagModel.Inv.ShareFull
import CallbagModel.Inv.ShareWeak
import CallbagModel.Inv.TakeFull
/-!
# C04 — no orphaned or doubly-terminated upstream: operators are conformant sinks: property theorems (statements only; the invariants are in `Inv/*Full.lean`)

`SafeFor 4 s`: no violation of C04 has been recorded: no upstream subscribed twice or after the output is over, no Pull / Terminate / Error sent to an
upstream that is not live, the sink's `Error(e)` relayed as `Error(e)` by pass-through operators, no upstream left live once the
output is over and control is back at top level.
`SReach M s`: `s` is reachable from the initial configuration of `M` by operator micro-steps and moves of a conformant
environment (`legalIn`/`legalRet`, DESIGN §1.2) — every history, every nesting depth, every data value, every closure.
-/
namespace Cb.Thm

theorem C04_map {α β : Type} (f : α → β) :
    ∀ s, SReach (Relay.machine (Relay.map f)) s → SafeFor 4 s :=
  fun s hs => (RelayFull.map_safe f s hs).safeFor 4

theorem C04_filter {α : Type} (p : α → Bool) :
    ∀ s, SReach (Relay.machine (Relay.filter p)) s → SafeFor 4 s :=
  fun s hs => (RelayFull.filter_safe p s hs).safeFor 4

theorem C04_scan {α β : Type} (r : β → α → β) (seed : β) :
    ∀ s, SReach (Relay.machine (Relay.scan r seed)) s → SafeFor 4 s :=
  fun s hs => (RelayFull.scan_safe r seed s hs).safeFor 4

theorem C04_skip {α : Type} (n : Nat) :
    ∀ s, SReach (Relay.machine (Relay.skip (α := α) n)) s → SafeFor 4 s :=
  fun s hs => (RelayFull.skip_safe n s hs).safeFor 4

theorem C04_take {α : Type} (max : Nat) :
    ∀ s, SReach (Take.machine α max) s → SafeFor 4 s :=
  fun s hs => (TakeFull.take_safe max s hs).safeFor 4

theorem C04_from_iter {ι α α' : Type} (next : ι → Option (α × ι)) (it0 : ι) :
    ∀ s, SReach (FromIter.machine α' next it0) s → SafeFor 4 s :=
  fun s hs => (FromIterFull.fromIter_safe next it0 s hs).safeFor 4

theorem C04_for_each {α : Type} :
    ∀ s, SReach (ForEach.machine α) s → SafeFor 4 s :=
  fun s hs => (ForEachFull.forEach_safe s hs).safeFor 4

theorem C04_concat {α : Type} (n : Nat) (hn : 0 < n) :
    ∀ s, SReach (Concat.machine α n) s → SafeFor 4 s :=
  fun s hs => (ConcatFull.concat_safe n hn s hs).safeFor 4

theorem C04_flatten {α : Type} :
    ∀ s, SReach (Flatten.machine α) s → SafeFor 4 s :=
  fun s hs => (FlattenFull.flatten_safe s hs).safeFor 4

theorem C04_merge {α : Type} (n : Nat) :
    ∀ s, SReach (Merge.machine α n) s → SafeFor 4 s :=
  fun s hs => (MergeFull.merge_safe n s hs).safeFor 4

/-- `share`: proved for environments in which the source does not deliver from inside one of share's own deliveries
(`noNestedFanout`, the restriction C12 makes in its own quantifier). -/
theorem C04_share_partial {α : Type} :
    ∀ s, SReachR (Share.machine α) noNestedFanout s → SafeFor 4 s :=
  fun s hs => (ShareFull.share_safe_partial s hs).safeFor 4
/-- `share`, EVERY conformant environment (nested fan-out included): the protocol part of C04 holds — no upstream is subscribed twice or
after the output is over, no Pull / Terminate is sent to an upstream that is not live: the only phase-level violations are late
deliveries (C02/C03). -/
theorem C04_share_protocol {α : Type} :
    ∀ s, SReach (Share.machine α) s → ∀ v ∈ s.g.ph.viols, (∃ k, v = Viol.afterTerm k) ∨ (∃ k, v = Viol.afterDispose k) :=
  fun s hs => (ShareWeak.share_safe_weak s hs).1

/-- pipelines `pipe!(source, op₁, …, opₙ)` of map / filter / scan / skip / take of ANY length, as operators against every conformant
upstream and sink — C04 in FULL (both monitor layers).  `FullStage` (Inv/ComposeFull.lean): pipeable, one upstream and one sink, no
orphan at top level, and DIRECT error paths (an `Error` arriving at either end is passed on by the handler that receives it, with
nothing in between); closed under `compose`.  A general "Safe M₁ → Safe M₂ → Safe (compose M₁ M₂)" is FALSE (two executions at the
end of Inv/ComposeFull.lean: a stage that delivers one more datum before relaying an upstream Error, over a `take` that completes on
it; a stage that pulls before relaying its sink's Error, under a `take` that completes on the answer). -/
theorem C04_pipeline {S1 L1 S2 L2 α β γ : Type} {M1 : Machine S1 L1 α β} {M2 : Machine S2 L2 β γ}
    (h1 : ComposeFull.FullStage M1) (h2 : ComposeFull.FullStage M2) : ∀ s, SReach (compose M1 M2) s → SafeFor 4 s :=
  fun s hs => (ComposeFull.compose_safe h1 h2 s hs).1.safeFor 4

/-- the stages (and every composition of stages: `FullStage.compose`) -/
theorem C04_full_stages {σ α β : Type} (k : Relay.Kind σ α β) (hk : k.slotted = false → ∀ s a, (k.xfer s a).2 ≠ none) (max : Nat) :
    ComposeFull.FullStage (Relay.machine k) ∧ ComposeFull.FullStage (Take.machine α max) :=
  ⟨ComposeFull.Relay.fullStage k hk, ComposeFull.Take.fullStage max⟩

/-- closed pipelines `pipe!(head, stages…, for_each(f))`, head = from_iter / concat! / flatten: C04 in full -/
theorem C04_closed_pipeline {S1 L1 S2 L2 α β γ : Type} {Msrc : Machine S1 L1 α β} {Mmid : Machine S2 L2 β γ}
    (hsrc : UpSide Msrc) (hmid : Pipeable Mmid) :
    ∀ s, SReach (compose (compose Msrc Mmid) (ForEach.machine γ)) s → SafeFor 4 s :=
  fun s hs => (ComposeFull.closed_pipeline_full hsrc hmid s hs).1.safeFor 4

/-- `flatten(map(g)(outer))` as a network (`Ops/FlatPlug.lean`: the outer source and every dynamically created inner source are closed
head-capable sources), alone or heading a closed pipeline: C04 in full -/
theorem C04_flatten_network {So Lo Si Li αo αi : Type} {Mo : Machine So Lo αo Int} {Mi : Machine Si Li αi Int} {initOf : Int → Si}
    (H : FlatPlugSafe.HypF Mo Mi initOf) : ∀ s, SReach (flatPlug Mo Mi initOf) s → SafeFor 4 s :=
  fun s hs => (FlatPlugSafe.flatPlug_safe H s hs).1.safeFor 4

/-- `pipe!(from_iter(it), stages…)` as a source, against every conformant sink: C04 in full -/
theorem C04_fromIter_pipeline {ι α α' β S L : Type} (next : ι → Option (α × ι)) (it0 : ι) {Mmid : Machine S L α β}
    (hmid : Pipeable Mmid) : ∀ s, SReach (compose (FromIter.machine α' next it0) Mmid) s → SafeFor 4 s :=
  fun s hs => (ComposeFull.fromIter_pipeline_full next it0 hmid s hs).1.safeFor 4

/-- the oracle that judges traces recorded from the real crate IS the monitor of these theorems: on every model execution the
machine-free monitor `monRun` (Mon.lean), folded over the boundary trace alone, computes exactly the ghost carried by the configuration
(`Inv/MonSound.lean`: `monRun_sound`), so `SafeFor 4` can be read off the trace -/
theorem C04_oracle_is_the_monitor {St Loc α β : Type} (M : Machine St Loc α β) :
    ∀ s, SReach M s →
      (SafeFor 4 s ↔ (∀ v ∈ (monRun M.shape s.tr.reverse).g.viols, v.prop ≠ 4) ∧
        (4 = 17 → (monRun M.shape s.tr.reverse).panicked = false)) :=
  safeFor_iff_monRun M 4

/-- `share` under the wider cross-sink environment (`SemCS.lean`): the ONLY C04 deviation is a message to an upstream that has ended, and that
message is always a Pull — share never sends `Terminate`/`Error` to an upstream that is not live (known finding KF5d is exactly this
Pull; `Inv/ShareCS.lean`). -/
theorem C04_share_cross_sink_partial {α : Type} :
    (∀ s, CSReach (Share.machine α) s → (∀ v ∈ s.g.viols, v.prop = 4 → ∃ i, v = Viol.upNotLive i .ended)) ∧
    (∀ s s', CSReach (Share.machine α) s → opStep (Share.machine α) s = some s' →
      ∀ i u, s'.tr = .out (.srcUp i u) :: s.tr → u = .pull ∨ s.g.ph.srcPh i = .live) := by
  refine ⟨fun s hs v hm h4 => ?_, ShareCS.share_cs_stray_is_pull⟩
  rcases ShareCS.share_cs_viols s hs v hm with ⟨k, rfl⟩ | ⟨k, rfl⟩ | h
  · cases h4
  · cases h4
  · exact h

/-- `combine!`: the full statement is FALSE (known findings KF2, KF3: the sink's Pull / Terminate / Error are also sent to members that
have ended, and a Pull broadcast continues after a nested disposal; witnesses in `Thm/Counterexamples.lean`). What is proved: those
messages to non-live members are the ONLY phase-level violations — every member is subscribed exactly once and never after the output
is over. -/
theorem C04_combine_partial {α : Type} (n : Nat) :
    ∀ s, SReach (Combine.machine α n) s → ∀ v ∈ s.g.ph.viols, ∃ i p, v = Viol.upNotLive i p :=
  fun s hs => (Combine.combine_safe_partial n s hs).1

end Cb.Thm
