import CallbagModel.Sem
/-!
# Replaying a script of the environment: a successful replay is a proof of reachability

`runFuel` is `runMoves` (`Script.lean`) with `envMove` (`legalIn`/`legalRet`, the legality of `SReach`) in place of the superset
`envMoveX`, and with a small explicit fuel for the operator's run after each move, so that the kernel can evaluate it (`by decide`):
the counterexamples of `Thm/Counterexamples.lean` and the returned runs of `Closed/ProgExamples.lean` are obtained this way.
-/
namespace Cb.Thm

variable {St Loc α β : Type}

/-- the operator runs for at most `fuel` micro-steps after each move (`advance` stops by itself where the environment has control);
`none` if some move is not legal where it stands -/
def runFuel (M : Machine St Loc α β) (fuel : Nat) : Sys St Loc α β → List (Move α) → Option (Sys St Loc α β)
  | s, [] => some s
  | s, m :: ms => match envMove M s m with
    | none => none
    | some s1 => runFuel M fuel (advance M fuel s1) ms

/-- a successful replay ends in a reachable configuration -/
theorem runFuel_reach (M : Machine St Loc α β) (fuel : Nat) {s s' : Sys St Loc α β} {ms : List (Move α)}
    (hs : SReach M s) (h : runFuel M fuel s ms = some s') : SReach M s' := by
  induction ms generalizing s with
  | nil => simp only [runFuel, Option.some.injEq] at h; exact h ▸ hs
  | cons m ms ih =>
    simp only [runFuel] at h
    cases he : envMove M s m with
    | none => simp [he] at h
    | some s1 =>
      rw [he] at h
      exact ih (SReachR.advance fuel (.step hs (.env ((envMove_iff M m s s1).1 he) trivial))) h

def runInit (M : Machine St Loc α β) (fuel : Nat) (ms : List (Move α)) : Option (Sys St Loc α β) :=
  runFuel M fuel (Sys.init M) ms

/-- a script whose final configuration passes a boolean test is a reachability witness -/
theorem witness_of_script (M : Machine St Loc α β) (fuel : Nat) (ms : List (Move α)) (p : Sys St Loc α β → Bool)
    (h : (runInit M fuel ms).map p = some true) : ∃ s, SReach M s ∧ p s = true := by
  cases hr : runInit M fuel ms with
  | none => simp [hr] at h
  | some s => exact ⟨s, runFuel_reach M fuel .init hr, by simpa [hr] using h⟩

/-- the same for a decidable property of the final configuration -/
theorem reach_of_script (M : Machine St Loc α β) (fuel : Nat) (ms : List (Move α)) (P : Sys St Loc α β → Prop) [DecidablePred P]
    (h : (runInit M fuel ms).map (fun s => decide (P s)) = some true) : ∃ s, SReach M s ∧ P s :=
  have ⟨s, hr, hp⟩ := witness_of_script M fuel ms (fun s => decide (P s)) h
  ⟨s, hr, of_decide_eq_true hp⟩

end Cb.Thm
