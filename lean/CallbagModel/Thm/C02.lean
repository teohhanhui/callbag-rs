import CallbagModel.Inv.XViols
import CallbagModel.Inv.Combine
import CallbagModel.Inv.ComposeInst
import CallbagModel.Inv.ComposeSafe
import CallbagModel.Inv.Concat
import CallbagModel.Inv.FlatPlugSafe
import CallbagModel.Inv.Flatten
import CallbagModel.Inv.ForEach
import CallbagModel.Inv.FromIter
import CallbagModel.Inv.Fuse
import CallbagModel.Inv.LateMember
import CallbagModel.Inv.Merge
import CallbagModel.Inv.MonSound
import CallbagModel.Inv.PlugOpSafe
import CallbagModel.Inv.PlugSafe
import CallbagModel.Inv.Readable
import CallbagModel.Inv.Relay
import CallbagModel.Inv.ShareCS
import CallbagModel.Inv.ShareFull
import CallbagModel.Inv.ShareWeak
import CallbagModel.Inv.Take
/-!
# C02 — termination is final: property theorems (statements only; the invariants are in `Inv/`)

`SafeFor 2 s`: the monitor (`Core.lean`, `Ph.onOut` / `G.onOut` / `G.onRetO`) has recorded no violation belonging to C02 in
configuration `s`.
`SReach M s`: `s` is reachable from the initial configuration of `M` by operator micro-steps and moves of a conformant
environment (`legalIn`/`legalRet`, DESIGN §1.2) — every history, every nesting depth, every data value, every closure.
Theorems whose name ends in `_partial` carry an explicit extra hypothesis or a weaker conclusion; the reason is stated
beside them and in DESIGN.md §9.4 (known findings).
-/
namespace Cb.Thm

theorem C02_map {α β : Type} (f : α → β) :
    ∀ s, SReach (Relay.machine (Relay.map f)) s → SafeFor 2 s :=
  fun s hs => safeFor_of_basicSafe _ s hs (Relay.map_basicSafe f s hs) 2 (by decide)

theorem C02_filter {α : Type} (p : α → Bool) :
    ∀ s, SReach (Relay.machine (Relay.filter p)) s → SafeFor 2 s :=
  fun s hs => safeFor_of_basicSafe _ s hs (Relay.filter_basicSafe p s hs) 2 (by decide)

theorem C02_scan {α β : Type} (r : β → α → β) (seed : β) :
    ∀ s, SReach (Relay.machine (Relay.scan r seed)) s → SafeFor 2 s :=
  fun s hs => safeFor_of_basicSafe _ s hs (Relay.scan_basicSafe r seed s hs) 2 (by decide)

theorem C02_skip {α : Type} (n : Nat) :
    ∀ s, SReach (Relay.machine (Relay.skip (α := α) n)) s → SafeFor 2 s :=
  fun s hs => safeFor_of_basicSafe _ s hs (Relay.skip_basicSafe n s hs) 2 (by decide)

theorem C02_take {α : Type} (max : Nat) :
    ∀ s, SReach (Take.machine α max) s → SafeFor 2 s :=
  fun s hs => safeFor_of_basicSafe _ s hs (Take.take_basicSafe max s hs) 2 (by decide)

theorem C02_from_iter {ι α α' : Type} (next : ι → Option (α × ι)) (it0 : ι) :
    ∀ s, SReach (FromIter.machine α' next it0) s → SafeFor 2 s :=
  fun s hs => safeFor_of_basicSafe _ s hs (FromIter.fromIter_basicSafe next it0 s hs) 2 (by decide)

theorem C02_for_each {α : Type} :
    ∀ s, SReach (ForEach.machine α) s → SafeFor 2 s :=
  fun s hs => safeFor_of_basicSafe _ s hs (ForEach.forEach_basicSafe s hs) 2 (by decide)

theorem C02_concat {α : Type} (n : Nat) (hn : 0 < n) :
    ∀ s, SReach (Concat.machine α n) s → SafeFor 2 s :=
  fun s hs => safeFor_of_basicSafe _ s hs (Concat.concat_basicSafe n hn s hs) 2 (by decide)

theorem C02_merge {α : Type} (n : Nat) :
    ∀ s, SReach (Merge.machine α n) s → SafeFor 2 s :=
  fun s hs => safeFor_of_basicSafe _ s hs (Merge.merge_basicSafe n s hs) 2 (by decide)

theorem C02_flatten {α : Type} :
    ∀ s, SReach (Flatten.machine α) s → SafeFor 2 s :=
  fun s hs => safeFor_of_basicSafe _ s hs (Flatten.flatten_basicSafe s hs) 2 (by decide)

theorem C02_pipe_of_two_relays {σ₁ σ₂ α β γ : Type} (k₁ : Relay.Kind σ₁ α β) (k₂ : Relay.Kind σ₂ β γ)
    (h₁ : k₁.slotted = false → ∀ s a, (k₁.xfer s a).2 ≠ none) (h₂ : k₂.slotted = false → ∀ s b, (k₂.xfer s b).2 ≠ none) :
    ∀ s, SReach (compose (Relay.machine k₁) (Relay.machine k₂)) s → SafeFor 2 s :=
  fun s hs => safeFor_of_basicSafe _ s hs (Fuse.compose_relay_basicSafe k₁ k₂ h₁ h₂ s hs) 2 (by decide)

theorem C02_pipeline {S1 L1 S2 L2 α β γ : Type} {M1 : Machine S1 L1 α β} {M2 : Machine S2 L2 β γ} (P1 : Pipeable M1) (P2 : Pipeable M2) :
    ∀ s, SReach (compose M1 M2) s → SafeFor 2 s :=
  fun s hs => safeFor_of_basicSafe _ s hs ((P1.compose P2).safe s hs) 2 (by decide)

theorem C02_closed_pipeline {S1 L1 S2 L2 α β γ : Type} {Msrc : Machine S1 L1 α β} {Mmid : Machine S2 L2 β γ} (hsrc : UpSide Msrc) (hmid : Pipeable Mmid) :
    ∀ s, SReach (compose (compose Msrc Mmid) (ForEach.machine γ)) s → SafeFor 2 s :=
  fun s hs => safeFor_of_basicSafe _ s hs (closed_pipeline_safe hsrc hmid s hs) 2 (by decide)

theorem C02_plugged {S1 L1 S2 L2 α β γ : Type} {M1 : Machine S1 L1 α β} {M2 : Machine S2 L2 β γ} (H : PlugSafe.HypP M1 M2) (j : Nat) :
    ∀ s, SReach (plug j M1 M2) s → SafeFor 2 s :=
  fun s hs => safeFor_of_basicSafe _ s hs (PlugSafe.plug_basicSafe H j s hs) 2 (by decide)

theorem C02_flatten_network {So Lo Si Li αo αi : Type} {Mo : Machine So Lo αo Int} {Mi : Machine Si Li αi Int} {initOf : Int → Si}
    (H : FlatPlugSafe.HypF Mo Mi initOf) :
    ∀ s, SReach (flatPlug Mo Mi initOf) s → SafeFor 2 s :=
  fun s hs => safeFor_of_basicSafe _ s hs (FlatPlugSafe.flatPlug_basicSafe H s hs) 2 (by decide)

theorem C02_member_of_concat {S1 L1 β : Type} {M1 : Machine S1 L1 β β} (h1 : Pipeable M1) (n : Nat) (hn : 0 < n) (j : Nat) :
    ∀ s, SReach (plugOp j M1 (Concat.machine β n)) s → SafeFor 2 s :=
  fun s hs => safeFor_of_basicSafe _ s hs (PlugOpSafe.plugOp_concat_basicSafe h1 n hn j s hs) 2 (by decide)

theorem C02_take_member_of_merge {α : Type} (max n j : Nat) :
    ∀ s, SReach (plugOp j (Take.machine α max) (Merge.machine α n true)) s → SafeFor 2 s :=
  fun s hs => safeFor_of_basicSafe _ s hs (LateMember.plugOp_take_merge_basicSafe max n j s hs) 2 (by decide)

theorem C02_relay_member_of_merge {σ α : Type} (kd : Relay.Kind σ α α) (hk : kd.slotted = false → ∀ s a, (kd.xfer s a).2 ≠ none) (n j : Nat) :
    ∀ s, SReach (plugOp j (Relay.machine kd) (Merge.machine α n true)) s → SafeFor 2 s :=
  fun s hs => safeFor_of_basicSafe _ s hs (LateMember.plugOp_relay_merge_basicSafe kd hk n j s hs) 2 (by decide)

/-! ## What the monitor verdict means, in terms of the trace alone

`SafeFor 2` is a statement about the ghost monitor. The theorem below reads it back as a statement about positions in the
boundary trace `s.tr` (newest first; `chronAt tr p` is the `p`-th event in chronological order) that does not mention the
monitor — for EVERY machine, so that the monitor itself is not part of what has to be believed. -/

/-- C02, readable form: after a terminal message to a sink nothing else is delivered to it. All three of C01, C02, C03 are needed: the monitor files a delivery under the property of the phase the sink is in (`terminalFinal_needs_C01`, `terminalFinal_needs_C03` are kernel-checked counterexamples with only one of them missing). -/
theorem C02_readable {St Loc α β : Type} (M : Machine St Loc α β) (s : Sys St Loc α β) (hs : SReach M s)
    (h1 : SafeFor 1 s) (h2 : SafeFor 2 s) (h3 : SafeFor 3 s) (k : Nat) : TerminalFinal k s.tr :=
  terminalFinal_of_clean hs (fun v hv => ⟨h1.ph v hv, h2.ph v hv, h3.ph v hv⟩) k

theorem C02_map_readable {α β : Type} (f : α → β) :
    ∀ s, SReach (Relay.machine (Relay.map f)) s → ∀ k, TerminalFinal k s.tr :=
  fun s hs k => (readable_of_noViols hs (Relay.map_basicSafe f s hs).1 k).2.1

theorem C02_filter_readable {α : Type} (p : α → Bool) :
    ∀ s, SReach (Relay.machine (Relay.filter p)) s → ∀ k, TerminalFinal k s.tr :=
  fun s hs k => (readable_of_noViols hs (Relay.filter_basicSafe p s hs).1 k).2.1

theorem C02_scan_readable {α β : Type} (r : β → α → β) (seed : β) :
    ∀ s, SReach (Relay.machine (Relay.scan r seed)) s → ∀ k, TerminalFinal k s.tr :=
  fun s hs k => (readable_of_noViols hs (Relay.scan_basicSafe r seed s hs).1 k).2.1

theorem C02_skip_readable {α : Type} (n : Nat) :
    ∀ s, SReach (Relay.machine (Relay.skip (α := α) n)) s → ∀ k, TerminalFinal k s.tr :=
  fun s hs k => (readable_of_noViols hs (Relay.skip_basicSafe n s hs).1 k).2.1

theorem C02_take_readable {α : Type} (max : Nat) :
    ∀ s, SReach (Take.machine α max) s → ∀ k, TerminalFinal k s.tr :=
  fun s hs k => (readable_of_noViols hs (Take.take_basicSafe max s hs).1 k).2.1

theorem C02_from_iter_readable {ι α α' : Type} (next : ι → Option (α × ι)) (it0 : ι) :
    ∀ s, SReach (FromIter.machine α' next it0) s → ∀ k, TerminalFinal k s.tr :=
  fun s hs k => (readable_of_noViols hs (FromIter.fromIter_basicSafe next it0 s hs).1 k).2.1

theorem C02_for_each_readable {α : Type} :
    ∀ s, SReach (ForEach.machine α) s → ∀ k, TerminalFinal k s.tr :=
  fun s hs k => (readable_of_noViols hs (ForEach.forEach_basicSafe s hs).1 k).2.1

theorem C02_concat_readable {α : Type} (n : Nat) (hn : 0 < n) :
    ∀ s, SReach (Concat.machine α n) s → ∀ k, TerminalFinal k s.tr :=
  fun s hs k => (readable_of_noViols hs (Concat.concat_basicSafe n hn s hs).1 k).2.1

theorem C02_merge_readable {α : Type} (n : Nat) :
    ∀ s, SReach (Merge.machine α n) s → ∀ k, TerminalFinal k s.tr :=
  fun s hs k => (readable_of_noViols hs (Merge.merge_basicSafe n s hs).1 k).2.1

theorem C02_flatten_readable {α : Type} :
    ∀ s, SReach (Flatten.machine α) s → ∀ k, TerminalFinal k s.tr :=
  fun s hs k => (readable_of_noViols hs (Flatten.flatten_basicSafe s hs).1 k).2.1

theorem C02_pipe_of_two_relays_readable {σ₁ σ₂ α β γ : Type} (k₁ : Relay.Kind σ₁ α β) (k₂ : Relay.Kind σ₂ β γ)
    (h₁ : k₁.slotted = false → ∀ s a, (k₁.xfer s a).2 ≠ none) (h₂ : k₂.slotted = false → ∀ s b, (k₂.xfer s b).2 ≠ none) :
    ∀ s, SReach (compose (Relay.machine k₁) (Relay.machine k₂)) s → ∀ k, TerminalFinal k s.tr :=
  fun s hs k => (readable_of_noViols hs (Fuse.compose_relay_basicSafe k₁ k₂ h₁ h₂ s hs).1 k).2.1

theorem C02_pipeline_readable {S1 L1 S2 L2 α β γ : Type} {M1 : Machine S1 L1 α β} {M2 : Machine S2 L2 β γ} (P1 : Pipeable M1) (P2 : Pipeable M2) :
    ∀ s, SReach (compose M1 M2) s → ∀ k, TerminalFinal k s.tr :=
  fun s hs k => (readable_of_noViols hs ((P1.compose P2).safe s hs).1 k).2.1

theorem C02_closed_pipeline_readable {S1 L1 S2 L2 α β γ : Type} {Msrc : Machine S1 L1 α β} {Mmid : Machine S2 L2 β γ} (hsrc : UpSide Msrc) (hmid : Pipeable Mmid) :
    ∀ s, SReach (compose (compose Msrc Mmid) (ForEach.machine γ)) s → ∀ k, TerminalFinal k s.tr :=
  fun s hs k => (readable_of_noViols hs (closed_pipeline_safe hsrc hmid s hs).1 k).2.1

theorem C02_plugged_readable {S1 L1 S2 L2 α β γ : Type} {M1 : Machine S1 L1 α β} {M2 : Machine S2 L2 β γ} (H : PlugSafe.HypP M1 M2) (j : Nat) :
    ∀ s, SReach (plug j M1 M2) s → ∀ k, TerminalFinal k s.tr :=
  fun s hs k => (readable_of_noViols hs (PlugSafe.plug_basicSafe H j s hs).1 k).2.1

theorem C02_flatten_network_readable {So Lo Si Li αo αi : Type} {Mo : Machine So Lo αo Int} {Mi : Machine Si Li αi Int} {initOf : Int → Si}
    (H : FlatPlugSafe.HypF Mo Mi initOf) :
    ∀ s, SReach (flatPlug Mo Mi initOf) s → ∀ k, TerminalFinal k s.tr :=
  fun s hs k => (readable_of_noViols hs (FlatPlugSafe.flatPlug_basicSafe H s hs).1 k).2.1

theorem C02_member_of_concat_readable {S1 L1 β : Type} {M1 : Machine S1 L1 β β} (h1 : Pipeable M1) (n : Nat) (hn : 0 < n) (j : Nat) :
    ∀ s, SReach (plugOp j M1 (Concat.machine β n)) s → ∀ k, TerminalFinal k s.tr :=
  fun s hs k => (readable_of_noViols hs (PlugOpSafe.plugOp_concat_basicSafe h1 n hn j s hs).1 k).2.1

theorem C02_take_member_of_merge_readable {α : Type} (max n j : Nat) :
    ∀ s, SReach (plugOp j (Take.machine α max) (Merge.machine α n true)) s → ∀ k, TerminalFinal k s.tr :=
  fun s hs k => (readable_of_noViols hs (LateMember.plugOp_take_merge_basicSafe max n j s hs).1 k).2.1

theorem C02_relay_member_of_merge_readable {σ α : Type} (kd : Relay.Kind σ α α) (hk : kd.slotted = false → ∀ s a, (kd.xfer s a).2 ≠ none) (n j : Nat) :
    ∀ s, SReach (plugOp j (Relay.machine kd) (Merge.machine α n true)) s → ∀ k, TerminalFinal k s.tr :=
  fun s hs k => (readable_of_noViols hs (LateMember.plugOp_relay_merge_basicSafe kd hk n j s hs).1 k).2.1

/-- the oracle that judges traces recorded from the real crate IS the monitor of these theorems: on every model execution the
machine-free monitor `monRun` (Mon.lean), folded over the boundary trace alone, computes exactly the ghost carried by the configuration
(`Inv/MonSound.lean`: `monRun_sound`), so `SafeFor 2` can be read off the trace -/
theorem C02_oracle_is_the_monitor {St Loc α β : Type} (M : Machine St Loc α β) :
    ∀ s, SReach M s →
      (SafeFor 2 s ↔ (∀ v ∈ (monRun M.shape s.tr.reverse).g.viols, v.prop ≠ 2) ∧
        (2 = 17 → (monRun M.shape s.tr.reverse).panicked = false)) :=
  safeFor_iff_monRun M 2
/-- `combine!`: the full phase-level safety statement is false (known findings KF2, KF3: messages to members that are not
live, a C04 matter); what is proved is that those are the ONLY phase-level violations, hence C02 holds in full. -/
theorem C02_combine {α : Type} (n : Nat) :
    ∀ s, SReach (Combine.machine α n) s → SafeFor 2 s :=
  fun s hs => safeFor_of_onlyUpNotLive _ s hs (Combine.combine_safe_partial n s hs).1 (Combine.combine_safe_partial n s hs).2 2 (by decide)

/-- `share`: proved for environments in which the source does not deliver from inside one of share's own deliveries
(`noNestedFanout`, the restriction C12 makes in its own quantifier). Without it C02 and C03 are false for 2+ sinks (known
findings KF5a, KF5b; see `Thm/Counterexamples.lean`). -/
theorem C02_share_partial {α : Type} :
    ∀ s, SReachR (Share.machine α) noNestedFanout s → SafeFor 2 s :=
  fun s hs => safeFor_of_basicSafe _ s hs.weaken (Share.share_basicSafe_partial s hs) 2 (by decide)

end Cb.Thm
