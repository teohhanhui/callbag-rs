import CallbagModel.Inv.Ghost
/-!
# Reachability, safety, and the macro-step proof rule

`SReach M s`: `s` is reachable by operator micro-steps and *legal* environment moves — every history, every nesting
depth (`SReachR.ind` is the induction over these steps).  Invariants are stated only at configurations where the
environment has control (`EnvTurn`); between two environment moves the operator is deterministic, and `safe_of_macro_inv`
lifts an invariant of that kind to every small-step reachable configuration, because the monitor only ever adds violations
(`opStep_ghost`, from its equations in `Inv/Ghost.lean`).

For the invariants that are stated at every small step instead, the operator step is given as a relation on explicit
configurations (`OStep`), with the induction over `SReach` that goes with it (`reach_ind`); under the top of the stack only waiting
frames are found (`tail_waits`, `of_waits`, `Conts`), and what only the operator's own calls can change is settled call by call
(`reach_calls`, `at_turn_of_calls`).
-/
namespace Cb

variable {St Loc α β : Type}

/-- environment moves from an environment-turn configuration (exactly `envMove`, as a relation) -/
inductive EnvStep (M : Machine St Loc α β) : Move α → Sys St Loc α β → Sys St Loc α β → Prop where
  | call {st stk g tr c} (i : In α) : ctxOf stk = some c → legalIn M.shape g.ph c i = true →
      EnvStep M (.call i) ⟨st, stk, g, tr, none⟩ ⟨st, .run (M.enter i) :: stk, g.onIn stk.length i, .inp i :: tr, none⟩
  | ret {st stk g tr o l} : legalRet M.shape g.ph (.inCall o : Ctx β) = true →
      EnvStep M .ret ⟨st, .wait o l :: stk, g, tr, none⟩ ⟨st, .run l :: stk, g, .retE :: tr, none⟩

/-- a further restriction of the environment, for the properties whose quantifier asks for one (C12, C14):
`R s m` says move `m` is allowed in configuration `s` -/
abbrev Restr (St Loc α β : Type) := Sys St Loc α β → Move α → Prop

def anyEnv : Restr St Loc α β := fun _ _ => True

inductive SStep (M : Machine St Loc α β) (R : Restr St Loc α β) : Sys St Loc α β → Sys St Loc α β → Prop where
  | op {a b} : opStep M a = some b → SStep M R a b
  | env {a b m} : EnvStep M m a b → R a m → SStep M R a b

inductive SReachR (M : Machine St Loc α β) (R : Restr St Loc α β) : Sys St Loc α β → Prop where
  | init : SReachR M R (Sys.init M)
  | step {a b} : SReachR M R a → SStep M R a b → SReachR M R b

abbrev SReach (M : Machine St Loc α β) : Sys St Loc α β → Prop := SReachR M anyEnv

theorem SReachR.ind {M : Machine St Loc α β} {R : Restr St Loc α β} (K : Sys St Loc α β → Prop) (h0 : K (Sys.init M))
    (hop : ∀ a b, SReachR M R a → K a → opStep M a = some b → K b)
    (henv : ∀ a b m, SReachR M R a → K a → EnvStep M m a b → R a m → K b) : ∀ s, SReachR M R s → K s := by
  intro s hs
  induction hs with
  | init => exact h0
  | step ha hab ih =>
    cases hab with
    | op h => exact hop _ _ ha ih h
    | env h hr => exact henv _ _ _ ha ih h hr

theorem SReachR.weaken {M : Machine St Loc α β} {R : Restr St Loc α β} {s : Sys St Loc α β} (h : SReachR M R s) : SReach M s :=
  SReachR.ind _ .init (fun _ _ _ ih h => .step ih (.op h)) (fun _ _ _ _ ih h _ => .step ih (.env h trivial)) s h

theorem envMove_iff (M : Machine St Loc α β) (m : Move α) (s s' : Sys St Loc α β) :
    envMove M s m = some s' ↔ EnvStep M m s s' := by
  constructor
  · intro h
    obtain ⟨st, stk, g, tr, p⟩ := s
    cases m with
    | call i =>
      simp only [envMove] at h
      cases p with
      | some _ => simp at h
      | none =>
        simp only [Option.isSome_none, Bool.false_eq_true, ↓reduceIte] at h
        cases hc : ctxOf stk with
        | none => simp [hc] at h
        | some c =>
          simp only [hc] at h
          by_cases hl : legalIn M.shape g.ph c i = true
          · simp only [hl, ↓reduceIte, Option.some.injEq] at h; subst h; exact EnvStep.call i hc hl
          · simp [hl] at h
    | ret =>
      simp only [envMove] at h
      cases p with
      | some _ => simp at h
      | none =>
        simp only [Option.isSome_none, Bool.false_eq_true, ↓reduceIte] at h
        cases stk with
        | nil => simp at h
        | cons f r =>
          cases f with
          | run l => simp at h
          | wait o l =>
            simp only at h
            by_cases hl : legalRet M.shape g.ph (.inCall o : Ctx β) = true
            · simp only [hl, ↓reduceIte, Option.some.injEq] at h; subst h; exact EnvStep.ret hl
            · simp [hl] at h
  · intro h
    cases h with
    | call i hc hl => simp [envMove, hc, hl]
    | ret hl => simp [envMove, hl]

def Safe (s : Sys St Loc α β) : Prop := s.g.viols = [] ∧ s.panicked = none

/-- no phase-level violation recorded (C01, C02, C03, protocol part of C04), no panic (C17) -/
def BasicSafe (s : Sys St Loc α β) : Prop := s.g.ph.viols = [] ∧ s.panicked = none

def SafeFor (p : Nat) (s : Sys St Loc α β) : Prop := (∀ v ∈ s.g.viols, v.prop ≠ p) ∧ (p = 17 → s.panicked = none)

theorem Safe.safeFor {s : Sys St Loc α β} (h : Safe s) (p : Nat) : SafeFor p s := by
  refine ⟨?_, fun _ => h.2⟩
  rw [h.1]; intro v hv; cases hv

theorem SafeFor.ph {p : Nat} {s : Sys St Loc α β} (h : SafeFor p s) : ∀ v ∈ s.g.ph.viols, v.prop ≠ p :=
  fun v hv => h.1 v (List.mem_append_right _ hv)

theorem Safe.basic {s : Sys St Loc α β} (h : Safe s) : BasicSafe s := by
  refine ⟨?_, h.2⟩
  have := h.1; unfold G.viols at this
  exact (List.append_eq_nil_iff.1 this).2

def EnvTurn (s : Sys St Loc α β) : Prop := s.panicked = none ∧ (ctxOf s.stack).isSome

theorem envTurn_of_top {s : Sys St Loc α β} (hp : s.panicked = none) (hstk : s.stack = []) : EnvTurn s :=
  ⟨hp, by rw [hstk]; rfl⟩

theorem opStep_none_of_envTurn {M : Machine St Loc α β} {s : Sys St Loc α β} (h : EnvTurn s) : opStep M s = none := by
  obtain ⟨hp, hc⟩ := h
  unfold opStep
  simp only [hp]
  cases hs : s.stack with
  | nil => simp
  | cons f stk => cases f with
    | run l => simp [hs, ctxOf] at hc
    | wait o l => simp

theorem envTurn_of_stuck {M : Machine St Loc α β} {s : Sys St Loc α β} (h : opStep M s = none) (hp : s.panicked = none) : EnvTurn s := by
  refine ⟨hp, ?_⟩
  obtain ⟨st, stk, g, tr, p⟩ := s
  simp only at hp; subst hp
  cases stk with
  | nil => simp [ctxOf]
  | cons f r =>
    cases f with
    | wait o l => simp [ctxOf]
    | run l =>
      exfalso
      simp only [opStep, Option.isSome_none, Bool.false_eq_true, if_false] at h
      cases hs : M.step st l <;> simp [hs] at h

theorem envTurn_of_envStep {M : Machine St Loc α β} {m : Move α} {a b : Sys St Loc α β} (h : EnvStep M m a b) : EnvTurn a := by
  cases h with
  | call i hc hl => simp [EnvTurn, hc]
  | ret hl => simp [EnvTurn, ctxOf]

theorem EnvStep.legal_of_call {M : Machine St Loc α β} {i : In α} {st stk g tr p c} {s' : Sys St Loc α β}
    (h : EnvStep M (.call i) ⟨st, stk, g, tr, p⟩ s') (hc : ctxOf stk = some c) : legalIn M.shape g.ph c i = true := by
  cases h with
  | call _ hc' hl => cases hc.symm.trans hc'; exact hl

theorem advance_fix (M : Machine St Loc α β) (s : Sys St Loc α β) (h : opStep M s = none) (n : Nat) : advance M n s = s := by
  cases n with
  | zero => rfl
  | succ n => simp [advance, h]

theorem advance_of_envTurn {M : Machine St Loc α β} {s : Sys St Loc α β} (h : EnvTurn s) (n : Nat) : advance M n s = s :=
  advance_fix M s (opStep_none_of_envTurn h) n

theorem advance_top (M : Machine St Loc α β) (n : Nat) (st : St) {stk : List (Frame Loc β)} (hc : (ctxOf stk).isSome) (g : G)
    (tr : List (Ev α β)) : advance M n ⟨st, stk, g, tr, none⟩ = ⟨st, stk, g, tr, none⟩ :=
  advance_of_envTurn ⟨rfl, hc⟩ n

theorem advance_add (M : Machine St Loc α β) (a b : Nat) (s : Sys St Loc α β) :
    advance M (a + b) s = advance M b (advance M a s) := by
  induction a generalizing s with
  | zero => simp [advance]
  | succ a ih =>
    rw [Nat.add_right_comm]
    simp only [advance]
    cases h : opStep M s with
    | none => simp [advance_fix M s h]
    | some s' => simp [ih]

theorem advance_confluent (M : Machine St Loc α β) (s : Sys St Loc α β) (n1 n2 : Nat)
    (e1 : EnvTurn (advance M n1 s)) (e2 : EnvTurn (advance M n2 s)) : advance M n1 s = advance M n2 s := by
  have a := advance_add M n1 n2 s
  have b := advance_add M n2 n1 s
  rw [advance_of_envTurn e1] at a
  rw [advance_of_envTurn e2, Nat.add_comm] at b
  exact a.symm.trans b

theorem advance_succ {M : Machine St Loc α β} {s s' : Sys St Loc α β} (k : Nat)
    (h : opStep M s = some s') : advance M (k + 1) s = advance M k s' := by
  simp [advance, h]

theorem advance_tau {M : Machine St Loc α β} {st st' : St} {l l' : Loc} (h : M.step st l = .tau st' l')
    (n : Nat) (stk : List (Frame Loc β)) (g : G) (tr : List (Ev α β)) :
    advance M (n + 1) ⟨st, .run l :: stk, g, tr, none⟩ = advance M n ⟨st', .run l' :: stk, g, tr, none⟩ := by
  simp only [advance, opStep, h, Option.isSome_none, Bool.false_eq_true, if_false]

theorem SReachR.advance {M : Machine St Loc α β} {R : Restr St Loc α β} (n : Nat) {s : Sys St Loc α β}
    (hs : SReachR M R s) : SReachR M R (advance M n s) := by
  induction n generalizing s with
  | zero => exact hs
  | succ n ih =>
    simp only [Cb.advance]
    cases h : opStep M s with
    | none => exact hs
    | some s' => exact ih (.step hs (.op h))

theorem runs_into_inv_op {M : Machine St Loc α β} {Inv : Sys St Loc α β → Prop} (hturn : ∀ s, Inv s → EnvTurn s)
    {a b : Sys St Loc α β} (h : opStep M a = some b) (ih : ∃ n, Inv (advance M n a)) : ∃ n, Inv (advance M n b) := by
  obtain ⟨n, hn⟩ := ih
  cases n with
  | zero => rw [show opStep M a = none from opStep_none_of_envTurn (hturn _ hn)] at h; cases h
  | succ n => exact ⟨n, by rwa [advance_succ n h] at hn⟩

theorem of_runs_into {M : Machine St Loc α β} {P : Sys St Loc α β → Prop}
    (hmono : ∀ s s', opStep M s = some s' → P s' → P s) : ∀ n s, P (advance M n s) → P s := by
  intro n
  induction n with
  | zero => exact fun s h => h
  | succ n ih =>
    intro s h
    cases ho : opStep M s with
    | none => rwa [advance_fix M s ho] at h
    | some s' => rw [advance_succ n ho] at h; exact hmono _ _ ho (ih _ h)

theorem reach_runs_into_inv (M : Machine St Loc α β) (R : Restr St Loc α β) (Inv : Sys St Loc α β → Prop)
    (hinit : Inv (Sys.init M)) (hturn : ∀ s, Inv s → EnvTurn s)
    (hstep : ∀ s s' m, Inv s → EnvStep M m s s' → R s m → ∃ n, Inv (advance M n s')) :
    ∀ s, SReachR M R s → ∃ n, Inv (advance M n s) := by
  refine SReachR.ind _ ⟨0, hinit⟩ (fun _ _ _ ih h => runs_into_inv_op hturn h ih) fun a b m _ ih h hr => ?_
  obtain ⟨n, hn⟩ := ih
  rw [advance_of_envTurn (envTurn_of_envStep h)] at hn
  exact hstep _ _ _ hn h hr

theorem inv_at_turnR (M : Machine St Loc α β) (R : Restr St Loc α β) (Inv : Sys St Loc α β → Prop)
    (hinit : Inv (Sys.init M)) (hturn : ∀ s, Inv s → EnvTurn s)
    (hstep : ∀ s s' m, Inv s → EnvStep M m s s' → R s m → ∃ n, Inv (advance M n s'))
    {s : Sys St Loc α β} (hs : SReachR M R s) (ht : EnvTurn s) : Inv s := by
  obtain ⟨n, hn⟩ := reach_runs_into_inv M R Inv hinit hturn hstep s hs
  rwa [advance_of_envTurn ht] at hn

theorem inv_at_turn (M : Machine St Loc α β) (Inv : Sys St Loc α β → Prop)
    (hinit : Inv (Sys.init M)) (hturn : ∀ s, Inv s → EnvTurn s)
    (hstep : ∀ s s' m, Inv s → EnvStep M m s s' → ∃ n, Inv (advance M n s'))
    {s : Sys St Loc α β} (hs : SReach M s) (ht : EnvTurn s) : Inv s :=
  inv_at_turnR M anyEnv Inv hinit hturn (fun s s' m hi he _ => hstep s s' m hi he) hs ht

/-- A layer `P` on top of an invariant `Inv` of environment turns.  The step may use that the turn it starts from is reachable:
that is what gives the layers about traces the generic facts that tie the ghost to the trace. -/
theorem layer_at_turn (M : Machine St Loc α β) (R : Restr St Loc α β) (Inv P : Sys St Loc α β → Prop)
    (hinit : Inv (Sys.init M)) (h0 : P (Sys.init M)) (hturn : ∀ s, Inv s → EnvTurn s)
    (hstep : ∀ s s' m, SReachR M R s → Inv s → P s → EnvStep M m s s' → R s m →
      ∃ n, Inv (advance M n s') ∧ P (advance M n s'))
    {s : Sys St Loc α β} (hs : SReachR M R s) (ht : EnvTurn s) : Inv s ∧ P s :=
  (inv_at_turnR M R (fun s => SReachR M R s ∧ Inv s ∧ P s) ⟨.init, hinit, h0⟩ (fun s h => hturn s h.2.1)
    (fun s s' m ⟨hr, hi, hp⟩ he hR =>
      (hstep s s' m hr hi hp he hR).imp fun n h => ⟨(hr.step (.env he hR)).advance n, h⟩) hs ht).2

theorem reach_on_run {M : Machine St Loc α β} {R : Restr St Loc α β} : ∀ c, SReachR M R c →
    c = Sys.init M ∨ ∃ s m s1 n, SReachR M R s ∧ EnvStep M m s s1 ∧ R s m ∧ advance M n s1 = c := by
  refine SReachR.ind _ (.inl rfl) (fun a b _ ih h => .inr ?_) fun a b m ha _ h hR => .inr ⟨a, m, b, 0, ha, h, hR, rfl⟩
  rcases ih with rfl | ⟨s, m, s1, n, hs, he, hR, rfl⟩
  · exact nomatch (opStep_none_of_envTurn (M := M) ⟨rfl, rfl⟩).symm.trans h
  · exact ⟨s, m, s1, n + 1, hs, he, hR, by rw [advance_add]; simp [advance, h]⟩

/-- The macro-step proof rule, for an arbitrary sticky notion of safety `P`: `P` holds where the invariant does, and is
inherited backwards along the operator's run into the invariant. -/
theorem reach_of_macro_inv (M : Machine St Loc α β) (R : Restr St Loc α β) (P : Sys St Loc α β → Prop) (Inv : Sys St Loc α β → Prop)
    (hinit : Inv (Sys.init M)) (hturn : ∀ s, Inv s → EnvTurn s ∧ P s)
    (hstep : ∀ s s' m, Inv s → EnvStep M m s s' → R s m → ∃ n, Inv (advance M n s'))
    (hmono : ∀ s s', opStep M s = some s' → P s' → P s) :
    ∀ s, SReachR M R s → P s := by
  intro s hs
  obtain ⟨n, hn⟩ := reach_runs_into_inv M R Inv hinit (fun s h => (hturn s h).1) hstep s hs
  exact of_runs_into hmono n s (hturn _ hn).2

theorem opStep_eq_some {M : Machine St Loc α β} {a b : Sys St Loc α β} (h : opStep M a = some b) :
    a.panicked = none ∧ ∃ l r, a.stack = .run l :: r ∧
      b = match M.step a.st l with
        | .tau s' l' => { a with st := s', stack := .run l' :: r }
        | .call o s' l' => { a with st := s', stack := .wait o l' :: r, g := a.g.onOut M.shape o, tr := .out o :: a.tr }
        | .ret => { a with stack := r, g := a.g.onRetO r.length, tr := .retO :: a.tr }
        | .panic m => { a with stack := r, panicked := some m, tr := .panic :: a.tr } := by
  unfold opStep at h
  cases hp : a.panicked with
  | some m => simp [hp] at h
  | none =>
    simp only [hp, Option.isSome_none, Bool.false_eq_true, ↓reduceIte] at h
    refine ⟨rfl, ?_⟩
    cases hstk : a.stack with
    | nil => simp [hstk] at h
    | cons f r =>
      cases f with
      | wait o l => simp [hstk] at h
      | run l =>
        refine ⟨l, r, rfl, ?_⟩
        simp only [hstk] at h
        cases hst : M.step a.st l <;> simp only [hst, Option.some.injEq] at h <;> exact h.symm

theorem opStep_ghost (M : Machine St Loc α β) (a b : Sys St Loc α β) (h : opStep M a = some b) :
    (∃ l, b.g.ph.viols = l ++ a.g.ph.viols) ∧ (∃ l, b.g.xviols = l ++ a.g.xviols ∧ ∀ v ∈ l, v.prop = 4 ∨ v.prop = 5) ∧
      (b.panicked = none → a.panicked = none) := by
  have same : ∃ l, a.g.xviols = l ++ a.g.xviols ∧ ∀ v ∈ l, v.prop = 4 ∨ v.prop = 5 := ⟨[], rfl, fun _ hv => nomatch hv⟩
  obtain ⟨hp, l, r, _, rfl⟩ := opStep_eq_some h
  cases M.step a.st l with
  | tau s' l' => exact ⟨⟨[], rfl⟩, same, fun _ => hp⟩
  | panic m => exact ⟨⟨[], rfl⟩, same, fun _ => hp⟩
  | call o s' l' =>
    obtain ⟨l, hg, hl⟩ := onOut_eq M.shape a.g o
    refine ⟨by simp only [onOut_ph]; exact ph_onOut_viols_suffix _ _, ⟨l, by simp only [hg], fun v hv => ?_⟩, fun _ => hp⟩
    obtain rfl | ⟨i, _, _, _, _, rfl, _⟩ := hl
    · cases hv
    · exact List.mem_singleton.1 hv ▸ .inl rfl
  | ret =>
    obtain ⟨l, hg, hl⟩ := onRetO_eq a.g r.length
    refine ⟨⟨[], by simp only [onRetO_ph]; rfl⟩, ⟨l, by simp only [hg], fun v hv => ?_⟩, fun _ => hp⟩
    obtain ⟨_, _, _, _, rfl⟩ | ⟨_, _, _, ⟨_, _, rfl, _⟩ | ⟨_, _, rfl⟩⟩ := hl v hv
    · exact .inl rfl
    · exact .inr rfl
    · exact .inr rfl

theorem opStep_viols_subset (M : Machine St Loc α β) (a b : Sys St Loc α β) (h : opStep M a = some b) :
    a.g.ph.viols ⊆ b.g.ph.viols ∧ a.g.viols ⊆ b.g.viols ∧ (b.panicked = none → a.panicked = none) := by
  obtain ⟨⟨l, hl⟩, ⟨l', hl', -⟩, hp⟩ := opStep_ghost M a b h
  unfold G.viols
  rw [hl, hl']
  exact ⟨List.subset_append_right _ _,
    List.append_subset.2 ⟨fun _ hv => List.mem_append_left _ (List.mem_append_right _ hv),
      fun _ hv => List.mem_append_right _ (List.mem_append_right _ hv)⟩, hp⟩

theorem basicSafe_mono (M : Machine St Loc α β) (a b : Sys St Loc α β) (h : opStep M a = some b) (hs : BasicSafe b) :
    BasicSafe a :=
  have ⟨hph, _, hp⟩ := opStep_viols_subset M a b h
  ⟨List.eq_nil_of_subset_nil (hs.1 ▸ hph), hp hs.2⟩

theorem safe_mono (M : Machine St Loc α β) (a b : Sys St Loc α β) (h : opStep M a = some b) (hs : Safe b) : Safe a :=
  have ⟨_, hv, hp⟩ := opStep_viols_subset M a b h
  ⟨List.eq_nil_of_subset_nil (hs.1 ▸ hv), hp hs.2⟩

theorem safeFor_mono (p : Nat) (M : Machine St Loc α β) (a b : Sys St Loc α β) (h : opStep M a = some b) (hs : SafeFor p b) :
    SafeFor p a :=
  have ⟨_, hv, hp⟩ := opStep_viols_subset M a b h
  ⟨fun v hva => hs.1 v (hv hva), fun h17 => hp (hs.2 h17)⟩

theorem basicSafe_of_macro_inv (M : Machine St Loc α β) (Inv : Sys St Loc α β → Prop)
    (hinit : Inv (Sys.init M)) (hturn : ∀ s, Inv s → EnvTurn s ∧ BasicSafe s)
    (hstep : ∀ s s' m, Inv s → EnvStep M m s s' → ∃ n, Inv (advance M n s')) :
    ∀ s, SReach M s → BasicSafe s :=
  reach_of_macro_inv M anyEnv BasicSafe Inv hinit hturn (fun s s' m hi he _ => hstep s s' m hi he) (basicSafe_mono M)

theorem safe_of_macro_inv (M : Machine St Loc α β) (Inv : Sys St Loc α β → Prop)
    (hinit : Inv (Sys.init M)) (hturn : ∀ s, Inv s → EnvTurn s ∧ Safe s)
    (hstep : ∀ s s' m, Inv s → EnvStep M m s s' → ∃ n, Inv (advance M n s')) :
    ∀ s, SReach M s → Safe s :=
  reach_of_macro_inv M anyEnv Safe Inv hinit hturn (fun s s' m hi he _ => hstep s s' m hi he) (safe_mono M)

inductive OStep (M : Machine St Loc α β) : Sys St Loc α β → Sys St Loc α β → Prop where
  | tau {st l stk g tr s' l'} : M.step st l = .tau s' l' →
      OStep M ⟨st, .run l :: stk, g, tr, none⟩ ⟨s', .run l' :: stk, g, tr, none⟩
  | call {st l stk g tr o s' l'} : M.step st l = .call o s' l' →
      OStep M ⟨st, .run l :: stk, g, tr, none⟩ ⟨s', .wait o l' :: stk, g.onOut M.shape o, .out o :: tr, none⟩
  | ret {st l stk g tr} : M.step st l = .ret →
      OStep M ⟨st, .run l :: stk, g, tr, none⟩ ⟨st, stk, g.onRetO stk.length, .retO :: tr, none⟩
  | panic {st l stk g tr m} : M.step st l = .panic m →
      OStep M ⟨st, .run l :: stk, g, tr, none⟩ ⟨st, stk, g, .panic :: tr, some m⟩

theorem oStep_of_opStep {M : Machine St Loc α β} {a b : Sys St Loc α β} (h : opStep M a = some b) : OStep M a b := by
  obtain ⟨hp, l, r, hs, rfl⟩ := opStep_eq_some h
  obtain ⟨st, stk, g, tr, p⟩ := a
  cases hp; cases hs
  cases hst : M.step st l with
  | tau s' l' => exact .tau hst
  | call o s' l' => exact .call hst
  | ret => exact .ret hst
  | panic m => exact .panic hst

theorem opStep_of_oStep {M : Machine St Loc α β} {a b : Sys St Loc α β} (h : OStep M a b) : opStep M a = some b := by
  cases h with
  | tau h => simp [opStep, h]
  | call h => simp [opStep, h]
  | ret h => simp [opStep, h]
  | panic h => simp [opStep, h]

theorem opStep_det {M : Machine St Loc α β} {a b b' : Sys St Loc α β} (h : opStep M a = some b) (h' : OStep M a b') : b = b' :=
  Option.some.inj (h.symm.trans (opStep_of_oStep h'))

theorem reach_op {M : Machine St Loc α β} {a b : Sys St Loc α β} (ha : SReach M a) (h : OStep M a b) : SReach M b :=
  .step ha (.op (opStep_of_oStep h))

theorem reach_env {M : Machine St Loc α β} {a b : Sys St Loc α β} {m : Move α} (ha : SReach M a) (h : EnvStep M m a b) :
    SReach M b :=
  .step ha (.env h trivial)

theorem reach_call {M : Machine St Loc α β} {st stk g tr c} (h : SReach M ⟨st, stk, g, tr, none⟩) (i : In α)
    (hc : ctxOf stk = some c) (hl : legalIn M.shape g.ph c i = true) :
    SReach M ⟨st, .run (M.enter i) :: stk, g.onIn stk.length i, .inp i :: tr, none⟩ :=
  reach_env h (.call i hc hl)

theorem reach_ret {M : Machine St Loc α β} {st stk g tr o l} (h : SReach M ⟨st, .wait o l :: stk, g, tr, none⟩)
    (hl : legalRet M.shape g.ph (.inCall o : Ctx β) = true) : SReach M ⟨st, .run l :: stk, g, .retE :: tr, none⟩ :=
  reach_env h (.ret hl)

theorem inv_after_call (M : Machine St Loc α β) (Inv : Sys St Loc α β → Prop)
    (hinit : Inv (Sys.init M)) (hturn : ∀ s, Inv s → EnvTurn s)
    (hstep : ∀ s s' m, Inv s → EnvStep M m s s' → ∃ n, Inv (advance M n s'))
    {st : St} {l : Loc} {k1 : List (Frame Loc β)} {g : G} {tr : List (Ev α β)} {o : Out β} {st' : St} {l' : Loc}
    (hr : SReach M ⟨st, .run l :: k1, g, tr, none⟩) (hst : M.step st l = .call o st' l') :
    Inv ⟨st', .wait o l' :: k1, g.onOut M.shape o, .out o :: tr, none⟩ :=
  inv_at_turn M Inv hinit hturn hstep (reach_op hr (.call hst)) ⟨rfl, rfl⟩

theorem reach_ind (M : Machine St Loc α β) (K : Sys St Loc α β → Prop) (h0 : K (Sys.init M))
    (hop : ∀ a b, SReach M a → K a → OStep M a b → K b)
    (henv : ∀ a b m, SReach M a → K a → EnvStep M m a b → K b) : ∀ s, SReach M s → K s :=
  SReachR.ind K h0 (fun a b ha ka h => hop a b ha ka (oStep_of_opStep h)) fun a b m ha ka h _ => henv a b m ha ka h

def nextSt? : Act St Loc β → Option St
  | .tau s _ => some s
  | .call _ s _ => some s
  | _ => none

theorem st_inv (M : Machine St Loc α β) (P : St → Prop) (h0 : P M.init)
    (hstep : ∀ st l, P st → ∀ s ∈ nextSt? (M.step st l), P s) : ∀ s, SReach M s → P s.st := by
  apply reach_ind
  · exact h0
  · intro a b _ ih h
    cases h with
    | @tau st l _ _ _ _ _ hst => exact hstep st l ih _ (by rw [hst]; rfl)
    | @call st l _ _ _ _ _ _ hst => exact hstep st l ih _ (by rw [hst]; rfl)
    | ret _ => exact ih
    | panic _ => exact ih
  · intro a b m _ ih h
    cases h <;> exact ih

theorem waits_of_ctx {stk : List (Frame Loc β)} {c : Ctx β} (hc : ctxOf stk = some c)
    (h : ∀ f ∈ stk.tail, ∃ o l, f = Frame.wait o l) : ∀ f ∈ stk, ∃ o l, f = Frame.wait o l := by
  cases stk with
  | nil => exact fun f hf => nomatch hf
  | cons f r =>
    cases f with
    | run l => cases hc
    | wait o l => exact List.forall_mem_cons.2 ⟨⟨o, l, rfl⟩, h⟩

theorem ctx_isSome_of_waits {P : Frame Loc β → Prop} (hP : ∀ l, ¬ P (.run l)) {stk : List (Frame Loc β)}
    (h : ∀ f ∈ stk, P f) : (ctxOf stk).isSome := by
  cases stk with
  | nil => rfl
  | cons f r =>
    cases f with
    | run l => exact absurd (h _ List.mem_cons_self) (hP l)
    | wait o l => rfl

theorem OStep.tail_waits {M : Machine St Loc α β} {a b : Sys St Loc α β} (h : OStep M a b)
    (ha : ∀ f ∈ a.stack.tail, ∃ o l, f = Frame.wait o l) : ∀ f ∈ b.stack.tail, ∃ o l, f = Frame.wait o l := by
  cases h with
  | tau _ | call _ => exact ha
  | ret _ | panic _ => exact fun f hf => ha f (List.mem_of_mem_tail hf)

theorem tail_waits (M : Machine St Loc α β) : ∀ s, SReach M s → ∀ f ∈ s.stack.tail, ∃ o l, f = Frame.wait o l := by
  refine reach_ind M _ (fun f hf => nomatch hf) (fun a b _ ih h => h.tail_waits ih) (fun a b m _ ih h => ?_)
  cases h with
  | call i hc hl => exact waits_of_ctx hc ih
  | ret hl => exact ih

theorem turn_all_waits (M : Machine St Loc α β) {s : Sys St Loc α β} (hs : SReach M s) {c : Ctx β}
    (hc : ctxOf s.stack = some c) : ∀ f ∈ s.stack, ∃ o l, f = Frame.wait o l :=
  waits_of_ctx hc (tail_waits M s hs)

theorem pop_turn (M : Machine St Loc α β) {st : St} {l : Loc} {stk : List (Frame Loc β)} {g : G} {tr : List (Ev α β)}
    {p : Option String} (h : SReach M ⟨st, .run l :: stk, g, tr, p⟩) : ∀ f ∈ stk, ∃ o l, f = Frame.wait o l :=
  tail_waits M _ h

theorem of_waits (P : List (Frame Loc β) → Prop) {stk : List (Frame Loc β)} (h : ∀ f ∈ stk, ∃ o l, f = Frame.wait o l)
    (hnil : P []) (hwait : ∀ o l r, P (.wait o l :: r)) : P stk := by
  cases stk with
  | nil => exact hnil
  | cons f r => obtain ⟨o, l, rfl⟩ := h f List.mem_cons_self; exact hwait o l r

/-- the program point of a frame: where it runs or, inside a call, where it will go on -/
def Frame.loc {Loc β} : Frame Loc β → Loc
  | .run l | .wait _ l => l

def Conts (C : Loc → Prop) (stk : List (Frame Loc β)) : Prop := ∀ f ∈ stk, ∀ o l, f = Frame.wait o l → C l

theorem Conts.run {C : Loc → Prop} {l : Loc} {stk : List (Frame Loc β)} (h : Conts C stk) : Conts C (.run l :: stk) :=
  List.forall_mem_cons.2 ⟨nofun, h⟩

theorem Conts.wait {C : Loc → Prop} {o : Out β} {l : Loc} {stk : List (Frame Loc β)} (h : Conts C stk) (hl : C l) :
    Conts C (.wait o l :: stk) :=
  List.forall_mem_cons.2 ⟨fun _ _ he => (Frame.wait.inj he).2 ▸ hl, h⟩

theorem Conts.tail {C : Loc → Prop} {f : Frame Loc β} {stk : List (Frame Loc β)} (h : Conts C (f :: stk)) : Conts C stk :=
  (List.forall_mem_cons.1 h).2

/-- a property of the trace that no event but the operator's own calls can break holds at every reachable configuration as soon
as each call preserves it; `A` is an assumption about the trace that is closed under tails -/
theorem reach_calls (M : Machine St Loc α β) (A Φ : List (Ev α β) → Prop) (hA : ∀ e tr, A (e :: tr) → A tr) (h0 : Φ [])
    (hev : ∀ e tr, (∀ o, e ≠ .out o) → Φ tr → Φ (e :: tr))
    (hcall : ∀ st l stk g tr o s' l', SReach M ⟨st, .run l :: stk, g, tr, none⟩ → M.step st l = .call o s' l' → A tr → Φ tr →
      Φ (.out o :: tr)) : ∀ s, SReach M s → A s.tr → Φ s.tr := by
  apply reach_ind
  · exact fun _ => h0
  · intro a b ha ih h
    cases h with
    | tau _ => exact ih
    | call hst => exact fun hC => hcall _ _ _ _ _ _ _ _ ha hst (hA _ _ hC) (ih (hA _ _ hC))
    | ret _ => exact fun hC => hev _ _ nofun (ih (hA _ _ hC))
    | panic _ => exact fun hC => hev _ _ nofun (ih (hA _ _ hC))
  · intro a b m _ ih h
    cases h with
    | call i _ _ => exact fun hC => hev _ _ nofun (ih (hA _ _ hC))
    | ret _ => exact fun hC => hev _ _ nofun (ih (hA _ _ hC))

/-- what only the operator's own calls change has, at every reachable configuration, the value it had at some environment turn: a call
gives control to the environment -/
theorem at_turn_of_calls (M : Machine St Loc α β) {X : Type} (f : List (Ev α β) → X)
    (hf : ∀ e tr, (∀ o, e ≠ .out o) → f (e :: tr) = f tr) :
    ∀ s, SReach M s → ∃ t, SReach M t ∧ EnvTurn t ∧ f s.tr = f t.tr :=
  fun s hs => reach_calls M (fun _ => True) (fun tr => ∃ t, SReach M t ∧ EnvTurn t ∧ f tr = f t.tr) (fun _ _ _ => trivial)
    ⟨_, .init, ⟨rfl, rfl⟩, rfl⟩ (fun e tr he ⟨t, h1, h2, h3⟩ => ⟨t, h1, h2, (hf e tr he).trans h3⟩)
    (fun _ _ _ _ _ _ _ _ ha hst _ _ => ⟨_, reach_op ha (.call hst), ⟨rfl, rfl⟩, rfl⟩) s hs trivial

end Cb
