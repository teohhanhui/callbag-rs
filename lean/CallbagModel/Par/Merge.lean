import CallbagModel.Par.Count
import CallbagModel.Ops.Merge
/-!
# merge! under racing member threads (C18, merge part)

Thread `i` plays member `i` of `merge!`: greeting, data, at most one terminal; every interleaving of the micro-steps of
`Merge.step` (`pstep`).  Proof: one global invariant (`Inv`) relating the shared counters `startCount` / `endCount` and the
observation counters to the NUMBER of threads at certain program points (Owicki–Gries with counting, as in `Par/TakeAbs.lean`),
proved directly on `PSys` (program point of a thread: `pc`).
-/
namespace Cb.MergePar
open Cb.Merge

def MemberScript {α : Type} (i : Nat) (fails : Bool) : List (In α) → Prop
  | [] => False
  | g :: rest => g = In.srcGreet i ∧ ∃ (ds : List α) (fin : List (In α)),
      rest = ds.map (fun a => In.srcDown i (Down.data a)) ++ fin ∧
      (fin = [] ∨ fin = [In.srcDown i Down.term] ∨ (fails = true ∧ ∃ e, fin = [In.srcDown i (Down.err e)]))

def Members {α : Type} (n : Nat) (fails : Bool) (ths : List (Thread (Loc α) α α)) : Prop :=
  ths.length = n ∧ ∀ i (h : i < ths.length), ths[i].frame = none ∧ MemberScript i fails ths[i].script

def start {α : Type} (n : Nat) (ths : List (Thread (Loc α) α α)) : PSys St (Loc α) α α :=
  { st := { slots := List.replicate n false, startCount := 0, endCount := 0, ended := false }, threads := ths, obs := {} }

def twoFail : List (Thread (Loc Nat) Nat Nat) :=
  [ { script := [.srcGreet 0, .srcDown 0 (.err 7)] }, { script := [.srcGreet 1, .srcDown 1 (.err 8)] } ]

/-- both greetings run to completion, then both `Error` handlers are entered before either has set `ended`; both run through -/
def twoFailSched : List Nat :=
  [0,0,0,0,0,0, 1,1,1,1, 0,1, 0,0,0,0,0,0,0,0, 1,1,1,1,1,1,1,1]

def obsOf {St Loc α β} (o : Option (PSys St Loc α β)) : Option (Nat × Nat × Nat × Nat × Nat) :=
  o.map fun s => (s.obs.greets, s.obs.terms, s.obs.errs, s.obs.afterTerm, s.obs.upTerms)

-- `obsOf` of the run `runSched (machine Nat 2) (start 2 twoFail) twoFailSched` is `some (1, 0, 2, 1, 2)`: one greeting, no
-- `Terminate`, two `Error`s to the sink, one of them after its terminal, two `Terminate`s upstream

abbrev Th (α : Type) := Thread (Loc α) α α

def isTermIn {α} : In α → Bool | .srcDown _ .term => true | _ => false
def isErrIn {α} : In α → Bool | .srcDown _ (.err _) => true | _ => false
def hasTerm {α} : List (In α) → Bool
  | [] => false
  | x :: r => isTermIn x || hasTerm r
def hasErr {α} : List (In α) → Bool
  | [] => false
  | x :: r => isErrIn x || hasErr r
@[simp] theorem isTermIn_greet {α} (i : Nat) : isTermIn (α := α) (.srcGreet i) = false := rfl
@[simp] theorem isTermIn_data {α} (i : Nat) (a : α) : isTermIn (.srcDown i (.data a)) = false := rfl
@[simp] theorem isTermIn_term {α} (i : Nat) : isTermIn (α := α) (.srcDown i .term) = true := rfl
@[simp] theorem isTermIn_err {α} (i e : Nat) : isTermIn (α := α) (.srcDown i (.err e)) = false := rfl
@[simp] theorem isErrIn_greet {α} (i : Nat) : isErrIn (α := α) (.srcGreet i) = false := rfl
@[simp] theorem isErrIn_data {α} (i : Nat) (a : α) : isErrIn (.srcDown i (.data a)) = false := rfl
@[simp] theorem isErrIn_term {α} (i : Nat) : isErrIn (α := α) (.srcDown i .term) = false := rfl
@[simp] theorem isErrIn_err {α} (i e : Nat) : isErrIn (α := α) (.srcDown i (.err e)) = true := rfl

def okScript {α} : List (In α) → Prop
  | [] => True
  | .srcGreet _ :: r => okScript r
  | .srcDown _ (.data _) :: r => okScript r
  | .srcDown _ .term :: r => r = []
  | .srcDown _ (.err _) :: r => r = []
  | _ :: _ => False

/-- inside the `Terminate` / `Error` handlers the script is exhausted -/
def okLoc {α} : Loc α → List (In α) → Prop
  | .done, _ | .g0 _, _ | .g1 _, _ | .g2, _ | .data _, _ => True
  | .e0 .., sc | .eLoop .., sc | .eOut _, sc | .t0 _, sc | .t1, sc | .t2, sc => sc = []
  | _, _ => False

/-- the program point of a thread; `done` when it is idle -/
def pc {α} (th : Th α) : Loc α := (th.frame.map Frame.loc).getD .done

def okThread {α} (th : Th α) : Prop := okScript th.script ∧ okLoc (pc th) th.script

def isG2 {α} : Loc α → Bool | .g2 => true | _ => false
def isT2 {α} : Loc α → Bool | .t2 => true | _ => false
def isPreT1 {α} : Loc α → Bool | .t0 _ | .t1 => true | _ => false
def isErrLoc {α} : Loc α → Bool | .e0 .. | .eLoop .. | .eOut _ => true | _ => false
def isLiveLoc {α} : Loc α → Bool
  | .g0 _ | .g1 _ | .g2 | .data _ | .t0 _ | .t1 | .e0 .. | .eLoop .. | .eOut _ => true
  | _ => false

/-- about to greet the sink (holds the ticket `startCount = 1`) -/
def atG2 {α} (th : Th α) : Bool := isG2 (pc th)
/-- about to complete the sink (holds the ticket `endCount = n`) -/
def atT2 {α} (th : Th α) : Bool := isT2 (pc th)
/-- will still increment `endCount` -/
def preT1 {α} (th : Th α) : Bool := isPreT1 (pc th) || hasTerm th.script
/-- will still deliver `Error` to the sink -/
def mayErr {α} (th : Th α) : Bool := isErrLoc (pc th) || hasErr th.script
/-- inside a data delivery to the sink -/
def inData {α} (th : Th α) : Bool :=
  match th.frame with
  | some (.wait o _) => isDataOut o
  | _ => false
/-- has not incremented `endCount` and has something left to do (a delivery to start, a call to make or to return from) -/
def liveR {α} (th : Th α) : Bool := inData th || isLiveLoc (pc th) || !th.script.isEmpty

def isDataIn {α} : In α → Bool | .srcDown _ (.data _) => true | _ => false
@[simp] theorem isDataIn_greet {α} (i : Nat) : isDataIn (α := α) (.srcGreet i) = false := rfl
@[simp] theorem isDataIn_data {α} (i : Nat) (a : α) : isDataIn (.srcDown i (.data a)) = true := rfl
@[simp] theorem isDataIn_term {α} (i : Nat) : isDataIn (α := α) (.srcDown i .term) = false := rfl
@[simp] theorem isDataIn_err {α} (i e : Nat) : isDataIn (α := α) (.srcDown i (.err e)) = false := rfl
def nData {α} : List (In α) → Nat
  | [] => 0
  | x :: r => (if isDataIn x then 1 else 0) + nData r
/-- data handed (or still to be handed) to merge by this thread and not yet passed on to the sink -/
def pend {α} (th : Th α) : Nat := nData th.script + (match pc th with | .data _ => 1 | _ => 0)

structure Sums where
  g2 : Nat
  t2 : Nat
  pre : Nat
  err : Nat
  live : Nat
  dat : Nat
  pend : Nat

def Sums.add (a b : Sums) : Sums :=
  ⟨a.g2 + b.g2, a.t2 + b.t2, a.pre + b.pre, a.err + b.err, a.live + b.live, a.dat + b.dat, a.pend + b.pend⟩

def sums {α} (l : List (Th α)) : Sums :=
  ⟨cnt atG2 l, cnt atT2 l, cnt preT1 l, cnt mayErr l, cnt liveR l, cnt inData l, tot pend l⟩

/-- the share of one thread -/
def wt {α} (th : Th α) : Sums :=
  ⟨(atG2 th).toNat, (atT2 th).toNat, (preT1 th).toNat, (mayErr th).toNat, (liveR th).toNat, (inData th).toNat, pend th⟩

theorem sums_set {α} {l : List (Th α)} {t : Nat} {th : Th α} (h : l[t]? = some th) (th' : Th α) :
    ∃ c : Sums, sums l = c.add (wt th) ∧ sums (l.set t th') = c.add (wt th') := by
  obtain ⟨c1, a1, b1⟩ := cnt_split atG2 h th'
  obtain ⟨c2, a2, b2⟩ := cnt_split atT2 h th'
  obtain ⟨c3, a3, b3⟩ := cnt_split preT1 h th'
  obtain ⟨c4, a4, b4⟩ := cnt_split mayErr h th'
  obtain ⟨c5, a5, b5⟩ := cnt_split liveR h th'
  obtain ⟨c6, a6, b6⟩ := cnt_split inData h th'
  obtain ⟨c7, a7, b7⟩ := tot_split pend h th'
  refine ⟨⟨c1, c2, c3, c4, c5, c6, c7⟩, ?_, ?_⟩
  · rw [sums, a1, a2, a3, a4, a5, a6, a7]; rfl
  · rw [sums, b1, b2, b3, b4, b5, b6, b7]; rfl

theorem inData_le_liveR {α} (l : List (Th α)) : (sums l).dat ≤ (sums l).live :=
  List.countP_mono_left fun _ _ h => by rw [liveR, h]; rfl

/-! The share of a thread at each program point, by evaluation.  Inside the `Terminate` / `Error` handlers the script is
exhausted (`okLoc`); an idle thread counts as one at `done`; a thread inside a call counts as one at the program point where it
will go on, and a data delivery in progress adds `live` and `dat`. -/
section shares
variable {α : Type} (sc : List (In α))

theorem wt_done : wt ⟨sc, some (.run .done)⟩ =
    ⟨0, 0, (hasTerm sc).toNat, (hasErr sc).toNat, (!sc.isEmpty).toNat, 0, nData sc⟩ := rfl
theorem wt_nil : wt (α := α) ⟨[], none⟩ = ⟨0, 0, 0, 0, 0, 0, 0⟩ := rfl
theorem wt_cons (i : In α) : wt ⟨i :: sc, none⟩ =
    ⟨0, 0, (hasTerm (i :: sc)).toNat, (hasErr (i :: sc)).toNat, 1, 0, nData (i :: sc)⟩ := rfl
theorem wt_done_nil : wt (α := α) ⟨[], some (.run .done)⟩ = ⟨0, 0, 0, 0, 0, 0, 0⟩ := rfl
theorem wt_g0 (i : Nat) : wt ⟨sc, some (.run (.g0 i))⟩ = ⟨0, 0, (hasTerm sc).toNat, (hasErr sc).toNat, 1, 0, nData sc⟩ := rfl
theorem wt_g1 (i : Nat) : wt ⟨sc, some (.run (.g1 i))⟩ = ⟨0, 0, (hasTerm sc).toNat, (hasErr sc).toNat, 1, 0, nData sc⟩ := rfl
theorem wt_g2 : wt ⟨sc, some (.run .g2)⟩ = ⟨1, 0, (hasTerm sc).toNat, (hasErr sc).toNat, 1, 0, nData sc⟩ := rfl
theorem wt_data (a : α) : wt ⟨sc, some (.run (.data a))⟩ =
    ⟨0, 0, (hasTerm sc).toNat, (hasErr sc).toNat, 1, 0, nData sc + 1⟩ := rfl
theorem wt_t1 : wt (α := α) ⟨[], some (.run .t1)⟩ = ⟨0, 0, 1, 0, 1, 0, 0⟩ := rfl
theorem wt_t2 : wt (α := α) ⟨[], some (.run .t2)⟩ = ⟨0, 1, 0, 0, 0, 0, 0⟩ := rfl
theorem wt_e0 (i e : Nat) : wt (α := α) ⟨[], some (.run (.e0 i e))⟩ = ⟨0, 0, 0, 1, 1, 0, 0⟩ := rfl
theorem wt_eLoop (i j e : Nat) : wt (α := α) ⟨[], some (.run (.eLoop i j e))⟩ = ⟨0, 0, 0, 1, 1, 0, 0⟩ := rfl
theorem wt_eOut (e : Nat) : wt (α := α) ⟨[], some (.run (.eOut e))⟩ = ⟨0, 0, 0, 1, 1, 0, 0⟩ := rfl

theorem wt_wait {o : Out α} (h : isDataOut o = false) {l : Loc α} {a : Sums} (hl : wt ⟨sc, some (.run l)⟩ = a) :
    wt ⟨sc, some (.wait o l)⟩ = a := by
  rw [← hl]; simp only [wt, liveR, inData, h]; rfl

theorem wt_wait_data {o : Out α} (h : isDataOut o = true) {l : Loc α} {a : Sums} (hl : wt ⟨sc, some (.run l)⟩ = a) :
    wt ⟨sc, some (.wait o l)⟩ = { a with live := 1, dat := 1 } := by
  rw [← hl]; simp only [wt, liveR, inData, h]; rfl

/-- starting the delivery `i` exchanges nothing: the thread will do from its program point what it had in its script -/
theorem enter_ok {i : In α} {sc} (h : okScript (i :: sc)) :
    okThread ⟨sc, some (.run (enter i))⟩ ∧ wt ⟨sc, some (.run (enter i))⟩ = wt ⟨i :: sc, none⟩ := by
  cases i with
  | subscribe k => exact h.elim
  | sinkUp k u => exact h.elim
  | srcGreet k => exact ⟨⟨h, trivial⟩, congrArg (Sums.mk 0 0 _ _ 1 0) (Nat.zero_add _).symm⟩
  | srcDown k m =>
    cases m with
    | data a => exact ⟨⟨h, trivial⟩, congrArg (Sums.mk 0 0 _ _ 1 0) (Nat.add_comm ..)⟩
    | term => obtain rfl : sc = [] := h; exact ⟨⟨trivial, rfl⟩, rfl⟩
    | err e => obtain rfl : sc = [] := h; exact ⟨⟨trivial, rfl⟩, rfl⟩

end shares

/-! The invariant's arithmetic, on plain numbers.  In each statement the last summand of a sum is the share of the thread that
moves. -/

/-- Ticket `k` of a counter that only grows, with `holders` threads holding it and the message it entitles to `sent`: at most
one of the two, and neither before the counter has reached `k`.  The greeting is ticket `1` of `startCount`, the completion
ticket `n` of `endCount`. -/
def Ticket (k cnt sent holders : Nat) : Prop := sent + holders ≤ 1 ∧ (cnt < k → sent + holders = 0)

/-- what is still to come is bounded: `pre`, `err`, `live` are the sums of `preT1`, `mayErr`, `liveR` -/
def Bound (n E0 endCount errs pre err live : Nat) : Prop :=
  endCount + pre + errs + err ≤ n ∧ errs + err ≤ E0 ∧ endCount + live ≤ n

/-- the data: `dat`, `pend` are the sums of `inData`, `pend` -/
def Flow (E0 D0 inFlight dat delivered pend : Nat) : Prop := inFlight = dat ∧ (E0 = 0 → delivered + pend = D0)

section arithmetic
variable {k cnt m x n E0 D0 ec errs terms p p' e e' l l' y f d len q q' : Nat}

theorem Ticket.take (h : Ticket k cnt m x) (hk : cnt + 1 = k) : Ticket k (cnt + 1) m (x + 1) := by
  unfold Ticket at *; omega

theorem Ticket.pass (h : Ticket k cnt m x) : Ticket k (cnt + 1) m x := by
  unfold Ticket at *; omega

theorem Ticket.use (h : Ticket k cnt m (x + 1)) : Ticket k cnt (m + 1) x := by
  unfold Ticket at *; omega

theorem Bound.mono (h : Bound n E0 ec errs p e l) (hp : p' ≤ p) (he : e' ≤ e) (hl : l' ≤ l) : Bound n E0 ec errs p' e' l' := by
  unfold Bound at *; omega

theorem Bound.live_le (h : Bound n E0 ec errs p e (l + 1)) (hy : y ≤ 1) : Bound n E0 ec errs p e (l + y) :=
  h.mono (Nat.le_refl p) (Nat.le_refl e) (Nat.add_le_add_left hy l)

theorem Bound.ended (h : Bound n E0 ec errs (p + 1) e (l + 1)) : Bound n E0 (ec + 1) errs p e l := by
  unfold Bound at *; omega

theorem Bound.failed (h : Bound n E0 ec errs p (e + 1) (l + 1)) : Bound n E0 ec (errs + 1) p e l := by
  unfold Bound at *; omega

theorem Bound.failing (h : Bound n E0 ec errs p (e + 1) l) : E0 ≠ 0 := by
  unfold Bound at h; omega

theorem Flow.sent (h : Flow E0 D0 f d len (x + (q + 1))) : Flow E0 D0 (f + 1) (d + 1) (len + 1) (x + q) := by
  unfold Flow at *; omega

theorem Flow.returned (h : Flow E0 D0 f (d + 1) len q) : Flow E0 D0 (f - 1) d len q := by
  unfold Flow at *; omega

theorem Flow.drop (h : Flow E0 D0 f d len q) (hE : E0 ≠ 0) : Flow E0 D0 f d len q' :=
  ⟨h.1, fun h0 => absurd h0 hE⟩

/-- nobody fails and some thread is live: `endCount < n`, no terminal has been delivered -/
theorem no_terminal (h0 : E0 = 0) (ht : Ticket n ec terms x) (hb : Bound n E0 ec errs p e (l + 1)) :
    terms = 0 ∧ errs = 0 := by
  unfold Ticket Bound at *; omega

/-- nobody fails and a thread holds ticket `n`: `endCount = n`, nobody is live, so no data delivery is in progress either -/
theorem no_terminal_last (h0 : E0 = 0) (ht : Ticket n ec terms (x + 1)) (hb : Bound n E0 ec errs p e l)
    (hf : Flow E0 D0 f d len q) (hdl : d ≤ l) : terms = 0 ∧ errs = 0 ∧ f = 0 := by
  unfold Ticket Bound Flow at *; omega

end arithmetic

structure Num {α} (n E0 D0 startCount endCount : Nat) (o : Obs α) (c : Sums) : Prop where
  pan : o.panics = 0
  greet : Ticket 1 startCount o.greets c.g2
  term : Ticket n endCount o.terms c.t2
  bound : Bound n E0 endCount o.errs c.pre c.err c.live
  flow : Flow E0 D0 o.inFlight c.dat o.datas.length c.pend

theorem Num.onOut {α} {n E0 D0 sc ec : Nat} {o : Obs α} {c : Sums} (x : Out α) (pan : o.panics = 0)
    (greet : Ticket 1 sc (o.greets + outGreet x) c.g2) (term : Ticket n ec (o.terms + outTerm x) c.t2)
    (bound : Bound n E0 ec (o.errs + outErr x) c.pre c.err c.live)
    (flow : Flow E0 D0 (o.inFlight + (isDataOut x).toNat) c.dat (o.datas.length + (isDataOut x).toNat) c.pend) :
    Num n E0 D0 sc ec (o.onOut x) c := by
  obtain ⟨h1, h2, h3, h4, h5, h6⟩ := onOut_counts o x
  exact ⟨h4.trans pan, h1 ▸ greet, h2 ▸ term, h3 ▸ bound, h5 ▸ h6 ▸ flow⟩

/-- what holds as long as nobody fails -/
def Quiet {α} (st : St) (o : Obs α) : Prop :=
  st.ended = false ∧ o.upTerms = 0 ∧ o.afterTerm = 0 ∧ o.termWhileData = false ∧ o.disposed = []

theorem Quiet.sinkMsg {α} {st : St} {o : Obs α} (hq : Quiet st o) (h1 : o.terms = 0) (h2 : o.errs = 0) :
    Quiet st o.sinkMsg := by
  rw [sinkMsg_eq o h1 h2]; exact hq

theorem Quiet.term {α} {st : St} {o : Obs α} (hq : Quiet st o) (h1 : o.terms = 0) (h2 : o.errs = 0)
    (hF : o.inFlight = 0) (k : Nat) : Quiet st (o.onOut (.down k .term)) := by
  obtain ⟨a, b, c, d, e⟩ := hq.sinkMsg h1 h2
  refine ⟨a, b, c, ?_, e⟩
  show (o.termWhileData || decide (o.inFlight > 0)) = false
  rw [hF, ← sinkMsg_twd, d]; rfl

/-- `E0` failing members, `D0` data in the scripts -/
structure Inv {α} (n E0 D0 : Nat) (s : PSys St (Loc α) α α) : Prop where
  wf : ∀ th ∈ s.threads, okThread th
  num : Num n E0 D0 s.st.startCount s.st.endCount s.obs (sums s.threads)
  quiet : E0 = 0 → Quiet s.st s.obs

section steps
variable {α : Type} {n E0 D0 : Nat} {s s' : PSys St (Loc α) α α} {t : Nat} {script : List (In α)}

theorem Inv.wf_at {th : Th α} (hi : Inv n E0 D0 s) (hth : s.threads[t]? = some th) : okThread th :=
  hi.wf _ (List.mem_of_getElem? hth)

/-- Thread `t` goes from `th` with share `a` to `th'` with share `b`, the shared state to `st'`, the observations to `o'`:
it is enough to re-establish the arithmetic with the two shares in place of the sums, whatever the other threads add. -/
theorem Inv.replace {th th' : Th α} {a b : Sums} {st' : St} {o' : Obs α} (hi : Inv n E0 D0 s)
    (hth : s.threads[t]? = some th) (hok : okThread th → okThread th') (ha : wt th = a) (hb : wt th' = b)
    (H : ∀ c : Sums, Num n E0 D0 s.st.startCount s.st.endCount s.obs (c.add a) → (c.add a).dat ≤ (c.add a).live →
      Num n E0 D0 st'.startCount st'.endCount o' (c.add b) ∧ (E0 = 0 → Quiet s.st s.obs → Quiet st' o')) :
    Inv n E0 D0 ⟨st', s.threads.set t th', o'⟩ := by
  subst ha hb
  obtain ⟨c, h1, h2⟩ := sums_set hth th'
  have h := H c (h1 ▸ hi.num) (h1 ▸ inData_le_liveR s.threads)
  exact ⟨forall_set hi.wf (hok (hi.wf_at hth)), h2 ▸ h.1, fun h0 => h.2 h0 (hi.quiet h0)⟩

variable (hi : Inv n E0 D0 s)
include hi

/-- somebody has failed; what the thread would still have done is dropped, every sum can only decrease -/
theorem inv_drop {i : In α} (hth : s.threads[t]? = some ⟨i :: script, none⟩) (hd : s.obs.disposed.contains (memberOf i) = true) :
    Inv n E0 D0 { s with threads := s.threads.set t ⟨[], none⟩ } := by
  have hE0 : E0 ≠ 0 := fun h0 => by rw [(hi.quiet h0).2.2.2.2] at hd; cases hd
  exact hi.replace hth (fun _ => ⟨trivial, trivial⟩) (wt_cons script i) wt_nil fun c hn _ =>
    ⟨⟨hn.pan, hn.greet, hn.term, hn.bound.mono (Nat.le_add_right ..) (Nat.le_add_right ..) (Nat.le_add_right ..),
      hn.flow.drop hE0⟩, fun _ hq => hq⟩

theorem inv_start {i : In α} (hth : s.threads[t]? = some ⟨i :: script, none⟩) :
    Inv n E0 D0 { s with threads := s.threads.set t ⟨script, some (.run (enter i))⟩ } := by
  have hok := (hi.wf_at hth).1
  exact hi.replace hth (fun _ => (enter_ok hok).1) rfl (enter_ok hok).2 fun c hn _ => ⟨hn, fun _ hq => hq⟩

theorem inv_ret {o : Out α} {l : Loc α} (hth : s.threads[t]? = some ⟨script, some (.wait o l)⟩) :
    Inv n E0 D0 { s with threads := s.threads.set t ⟨script, some (.run l)⟩, obs := s.obs.onRet o } := by
  rw [onRet_eq]
  cases hd : isDataOut o
  · exact hi.replace hth id (wt_wait script hd rfl) rfl fun c hn _ => ⟨hn, fun _ hq => hq⟩
  · exact hi.replace hth id (wt_wait_data script hd rfl) rfl fun c hn _ =>
      ⟨⟨hn.pan, hn.greet, hn.term, hn.bound.live_le (Bool.toNat_le _), hn.flow.returned⟩, fun _ hq => hq⟩

variable (hs : pstep (machine α n) s t = some s')
include hs

theorem inv_done (hth : s.threads[t]? = some ⟨script, some (.run .done)⟩) : Inv n E0 D0 s' := by
  cases (pstep_ret hth rfl).symm.trans hs
  exact hi.replace hth id rfl rfl fun c hn _ => ⟨hn, fun _ hq => hq⟩

theorem inv_g0 {i : Nat} (hth : s.threads[t]? = some ⟨script, some (.run (.g0 i))⟩) : Inv n E0 D0 s' := by
  by_cases hen : s.st.ended = true
  · -- somebody has failed: the late member is disposed
    cases (pstep_call hth (if_pos hen)).symm.trans hs
    have hE0 : E0 ≠ 0 := fun h0 => by rw [(hi.quiet h0).1] at hen; cases hen
    exact hi.replace hth id (wt_g0 script i) (wt_wait script rfl (wt_done script)) fun c hn _ =>
      ⟨.onOut _ hn.pan hn.greet hn.term (hn.bound.live_le (Bool.toNat_le _)) hn.flow, fun h0 => absurd h0 hE0⟩
  · cases (pstep_tau hth (if_neg hen)).symm.trans hs
    exact hi.replace hth id rfl rfl fun c hn _ => ⟨hn, fun _ hq => hq⟩

theorem inv_g1 {i : Nat} (hth : s.threads[t]? = some ⟨script, some (.run (.g1 i))⟩) : Inv n E0 D0 s' := by
  cases (pstep_tau hth rfl).symm.trans hs
  by_cases h1 : s.st.startCount + 1 = 1
  · -- ticket 1: the thread goes on to greet the sink
    rw [if_pos (beq_iff_eq.mpr h1)]
    exact hi.replace hth id (wt_g1 script i) (wt_g2 script) fun c hn _ => ⟨⟨hn.pan, hn.greet.take h1, hn.term, hn.bound, hn.flow⟩, fun _ hq => hq⟩
  · rw [if_neg (mt beq_iff_eq.mp h1)]
    exact hi.replace hth id (wt_g1 script i) (wt_done script) fun c hn _ =>
      ⟨⟨hn.pan, hn.greet.pass, hn.term, hn.bound.live_le (Bool.toNat_le _), hn.flow⟩, fun _ hq => hq⟩

theorem inv_g2 (hth : s.threads[t]? = some ⟨script, some (.run .g2)⟩) : Inv n E0 D0 s' := by
  cases (pstep_call hth rfl).symm.trans hs
  refine hi.replace hth id (wt_g2 script) (wt_wait script rfl (wt_done script)) fun c hn _ =>
    ⟨.onOut _ hn.pan hn.greet.use hn.term (hn.bound.live_le (Bool.toNat_le _)) hn.flow, fun h0 hq => ?_⟩
  obtain ⟨h1, h2⟩ := no_terminal h0 hn.term hn.bound
  exact hq.sinkMsg h1 h2

theorem inv_data {a : α} (hth : s.threads[t]? = some ⟨script, some (.run (.data a))⟩) : Inv n E0 D0 s' := by
  cases (pstep_call hth rfl).symm.trans hs
  refine hi.replace hth id (wt_data script a) (wt_wait_data script rfl (wt_done script)) fun c hn _ =>
    ⟨.onOut _ hn.pan hn.greet hn.term hn.bound hn.flow.sent, fun h0 hq => ?_⟩
  obtain ⟨h1, h2⟩ := no_terminal h0 hn.term hn.bound
  exact hq.sinkMsg h1 h2

theorem inv_t0 {i : Nat} (hth : s.threads[t]? = some ⟨script, some (.run (.t0 i))⟩) : Inv n E0 D0 s' := by
  cases (pstep_tau hth rfl).symm.trans hs
  exact hi.replace hth id rfl rfl fun c hn _ => ⟨hn, fun _ hq => hq⟩

theorem inv_t1 (hth : s.threads[t]? = some ⟨script, some (.run .t1)⟩) : Inv n E0 D0 s' := by
  cases (pstep_tau hth rfl).symm.trans hs
  obtain rfl : script = [] := (hi.wf_at hth).2
  by_cases h1 : s.st.endCount + 1 = n
  · -- ticket `n`: the thread goes on to complete the sink
    rw [if_pos (beq_iff_eq.mpr h1)]
    exact hi.replace hth id wt_t1 wt_t2 fun c hn _ =>
      ⟨⟨hn.pan, hn.greet, hn.term.take h1, hn.bound.ended, hn.flow⟩, fun _ hq => hq⟩
  · rw [if_neg (mt beq_iff_eq.mp h1)]
    exact hi.replace hth (fun _ => ⟨trivial, trivial⟩) wt_t1 wt_done_nil fun c hn _ =>
      ⟨⟨hn.pan, hn.greet, hn.term.pass, hn.bound.ended, hn.flow⟩, fun _ hq => hq⟩

theorem inv_t2 (hth : s.threads[t]? = some ⟨script, some (.run .t2)⟩) : Inv n E0 D0 s' := by
  cases (pstep_call hth rfl).symm.trans hs
  obtain rfl : script = [] := (hi.wf_at hth).2
  refine hi.replace hth (fun _ => ⟨trivial, trivial⟩) wt_t2 (wt_wait [] rfl wt_done_nil) fun c hn hdl =>
    ⟨.onOut _ hn.pan hn.greet hn.term.use hn.bound hn.flow, fun h0 hq => ?_⟩
  obtain ⟨h1, h2, h3⟩ := no_terminal_last h0 hn.term hn.bound hn.flow hdl
  exact hq.term h1 h2 h3 0

theorem inv_e0 {i e : Nat} (hth : s.threads[t]? = some ⟨script, some (.run (.e0 i e))⟩) : Inv n E0 D0 s' := by
  cases (pstep_tau hth rfl).symm.trans hs
  obtain rfl : script = [] := (hi.wf_at hth).2
  exact hi.replace hth id (wt_e0 i e) (wt_eLoop i 0 e) fun c hn _ => ⟨hn, fun h0 => absurd h0 hn.bound.failing⟩

theorem inv_eLoop {i j e : Nat} (hth : s.threads[t]? = some ⟨script, some (.run (.eLoop i j e))⟩) : Inv n E0 D0 s' := by
  by_cases hj : j < n
  · by_cases hc : (j != i && phAt s.st.slots j) = true
    · -- member `j` is disposed
      cases (pstep_call hth ((if_pos hj).trans (if_pos hc))).symm.trans hs
      obtain rfl : script = [] := (hi.wf_at hth).2
      exact hi.replace hth id (wt_eLoop i j e) (wt_wait [] rfl (wt_eLoop i (j + 1) e)) fun c hn _ =>
        ⟨.onOut _ hn.pan hn.greet hn.term hn.bound hn.flow, fun h0 => absurd h0 hn.bound.failing⟩
    · cases (pstep_tau hth ((if_pos hj).trans (if_neg hc))).symm.trans hs
      exact hi.replace hth id rfl rfl fun c hn _ => ⟨hn, fun _ hq => hq⟩
  · cases (pstep_tau hth (if_neg hj)).symm.trans hs
    exact hi.replace hth id rfl rfl fun c hn _ => ⟨hn, fun _ hq => hq⟩

theorem inv_eOut {e : Nat} (hth : s.threads[t]? = some ⟨script, some (.run (.eOut e))⟩) : Inv n E0 D0 s' := by
  cases (pstep_call hth rfl).symm.trans hs
  obtain rfl : script = [] := (hi.wf_at hth).2
  exact hi.replace hth (fun _ => ⟨trivial, trivial⟩) (wt_eOut e) (wt_wait [] rfl wt_done_nil) fun c hn _ =>
    ⟨.onOut _ hn.pan hn.greet hn.term hn.bound.failed hn.flow, fun h0 => absurd h0 hn.bound.failing⟩

theorem inv_pstep : Inv n E0 D0 s' := by
  refine pstep_cases hs (fun i sc hth hd => inv_drop hi hth hd) (fun i sc hth _ => inv_start hi hth)
    (fun sc o l hth => inv_ret hi hth) fun script l hth => ?_
  have hok := hi.wf_at hth
  cases l with
  | done => exact inv_done hi hs hth
  | g0 i => exact inv_g0 hi hs hth
  | g1 i => exact inv_g1 hi hs hth
  | g2 => exact inv_g2 hi hs hth
  | data a => exact inv_data hi hs hth
  | t0 i => exact inv_t0 hi hs hth
  | t1 => exact inv_t1 hi hs hth
  | t2 => exact inv_t2 hi hs hth
  | e0 i e => exact inv_e0 hi hs hth
  | eLoop i j e => exact inv_eLoop hi hs hth
  | eOut e => exact inv_eOut hi hs hth
  | _ => exact hok.2.elim

end steps

theorem script_data {α} (i : Nat) (ds : List α) (fin : List (In α)) :
    let sc := In.srcGreet i :: (ds.map (fun a => In.srcDown i (Down.data a)) ++ fin)
    hasTerm sc = hasTerm fin ∧ hasErr sc = hasErr fin ∧ (okScript fin → okScript sc) := by
  induction ds with
  | nil => exact ⟨rfl, rfl, id⟩
  | cons a ds ih => exact ih

theorem memberScript_facts {α} {i : Nat} {fails : Bool} {sc : List (In α)} (h : MemberScript i fails sc) :
    okScript sc ∧ (hasTerm sc && hasErr sc) = false ∧ (fails = false → hasErr sc = false) := by
  cases sc with
  | nil => exact h.elim
  | cons g rest =>
    obtain ⟨rfl, ds, fin, rfl, hfin⟩ := h
    obtain ⟨e1, e2, e3⟩ := script_data i ds fin
    rw [e1, e2]
    rcases hfin with rfl | rfl | ⟨hf, e, rfl⟩
    · exact ⟨e3 trivial, rfl, fun _ => rfl⟩
    · exact ⟨e3 rfl, rfl, fun _ => rfl⟩
    · exact ⟨e3 rfl, rfl, fun h => by rw [hf] at h; cases h⟩

theorem members_mem {α} {n : Nat} {fails : Bool} {ths : List (Th α)} (h : Members n fails ths) :
    ∀ th ∈ ths, ∃ sc i, th = ⟨sc, none⟩ ∧ MemberScript i fails sc := by
  intro th hth
  obtain ⟨i, hi, rfl⟩ := List.mem_iff_getElem.mp hth
  obtain ⟨hf, hm⟩ := h.2 i hi
  generalize ths[i] = th at hf hm
  obtain ⟨sc, fr⟩ := th
  cases hf
  exact ⟨sc, i, rfl, hm⟩

def nFail {α} (ths : List (Th α)) : Nat := ths.countP (fun th => hasErr th.script)

theorem nFail_nofail {α} {n : Nat} {ths : List (Th α)} (h : Members n false ths) : nFail ths = 0 := by
  unfold nFail
  rw [List.countP_eq_zero]
  intro th hth
  obtain ⟨sc, i, rfl, hm⟩ := members_mem h th hth
  simp [(memberScript_facts hm).2.2 rfl]

theorem inv_init {α} (n : Nat) (fails : Bool) (ths : List (Th α)) (h : Members n fails ths) :
    Inv n (nFail ths) (tot pend ths) (start n ths) := by
  have hm := members_mem h
  have idle0 (p : Th α → Bool) (hp : ∀ sc, p ⟨sc, none⟩ = false) : cnt p ths = 0 :=
    cnt_eq_zero _ _ fun th hth => by obtain ⟨sc, i, rfl, -⟩ := hm th hth; exact hp sc
  have z1 := idle0 atG2 fun _ => rfl
  have z2 := idle0 atT2 fun _ => rfl
  have z3 := idle0 inData fun _ => rfl
  -- on an idle thread `preT1` is `hasTerm` and `mayErr` is `hasErr` of its script; a script has at most one terminal
  have z4 : cnt preT1 ths + cnt mayErr ths ≤ ths.length := cnt_excl _ _ _ fun th hth => by
    obtain ⟨sc, i, rfl, hs⟩ := hm th hth
    exact (memberScript_facts hs).2.1
  have z5 : cnt liveR ths ≤ ths.length := List.countP_le_length
  have z6 : cnt mayErr ths = nFail ths := List.countP_congr fun th hth => by
    obtain ⟨sc, i, rfl, -⟩ := hm th hth
    rfl
  have hl := h.1
  refine ⟨fun th hth => ?_, ?_, fun _ => ⟨rfl, rfl, rfl, rfl, rfl⟩⟩
  · obtain ⟨sc, i, rfl, hs⟩ := hm th hth
    exact ⟨(memberScript_facts hs).1, trivial⟩
  · show Num n _ _ 0 0 {} (sums ths)
    rw [sums, z1, z2, z3, z6]
    exact ⟨rfl, ⟨Nat.le_succ 0, fun _ => rfl⟩, ⟨Nat.le_succ 0, fun _ => rfl⟩,
      (show Bound n _ 0 0 (cnt preT1 ths) (nFail ths) (cnt liveR ths) from ⟨by omega, by omega, by omega⟩), rfl, fun _ => Nat.zero_add _⟩

theorem merge_par_inv {α : Type} (n : Nat) (fails : Bool) (ths : List (Thread (Loc α) α α)) (h : Members n fails ths) :
    ∀ s, PReach (machine α n) (start n ths) s → Inv n (nFail ths) (tot pend ths) s := by
  intro s hr
  induction hr with
  | init => exact inv_init n fails ths h
  | step t _ hs ih => exact inv_pstep ih hs

/-- C18 (merge), safety.  For every member count, all scripts and every schedule: the sink is greeted at most once, completed
(`Terminate`) at most once, never both completed and failed, receives at most as many `Error`s as there are failing members,
nothing panics.  NOTE: `terms + errs ≤ 1` does NOT hold when two members fail concurrently (`merge_par_two_errors`). -/
theorem merge_par_safe {α : Type} (n : Nat) (fails : Bool) (ths : List (Thread (Loc α) α α)) (h : Members n fails ths) :
    ∀ s, PReach (machine α n) (start n ths) s →
      s.obs.greets ≤ 1 ∧ s.obs.terms ≤ 1 ∧ (s.obs.terms = 0 ∨ s.obs.errs = 0) ∧ s.obs.errs ≤ nFail ths ∧
      s.obs.panics = 0 ∧ (fails = false → s.obs.errs = 0) := by
  intro s hr
  obtain ⟨-, ⟨hpan, ⟨hg1, -⟩, ⟨ht1, ht0⟩, ⟨hx, he, -⟩, -⟩, -⟩ := merge_par_inv n fails ths h s hr
  refine ⟨by omega, by omega, by omega, by omega, hpan, fun hf => ?_⟩
  subst hf
  have := nFail_nofail h
  omega

/-- C18 (merge), safety in the property's own form (`terms + errs ≤ 1`), for at most one failing member (in particular when nobody fails). -/
theorem merge_par_safe_one {α : Type} (n : Nat) (fails : Bool) (ths : List (Thread (Loc α) α α)) (h : Members n fails ths)
    (h1 : nFail ths ≤ 1) :
    ∀ s, PReach (machine α n) (start n ths) s →
      s.obs.greets ≤ 1 ∧ s.obs.terms + s.obs.errs ≤ 1 ∧ s.obs.panics = 0 ∧ (fails = false → s.obs.errs = 0) := by
  intro s hr
  obtain ⟨a, b, c, d, e, f⟩ := merge_par_safe n fails ths h s hr
  exact ⟨a, by omega, e, f⟩

theorem merge_par_safe_nofail {α : Type} (n : Nat) (ths : List (Thread (Loc α) α α)) (h : Members n false ths) :
    ∀ s, PReach (machine α n) (start n ths) s →
      s.obs.greets ≤ 1 ∧ s.obs.terms + s.obs.errs ≤ 1 ∧ s.obs.panics = 0 ∧ s.obs.errs = 0 := by
  intro s hr
  obtain ⟨a, b, c, d⟩ := merge_par_safe_one n false ths h (by rw [nFail_nofail h]; omega) s hr
  exact ⟨a, b, c, d rfl⟩

/-- C18 (merge), no failing member: completion is delivered only after every data delivery has returned, nothing follows it,
and no member is ever disposed. -/
theorem merge_par_order {α : Type} (n : Nat) (ths : List (Thread (Loc α) α α)) (h : Members n false ths) :
    ∀ s, PReach (machine α n) (start n ths) s →
      s.obs.termWhileData = false ∧ s.obs.afterTerm = 0 ∧ s.obs.upTerms = 0 := by
  intro s hr
  obtain ⟨-, b, c, d, -⟩ := (merge_par_inv n false ths h s hr).quiet (nFail_nofail h)
  exact ⟨d, c, b⟩

def nDataAll {α} (ths : List (Th α)) : Nat := tot (fun th => nData th.script) ths

/-- C18 (merge), no failing member, count form of "no datum is lost or duplicated": no member is ever disposed, and at every
moment (data delivered to the sink) + (data still in the scripts or handed to merge and not yet passed on) is the number of
data in the scripts. -/
theorem merge_par_data {α : Type} (n : Nat) (ths : List (Thread (Loc α) α α)) (h : Members n false ths) :
    ∀ s, PReach (machine α n) (start n ths) s →
      s.obs.disposed = [] ∧ s.obs.datas.length + tot pend s.threads = nDataAll ths := by
  intro s hr
  have h0 : tot pend ths = nDataAll ths :=
    tot_congr _ _ _ fun th hth => by obtain ⟨sc, i, rfl, -⟩ := members_mem h th hth; rfl
  obtain ⟨-, ⟨-, -, -, -, -, d⟩, q⟩ := merge_par_inv n false ths h s hr
  exact ⟨(q (nFail_nofail h)).2.2.2.2, h0 ▸ d (nFail_nofail h)⟩

/-- … in particular, once every thread has finished, the sink has received exactly as many data as the scripts contained. -/
theorem merge_par_data_done {α : Type} (n : Nat) (ths : List (Thread (Loc α) α α)) (h : Members n false ths) :
    ∀ s, PReach (machine α n) (start n ths) s → (∀ th ∈ s.threads, th.script = [] ∧ th.frame = none) →
      s.obs.datas.length = nDataAll ths := by
  intro s hr hfin
  have h1 := (merge_par_data n ths h s hr).2
  have h2 : tot pend s.threads = 0 :=
    tot_eq_zero _ _ fun th hth => by
      obtain ⟨sc, fr⟩ := th
      obtain ⟨h1, h2⟩ := hfin _ hth
      cases h1; cases h2; rfl
  omega

theorem members_two {α} {fails : Bool} {a b : Th α} (ha : a.frame = none ∧ MemberScript 0 fails a.script)
    (hb : b.frame = none ∧ MemberScript 1 fails b.script) : Members 2 fails [a, b] :=
  ⟨rfl, fun i hi => match i, hi with
    | 0, _ => ha
    | 1, _ => hb⟩

theorem twoFail_members : Members 2 true twoFail :=
  members_two ⟨rfl, rfl, [], _, rfl, .inr (.inr ⟨rfl, 7, rfl⟩)⟩ ⟨rfl, rfl, [], _, rfl, .inr (.inr ⟨rfl, 8, rfl⟩)⟩

/-- `terms + errs ≤ 1` is FALSE with two failing members: both `Error` handlers are entered before either has stored `ended`;
the sink receives two `Error`s (the second one after its terminal). -/
theorem merge_par_two_errors :
    ∃ ths, Members 2 true ths ∧ ∃ s, PReach (machine Nat 2) (start 2 ths) s ∧ s.obs.errs = 2 ∧ s.obs.afterTerm = 1 :=
  ⟨twoFail, twoFail_members, witness_of_sched _ _ twoFailSched ⟨_, rfl, rfl, rfl⟩⟩

def earlyData : List (Thread (Loc Nat) Nat Nat) :=
  [ { script := [.srcGreet 0] }, { script := [.srcGreet 1, .srcDown 1 (.data 5)] } ]
/-- member 0 obtains the ticket `startCount = 1` and is preempted before it greets the sink; member 1's greeting returns,
its datum is delivered -/
def earlyDataSched : List Nat := [0,0,0, 1,1,1,1, 1,1]

def lateData : List (Thread (Loc Nat) Nat Nat) :=
  [ { script := [.srcGreet 0, .srcDown 0 (.err 7)] }, { script := [.srcGreet 1, .srcDown 1 (.data 5)] } ]
/-- member 1's data delivery has entered merge when member 0's `Error` is handled (member 1 is disposed, the sink gets `Error`);
then member 1's delivery goes on -/
def lateDataSched : List Nat := [0,0,0,0,0,0, 1,1,1,1, 1, 0,0,0,0,0,0,0, 1]

theorem earlyData_members : Members 2 false earlyData :=
  members_two ⟨rfl, rfl, [], _, rfl, .inl rfl⟩ ⟨rfl, rfl, [5], _, rfl, .inl rfl⟩

theorem lateData_members : Members 2 true lateData :=
  members_two ⟨rfl, rfl, [], _, rfl, .inr (.inr ⟨rfl, 7, rfl⟩)⟩ ⟨rfl, rfl, [5], _, rfl, .inl rfl⟩

/-- The sink can receive `Data` BEFORE its greeting (nobody fails): the member holding the ticket `startCount = 1` has not
yet called `sink(Handshake)` when another member, whose own greeting has returned, delivers.  So "greeted exactly once as soon
as any member's greeting has returned" is FALSE; only `greets ≤ 1` holds. -/
theorem merge_par_data_before_greet :
    ∃ ths, Members 2 false ths ∧ ∃ s, PReach (machine Nat 2) (start 2 ths) s ∧ s.obs.greets = 0 ∧ s.obs.datas = [5] :=
  ⟨earlyData, earlyData_members, witness_of_sched _ _ earlyDataSched ⟨_, rfl, rfl, rfl⟩⟩

/-- With ONE failing member the sink can receive `Data` after the `Error` (a delivery already inside merge is not stopped):
this is why `merge_par_order` is stated for `fails = false`. -/
theorem merge_par_data_after_error :
    ∃ ths, Members 2 true ths ∧ nFail ths = 1 ∧
      ∃ s, PReach (machine Nat 2) (start 2 ths) s ∧ s.obs.errs = 1 ∧ s.obs.afterTerm = 1 ∧ s.obs.datas = [5] :=
  ⟨lateData, lateData_members, rfl, witness_of_sched _ _ lateDataSched ⟨_, rfl, rfl, rfl, rfl⟩⟩

end Cb.MergePar

#print axioms Cb.MergePar.merge_par_safe
#print axioms Cb.MergePar.merge_par_safe_one
#print axioms Cb.MergePar.merge_par_safe_nofail
#print axioms Cb.MergePar.merge_par_order
#print axioms Cb.MergePar.merge_par_data
#print axioms Cb.MergePar.merge_par_data_done
#print axioms Cb.MergePar.merge_par_two_errors
#print axioms Cb.MergePar.merge_par_data_before_greet
#print axioms Cb.MergePar.merge_par_data_after_error
