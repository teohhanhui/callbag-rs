import CallbagModel.Par
import CallbagModel.Sem
/-!
# Tools for all-schedules invariants of `pstep`

What `pstep` does, one equation per kind of micro-step, and what a step of one thread can be (`pstep_cases`); sums and counts over
the thread list and how they change when ONE thread is replaced; the observation record after a message; concrete schedules
(`runSched`) as reachability witnesses (`witness_of_sched`), for counterexamples.
-/
namespace Cb

section pstep
variable {St Loc α β : Type} {M : Machine St Loc α β} {s : PSys St Loc α β} {t : Nat} {sc : List (In α)}

theorem pstep_none (hth : s.threads[t]? = none) : pstep M s t = none := by
  simp only [pstep, hth]

theorem pstep_idle (hth : s.threads[t]? = some ⟨[], none⟩) : pstep M s t = none := by
  simp only [pstep, hth]

theorem pstep_start_disposed {i : In α} (hth : s.threads[t]? = some ⟨i :: sc, none⟩)
    (hd : s.obs.disposed.contains (memberOf i) = true) :
    pstep M s t = some { s with threads := s.threads.set t ⟨[], none⟩ } := by
  simp only [pstep, hth, hd, if_true]

theorem pstep_start {i : In α} (hth : s.threads[t]? = some ⟨i :: sc, none⟩)
    (hd : s.obs.disposed.contains (memberOf i) = false) :
    pstep M s t = some { s with threads := s.threads.set t ⟨sc, some (.run (M.enter i))⟩ } := by
  simp only [pstep, hth, hd, Bool.false_eq_true, if_false]

theorem pstep_wait {o : Out β} {l : Loc} (hth : s.threads[t]? = some ⟨sc, some (.wait o l)⟩) :
    pstep M s t = some { s with threads := s.threads.set t ⟨sc, some (.run l)⟩, obs := s.obs.onRet o } := by
  simp only [pstep, hth]

theorem pstep_tau {l l' : Loc} {st' : St} (hth : s.threads[t]? = some ⟨sc, some (.run l)⟩)
    (hst : M.step s.st l = .tau st' l') :
    pstep M s t = some { s with st := st', threads := s.threads.set t ⟨sc, some (.run l')⟩ } := by
  simp only [pstep, hth, hst]

theorem pstep_call {l l' : Loc} {o : Out β} {st' : St} (hth : s.threads[t]? = some ⟨sc, some (.run l)⟩)
    (hst : M.step s.st l = .call o st' l') :
    pstep M s t =
      some { s with st := st', threads := s.threads.set t ⟨sc, some (.wait o l')⟩, obs := s.obs.onOut o } := by
  simp only [pstep, hth, hst]

theorem pstep_ret {l : Loc} (hth : s.threads[t]? = some ⟨sc, some (.run l)⟩) (hst : M.step s.st l = .ret) :
    pstep M s t = some { s with threads := s.threads.set t ⟨sc, none⟩ } := by
  simp only [pstep, hth, hst]

theorem pstep_panic {l : Loc} {msg : String} (hth : s.threads[t]? = some ⟨sc, some (.run l)⟩)
    (hst : M.step s.st l = .panic msg) :
    pstep M s t = some { s with threads := s.threads.set t ⟨[], none⟩, obs := { s.obs with panics := s.obs.panics + 1 } } := by
  simp only [pstep, hth, hst]

/-- Where the thread runs, the caller knows `M.step`: `pstep_tau`, `pstep_call`, `pstep_ret`, `pstep_panic`. -/
theorem pstep_cases {s' : PSys St Loc α β} {motive : PSys St Loc α β → Prop} (hs : pstep M s t = some s')
    (drop : ∀ i sc, s.threads[t]? = some ⟨i :: sc, none⟩ → s.obs.disposed.contains (memberOf i) = true →
      motive { s with threads := s.threads.set t ⟨[], none⟩ })
    (start : ∀ i sc, s.threads[t]? = some ⟨i :: sc, none⟩ → s.obs.disposed.contains (memberOf i) = false →
      motive { s with threads := s.threads.set t ⟨sc, some (.run (M.enter i))⟩ })
    (back : ∀ sc o l, s.threads[t]? = some ⟨sc, some (.wait o l)⟩ →
      motive { s with threads := s.threads.set t ⟨sc, some (.run l)⟩, obs := s.obs.onRet o })
    (run : ∀ sc l, s.threads[t]? = some ⟨sc, some (.run l)⟩ → motive s') : motive s' := by
  cases hth : s.threads[t]? with
  | none => rw [pstep_none hth] at hs; cases hs
  | some th =>
    obtain ⟨sc, _ | ⟨l⟩ | ⟨o, l⟩⟩ := th
    · cases sc with
      | nil => rw [pstep_idle hth] at hs; cases hs
      | cons i sc =>
        cases hd : s.obs.disposed.contains (memberOf i) with
        | true => cases (pstep_start_disposed hth hd).symm.trans hs; exact drop i sc hth hd
        | false => cases (pstep_start hth hd).symm.trans hs; exact start i sc hth hd
    · exact run sc l hth
    · cases (pstep_wait hth).symm.trans hs; exact back sc o l hth

theorem quiescent (hq : ∀ t, pstep M s t = none) : ∀ th ∈ s.threads, th.frame = none ∧ th.script = [] := by
  intro th hth
  obtain ⟨t, ht⟩ := List.mem_iff_getElem?.mp hth
  have hp := hq t
  obtain ⟨script, _ | ⟨l⟩ | ⟨o, l⟩⟩ := th
  · cases script with
    | nil => exact ⟨rfl, rfl⟩
    | cons i rest =>
      cases hd : s.obs.disposed.contains (memberOf i) with
      | true => rw [pstep_start_disposed ht hd] at hp; cases hp
      | false => rw [pstep_start ht hd] at hp; cases hp
  · cases hst : M.step s.st l with
    | ret => rw [pstep_ret ht hst] at hp; cases hp
    | tau st' l' => rw [pstep_tau ht hst] at hp; cases hp
    | call o st' l' => rw [pstep_call ht hst] at hp; cases hp
    | panic msg => rw [pstep_panic ht hst] at hp; cases hp
  · rw [pstep_wait ht] at hp; cases hp

end pstep

theorem forall_set {α} {P : α → Prop} {l : List α} {i : Nat} {x : α}
    (hl : ∀ a ∈ l, P a) (hx : P x) : ∀ a ∈ l.set i x, P a := by
  intro a ha
  rcases List.mem_or_eq_of_mem_set ha with h | h
  · exact hl a h
  · exact h ▸ hx

end Cb

namespace Cb.MergePar

/-- sum of `f` over the threads (a wrapper that `simp` does not look into) -/
def tot {α} (f : α → Nat) (l : List α) : Nat := (l.map f).sum

theorem tot_split {α} (f : α → Nat) {l : List α} {i : Nat} {a : α} (h : l[i]? = some a) (x : α) :
    ∃ c, tot f l = c + f a ∧ tot f (l.set i x) = c + f x := by
  unfold tot
  induction l generalizing i with
  | nil => simp at h
  | cons b l ih =>
    cases i with
    | zero =>
      obtain rfl : b = a := by simpa using h
      exact ⟨(l.map f).sum, Nat.add_comm .., Nat.add_comm ..⟩
    | succ i =>
      obtain ⟨c, h1, h2⟩ := ih (i := i) (by simpa using h)
      refine ⟨f b + c, ?_, ?_⟩
      · simp only [List.map_cons, List.sum_cons, h1, Nat.add_assoc]
      · simp only [List.set_cons_succ, List.map_cons, List.sum_cons, h2, Nat.add_assoc]

theorem le_tot {α} (f : α → Nat) {l : List α} {i : Nat} {a : α} (h : l[i]? = some a) : f a ≤ tot f l := by
  obtain ⟨c, h1, -⟩ := tot_split f h a
  omega

theorem tot_set {α} (f : α → Nat) (l : List α) (i : Nat) (h : i < l.length) (x : α) :
    tot f (l.set i x) + f l[i] = tot f l + f x := by
  obtain ⟨c, h1, h2⟩ := tot_split f (List.getElem?_eq_getElem h) x
  omega

/-- An inequality `tot w l + x ≤ y` survives the replacement of element `i` if the shared terms change with its weight. -/
theorem tot_le_set {α} (w : α → Nat) {l : List α} {i : Nat} {b : α} (h : l[i]? = some b) {a : α} {x y x' y' : Nat}
    (hb : tot w l + x ≤ y) (hm : w a + x' + y ≤ w b + x + y') : tot w (l.set i a) + x' ≤ y' := by
  obtain ⟨c, h1, h2⟩ := tot_split w h a
  omega

/-- number of threads satisfying `p` (a wrapper that `simp` does not look into) -/
def cnt {α} (p : α → Bool) (l : List α) : Nat := l.countP p

theorem cnt_set {α} (p : α → Bool) (l : List α) (i : Nat) (h : i < l.length) (x : α) :
    cnt p (l.set i x) + (if p l[i] then 1 else 0) = cnt p l + (if p x then 1 else 0) ∧
    (if p l[i] then 1 else 0) ≤ cnt p l ∧ (if p l[i] then 1 else 0) ≤ 1 ∧ (if p x then 1 else 0) ≤ 1 := by
  unfold cnt
  have h1 := List.countP_set (p := p) (l := l) (i := i) (a := x) h
  have h2 : (if p l[i] = true then 1 else 0) ≤ l.countP p := List.boole_getElem_le_countP (p := p) h
  refine ⟨by omega, h2, ?_, ?_⟩ <;> split <;> omega

theorem cnt_split {α} (p : α → Bool) {l : List α} {i : Nat} {a : α} (h : l[i]? = some a) (x : α) :
    ∃ c, cnt p l = c + (p a).toNat ∧ cnt p (l.set i x) = c + (p x).toNat := by
  obtain ⟨hlt, rfl⟩ := List.getElem?_eq_some_iff.mp h
  obtain ⟨h1, h2, -, -⟩ := cnt_set p l i hlt x
  have e (b : Bool) : (if b then 1 else 0) = b.toNat := by cases b <;> rfl
  rw [e, e] at h1
  rw [e] at h2
  exact ⟨cnt p l - (p l[i]).toNat, by omega, by omega⟩

theorem cnt_eq_zero {α} (p : α → Bool) (l : List α) (h : ∀ a ∈ l, p a = false) : cnt p l = 0 := by
  unfold cnt
  rw [List.countP_eq_zero]
  intro a ha; simp [h a ha]

theorem cnt_excl {α} (p q : α → Bool) (l : List α) (h : ∀ a ∈ l, (p a && q a) = false) :
    cnt p l + cnt q l ≤ l.length := by
  unfold cnt
  induction l with
  | nil => simp
  | cons a l ih =>
    have ha := h a (List.mem_cons_self ..)
    have ih := ih (fun b hb => h b (List.mem_cons_of_mem _ hb))
    have : (if p a = true then 1 else 0) + (if q a = true then 1 else 0) ≤ 1 := by
      revert ha; cases p a <;> cases q a <;> decide
    simp only [List.countP_cons, List.length_cons]
    omega

theorem tot_le_length {α} (f : α → Nat) (l : List α) (h : ∀ x ∈ l, f x ≤ 1) : tot f l ≤ l.length := by
  unfold tot
  induction l with
  | nil => exact Nat.le_refl 0
  | cons a l ih =>
    have h1 := h a (List.mem_cons_self ..)
    have h2 := ih (fun x hx => h x (List.mem_cons_of_mem _ hx))
    simp only [List.map_cons, List.sum_cons, List.length_cons]; omega

theorem tot_congr {α} (f g : α → Nat) (l : List α) (h : ∀ a ∈ l, f a = g a) : tot f l = tot g l := by
  unfold tot
  rw [List.map_congr_left h]

theorem tot_eq_zero {α} (f : α → Nat) (l : List α) (h : ∀ a ∈ l, f a = 0) : tot f l = 0 := by
  rw [tot_congr f (fun _ => 0) l h]
  clear h
  unfold tot
  induction l with
  | nil => rfl
  | cons a l ih => simpa using ih

def isDataOut {α} : Out α → Bool | .down _ (.data _) => true | _ => false
@[simp] theorem isDataOut_greet {α} (k : Nat) : isDataOut (α := α) (.greet k) = false := rfl
@[simp] theorem isDataOut_data {α} (k : Nat) (a : α) : isDataOut (.down k (.data a)) = true := rfl
@[simp] theorem isDataOut_term {α} (k : Nat) : isDataOut (α := α) (.down k .term) = false := rfl
@[simp] theorem isDataOut_err {α} (k e : Nat) : isDataOut (α := α) (.down k (.err e)) = false := rfl
@[simp] theorem isDataOut_srcUp {α} (k : Nat) (u : Up) : isDataOut (α := α) (.srcUp k u) = false := rfl

end Cb.MergePar

namespace Cb
open MergePar (isDataOut)

section obs
variable {β : Type} (o : Obs β)
@[simp] theorem sinkMsg_greets : o.sinkMsg.greets = o.greets := by unfold Obs.sinkMsg; split <;> rfl
@[simp] theorem sinkMsg_datas : o.sinkMsg.datas = o.datas := by unfold Obs.sinkMsg; split <;> rfl
@[simp] theorem sinkMsg_terms : o.sinkMsg.terms = o.terms := by unfold Obs.sinkMsg; split <;> rfl
@[simp] theorem sinkMsg_errs : o.sinkMsg.errs = o.errs := by unfold Obs.sinkMsg; split <;> rfl
@[simp] theorem sinkMsg_upTerms : o.sinkMsg.upTerms = o.upTerms := by unfold Obs.sinkMsg; split <;> rfl
@[simp] theorem sinkMsg_inFlight : o.sinkMsg.inFlight = o.inFlight := by unfold Obs.sinkMsg; split <;> rfl
@[simp] theorem sinkMsg_twd : o.sinkMsg.termWhileData = o.termWhileData := by unfold Obs.sinkMsg; split <;> rfl
@[simp] theorem sinkMsg_panics : o.sinkMsg.panics = o.panics := by unfold Obs.sinkMsg; split <;> rfl
@[simp] theorem sinkMsg_disposed : o.sinkMsg.disposed = o.disposed := by unfold Obs.sinkMsg; split <;> rfl
theorem sinkMsg_eq (h1 : o.terms = 0) (h2 : o.errs = 0) : o.sinkMsg = o := by
  simp only [Obs.sinkMsg, h1, h2, Nat.lt_irrefl, if_false]
end obs

theorem onRet_eq {β} (o : Obs β) (x : Out β) : o.onRet x = { o with inFlight := o.inFlight - (isDataOut x).toNat } := by
  cases x with
  | down k d => cases d <;> rfl
  | _ => rfl

def outGreet {β} : Out β → Nat
  | .greet _ => 1
  | _ => 0
def outTerm {β} : Out β → Nat
  | .down _ .term => 1
  | _ => 0
def outErr {β} : Out β → Nat
  | .down _ (.err _) => 1
  | _ => 0

theorem onOut_counts {β} (o : Obs β) (x : Out β) :
    (o.onOut x).greets = o.greets + outGreet x ∧ (o.onOut x).terms = o.terms + outTerm x ∧
    (o.onOut x).errs = o.errs + outErr x ∧ (o.onOut x).panics = o.panics ∧
    (o.onOut x).inFlight = o.inFlight + (isDataOut x).toNat ∧
    (o.onOut x).datas.length = o.datas.length + (isDataOut x).toNat := by
  cases x with
  | down k d => cases d <;> simp [Obs.onOut, outGreet, outTerm, outErr]
  | srcUp i u => cases u <;> simp [Obs.onOut, outGreet, outTerm, outErr]
  | _ => simp [Obs.onOut, outGreet, outTerm, outErr, isDataOut]

def runSched {St Loc α β} (M : Machine St Loc α β) (s : PSys St Loc α β) : List Nat → Option (PSys St Loc α β)
  | [] => some s
  | t :: ts => match pstep M s t with
    | none => none
    | some s' => runSched M s' ts

theorem preach_trans_step {St Loc α β} {M : Machine St Loc α β} {s0 a : PSys St Loc α β}
    (h : PReach M s0 a) : ∀ (sched : List Nat) (s : PSys St Loc α β), runSched M a sched = some s → PReach M s0 s := by
  intro sched
  induction sched generalizing a with
  | nil => intro s hs; cases hs; exact h
  | cons t ts ih =>
    intro s hs
    unfold runSched at hs
    split at hs
    · cases hs
    · exact ih (.step t h ‹_›) s hs

theorem runSched_reach {St Loc α β} (M : Machine St Loc α β) (s0 s : PSys St Loc α β) (sched : List Nat)
    (h : runSched M s0 sched = some s) : PReach M s0 s :=
  preach_trans_step PReach.init sched s h

theorem witness_of_sched {St Loc α β} (M : Machine St Loc α β) (s0 : PSys St Loc α β) (sched : List Nat)
    {P : PSys St Loc α β → Prop} (h : ∃ s, runSched M s0 sched = some s ∧ P s) : ∃ s, PReach M s0 s ∧ P s :=
  let ⟨s, h1, h2⟩ := h
  ⟨s, runSched_reach M s0 s sched h1, h2⟩

end Cb
