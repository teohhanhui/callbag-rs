import CallbagModel.Par.Count
/-!
# take(max) under racing deliveries: the abstract program-counter model and its all-schedules invariant

One program counter per thread, one shared configuration; `stepPC` is one micro-step (one shared access, or the begin / end of
a call). `Par/Take.lean` shows that the machine `Take.machine α max` run under the thread scheduler `pstep` refines this model.
-/
namespace Cb.TakeAbs

inductive PC where
  | idle
  | d2 (t : Nat) | inData (t : Nat) | d3 (t : Nat)
  | d3b | d4 | d5 | inUp | d6 | inDown
deriving DecidableEq, Repr

structure Cfg where
  taken : Nat
  fin : Bool
  pcs : List PC
  dataOuts : Nat
  upTerms : Nat
  downTerms : Nat
  maxDone : Nat      -- ghost: threads that left the "n-th item" path

def stepPC (max : Nat) (c : Cfg) : PC → Cfg × PC
  | .idle => if c.taken < max then ({ c with taken := c.taken + 1 }, .d2 (c.taken + 1)) else (c, .idle)   -- fetch_update
  | .d2 t => ({ c with dataOuts := c.dataOuts + 1 }, .inData t)                                         -- sink(Data) begins
  | .inData t => (c, .d3 t)                                                                              -- … returns
  | .d3 t => if t = max then (c, .d3b) else (c, .idle)
  | .d3b => if c.fin then ({ c with maxDone := c.maxDone + 1 }, .idle) else (c, .d4)                      -- end.load()
  | .d4 => ({ c with fin := true }, .d5)                                                                 -- end.store(true)
  | .d5 => ({ c with upTerms := c.upTerms + 1 }, .inUp)                                                  -- talkback(Terminate) begins
  | .inUp => (c, .d6)
  | .d6 => ({ c with downTerms := c.downTerms + 1 }, .inDown)                                            -- sink(Terminate) begins
  | .inDown => ({ c with maxDone := c.maxDone + 1 }, .idle)

def stepAt (max : Nat) (c : Cfg) (i : Nat) (h : i < c.pcs.length) : Cfg :=
  { (stepPC max c c.pcs[i]).1 with pcs := c.pcs.set i (stepPC max c c.pcs[i]).2 }

inductive Step (max : Nat) : Cfg → Cfg → Prop where
  | mk (c : Cfg) (i : Nat) (h : i < c.pcs.length) : Step max c (stepAt max c i h)

inductive Reach (max k : Nat) : Cfg → Prop where
  | init : Reach max k ⟨0, false, List.replicate k .idle, 0, 0, 0, 0⟩
  | step {a b} : Reach max k a → Step max a b → Reach max k b

def atD2 : PC → Bool | .d2 _ => true | _ => false
/-- on the n-th-item path: the ticket is `max` -/
def onMaxPath (max : Nat) : PC → Bool
  | .d2 t | .inData t | .d3 t => t == max
  | .d3b | .d4 | .d5 | .inUp | .d6 | .inDown => true
  | .idle => false
/-- on the n-th-item path, after `end.store(true)` -/
def late : PC → Bool | .d5 | .inUp | .d6 | .inDown => true | _ => false
def afterUp : PC → Bool | .inUp | .d6 | .inDown => true | _ => false
def afterDown : PC → Bool | .inDown => true | _ => false

/-- `1` once the last slot has been claimed -/
def full (max taken : Nat) : Nat := if taken = max ∧ 0 < max then 1 else 0

/-- Every field but the first is a balance `x + #p = y` between shared fields and the number of threads at a program point
satisfying `p`. `uniq`: exactly one thread ever walks the n-th-item path. -/
structure Inv (max : Nat) (c : Cfg) : Prop where
  le : c.taken ≤ max
  data : c.dataOuts + c.pcs.countP atD2 = c.taken
  uniq : c.maxDone + c.pcs.countP (onMaxPath max) = full max c.taken
  fin : c.maxDone + c.pcs.countP late = c.fin.toNat
  up : c.maxDone + c.pcs.countP afterUp = c.upTerms
  down : c.maxDone + c.pcs.countP afterDown = c.downTerms

/-- The step `(c, pc) ↦ (c', pc')` of one thread keeps every balance of `Inv`: what the thread's own contribution to a count
gains or loses, the shared fields make up for. -/
def Balanced (max : Nat) (c : Cfg) (pc : PC) (c' : Cfg) (pc' : PC) : Prop :=
  c'.taken ≤ max ∧
  c'.dataOuts + (atD2 pc').toNat + c.taken = c.dataOuts + (atD2 pc).toNat + c'.taken ∧
  c'.maxDone + (onMaxPath max pc').toNat + full max c.taken = c.maxDone + (onMaxPath max pc).toNat + full max c'.taken ∧
  c'.maxDone + (late pc').toNat + c.fin.toNat = c.maxDone + (late pc).toNat + c'.fin.toNat ∧
  c'.maxDone + (afterUp pc').toNat + c.upTerms = c.maxDone + (afterUp pc).toNat + c'.upTerms ∧
  c'.maxDone + (afterDown pc').toNat + c.downTerms = c.maxDone + (afterDown pc).toNat + c'.downTerms

theorem cnt_set {α} (p : α → Bool) (l : List α) (i : Nat) (h : i < l.length) (x : α) :
    (l.set i x).countP p + (if p l[i] then 1 else 0) = l.countP p + (if p x then 1 else 0) :=
  (MergePar.cnt_set p l i h x).1

theorem balance_set {α} (p : α → Bool) {l : List α} {i : Nat} (h : i < l.length) {a : α} {x y x' y' : Nat}
    (hb : x + l.countP p = y) (hm : x' + (p a).toNat + y = x + (p l[i]).toNat + y') :
    x' + (l.set i a).countP p = y' := by
  have := cnt_set p l i h a
  simp only [Bool.toNat, Bool.cond_eq_ite] at hm
  omega

theorem inv_set {max : Nat} {c : Cfg} (hi : Inv max c) {i : Nat} (h : i < c.pcs.length) {c' : Cfg} {pc' : PC}
    (hb : Balanced max c c.pcs[i] c' pc') : Inv max { c' with pcs := c.pcs.set i pc' } :=
  ⟨hb.1, balance_set _ h hi.data hb.2.1, balance_set _ h hi.uniq hb.2.2.1, balance_set _ h hi.fin hb.2.2.2.1,
    balance_set _ h hi.up hb.2.2.2.2.1, balance_set _ h hi.down hb.2.2.2.2.2⟩

theorem full_le (max t : Nat) : full max t ≤ 1 := by unfold full; split <;> omega

theorem full_of_lt {max t : Nat} (h : t < max) : full max t = 0 := by
  unfold full; rw [if_neg]; omega

theorem full_self {max : Nat} (h : 0 < max) : full max max = 1 := if_pos ⟨rfl, h⟩

theorem full_succ (max t : Nat) : full max (t + 1) = (t + 1 == max).toNat := by
  unfold full
  by_cases hm : t + 1 = max
  · rw [if_pos ⟨hm, by omega⟩, beq_iff_eq.mpr hm]; rfl
  · rw [if_neg (fun h => hm h.1), beq_eq_false_iff_ne.mpr hm]; rfl

theorem late_onMaxPath (max : Nat) (pc : PC) (h : late pc = true) : onMaxPath max pc = true := by
  cases pc <;> first | rfl | cases h

theorem afterUp_late (pc : PC) (h : afterUp pc = true) : late pc = true := by
  cases pc <;> first | rfl | cases h

theorem afterDown_afterUp (pc : PC) (h : afterDown pc = true) : afterUp pc = true := by
  cases pc <;> first | rfl | cases h

/-- While a thread is on the n-th-item path before `end.store(true)`, `end` is not set: put that thread aside, and the
threads counted by `late` are still among those counted by `onMaxPath`, of which there is now none. -/
theorem fin_false_of_inv {max : Nat} {c : Cfg} (hi : Inv max c) {i : Nat} (h : i < c.pcs.length)
    (hm : onMaxPath max c.pcs[i] = true) (hl : late c.pcs[i] = false) : c.fin = false := by
  have h1 := cnt_set (onMaxPath max) c.pcs i h .idle
  have h2 := cnt_set late c.pcs i h .idle
  have h3 : (c.pcs.set i .idle).countP late ≤ (c.pcs.set i .idle).countP (onMaxPath max) :=
    List.countP_mono_left fun pc _ => late_onMaxPath max pc
  have h4 := hi.uniq
  have h5 := hi.fin
  have h6 := full_le max c.taken
  rw [hm] at h1
  rw [hl] at h2
  cases hf : c.fin with
  | false => rfl
  | true =>
    rw [hf] at h5
    simp only [onMaxPath, late, Bool.false_eq_true, if_false, if_true, Bool.toNat_true] at h1 h2 h5
    omega

/-- Every micro-step is balanced, provided `end` is still unset where the thread is about to test or to set it. -/
theorem stepPC_balanced (max : Nat) (c : Cfg) (pc : PC) (hle : c.taken ≤ max)
    (hfin : onMaxPath max pc = true → late pc = false → c.fin = false) :
    Balanced max c pc (stepPC max c pc).1 (stepPC max c pc).2 := by
  unfold Balanced
  cases pc with
  | idle =>
    by_cases hlt : c.taken < max
    · simp only [stepPC, if_pos hlt, atD2, onMaxPath, late, afterUp, afterDown, full_of_lt hlt, full_succ max c.taken,
        Bool.toNat_true, Bool.toNat_false, and_true]
      omega
    · simp only [stepPC, if_neg hlt, hle, and_self]
  | d2 t =>
    simp only [stepPC, atD2, onMaxPath, late, afterUp, afterDown, Bool.toNat_true, Bool.toNat_false, hle, and_true]
  | inData t => simp only [stepPC, atD2, onMaxPath, late, afterUp, afterDown, hle, and_self]
  | d3 t =>
    by_cases ht : t = max
    · subst ht
      simp only [stepPC, if_true, atD2, onMaxPath, late, afterUp, afterDown, beq_self_eq_true, hle, and_self]
    · simp only [stepPC, if_neg ht, atD2, onMaxPath, late, afterUp, afterDown, beq_eq_false_iff_ne.mpr ht, hle, and_self]
  | d3b =>
    have hf := hfin rfl rfl
    simp only [stepPC, hf, Bool.false_eq_true, if_false, atD2, onMaxPath, late, afterUp, afterDown, hle, and_self]
  | d4 =>
    have hf := hfin rfl rfl
    simp only [stepPC, hf, atD2, onMaxPath, late, afterUp, afterDown, Bool.toNat_true, Bool.toNat_false, hle, and_true]
  | d5 =>
    simp only [stepPC, atD2, onMaxPath, late, afterUp, afterDown, Bool.toNat_true, Bool.toNat_false, hle, true_and, and_true]
    omega
  | inUp => simp only [stepPC, atD2, onMaxPath, late, afterUp, afterDown, hle, and_self]
  | d6 =>
    simp only [stepPC, atD2, onMaxPath, late, afterUp, afterDown, Bool.toNat_true, Bool.toNat_false, hle, true_and]
    omega
  | inDown =>
    simp only [stepPC, atD2, onMaxPath, late, afterUp, afterDown, Bool.toNat_true, Bool.toNat_false, hle, and_true]

theorem inv_stepAt (max : Nat) (c : Cfg) (i : Nat) (h : i < c.pcs.length) (hi : Inv max c) :
    Inv max (stepAt max c i h) :=
  inv_set hi h (stepPC_balanced max c c.pcs[i] hi.le (fin_false_of_inv hi h))

theorem inv_init (max k : Nat) : Inv max ⟨0, false, List.replicate k .idle, 0, 0, 0, 0⟩ := by
  have h0 : ∀ p : PC → Bool, p .idle = false → (List.replicate k PC.idle).countP p = 0 := fun p hp => by
    rw [List.countP_replicate, hp]; rfl
  have hfull : full max 0 = 0 := by unfold full; split <;> omega
  constructor <;>
    simp only [h0 atD2 rfl, h0 (onMaxPath max) rfl, h0 late rfl, h0 afterUp rfl, h0 afterDown rfl, hfull, Bool.toNat_false,
      Nat.zero_le]

theorem inv_reach {max k : Nat} {c : Cfg} (h : Reach max k c) : Inv max c := by
  induction h with
  | init => exact inv_init max k
  | step _ hs ih => cases hs with | mk i h => exact inv_stepAt max _ i h ih

theorem inv_bounds {max : Nat} {c : Cfg} (hi : Inv max c) :
    c.dataOuts ≤ max ∧ c.upTerms ≤ 1 ∧ c.downTerms ≤ 1 ∧ (c.downTerms = 1 → c.taken = max) := by
  obtain ⟨hle, hdata, huniq, hfin, hup, hdown⟩ := hi
  have hLM : c.pcs.countP late ≤ c.pcs.countP (onMaxPath max) := List.countP_mono_left fun pc _ => late_onMaxPath max pc
  have hUL : c.pcs.countP afterUp ≤ c.pcs.countP late := List.countP_mono_left fun pc _ => afterUp_late pc
  have hDU : c.pcs.countP afterDown ≤ c.pcs.countP afterUp := List.countP_mono_left fun pc _ => afterDown_afterUp pc
  have hf := Bool.toNat_le c.fin
  refine ⟨by omega, by omega, by omega, fun hd => ?_⟩
  rcases Nat.lt_or_ge c.taken max with hlt | hge
  · have := full_of_lt hlt; omega
  · omega

/-- C19 core: whatever the number of threads and the schedule, take(max) with an atomic slot claim delivers at
most `max` data, terminates upstream at most once and the sink at most once. -/
theorem take_race_free (max k : Nat) (c : Cfg) (h : Reach max k c) :
    c.dataOuts ≤ max ∧ c.upTerms ≤ 1 ∧ c.downTerms ≤ 1 := by
  obtain ⟨h1, h2, h3, _⟩ := inv_bounds (inv_reach h)
  exact ⟨h1, h2, h3⟩

end Cb.TakeAbs
#print axioms Cb.TakeAbs.take_race_free
