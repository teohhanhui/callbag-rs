import CallbagModel.Par.Count
import CallbagModel.Ops.Combine
/-!
# combine! under racing members (C18, combine part)

The `n` members deliver from `n` threads, every interleaving of the machine's micro-steps (`pstep`).

The invariant is stated directly on `PSys`: every thread carries a WEIGHT for each shared counter (the number of decrements
of that counter it may still perform = matching deliveries left in its script + 1 if its handler is before the decrement);
the sum of the weights never exceeds the counter, so truncated subtraction never bites, and the thread that obtains 0 is
unique. Inequalities (instead of equalities) make thread death (panic, disposal) harmless.
-/
namespace Cb.CombinePar
open Cb.Combine

def MemberScript {α : Type} (i : Nat) : List (In α) → Prop
  | [] => False
  | g :: rest => g = In.srcGreet i ∧ ∃ (ds : List α) (fin : List (In α)),
      rest = ds.map (fun a => In.srcDown i (Down.data a)) ++ fin ∧
      (fin = [] ∨ fin = [In.srcDown i Down.term] ∨ ∃ e, fin = [In.srcDown i (Down.err e)])

def Members {α : Type} (n : Nat) (ths : List (Thread (Loc α) α (List α))) : Prop :=
  ths.length = n ∧ ∀ i (h : i < ths.length), ths[i].frame = none ∧ MemberScript i ths[i].script

def start {α : Type} (n : Nat) (ths : List (Thread (Loc α) α (List α))) : PSys (St α) (Loc α) α (List α) :=
  { st := { nStart := n, nData := n, nEnd := n, vals := List.replicate n none, slots := List.replicate n false },
    threads := ths, obs := {} }

def isGreet {α} : In α → Bool
  | .srcGreet _ => true
  | _ => false

def isFin {α} : In α → Bool
  | .srcDown _ .term => true
  | .srcDown _ (.err _) => true
  | _ => false

def locOf {α} : Option (Frame (Loc α) (List α)) → Option (Loc α) := Option.map Frame.loc

/-- before the `n_start.fetch_sub` -/
def lG {α} : Option (Loc α) → Nat
  | some (.g0 _) => 1
  | some .g1 => 1
  | _ => 0
/-- holds the ticket `n_start == 0`, has not greeted yet -/
def lG2 {α} : Option (Loc α) → Nat
  | some .g2 => 1
  | _ => 0
/-- before the `n_end.fetch_sub` -/
def lE {α} : Option (Loc α) → Nat
  | some .e0 => 1
  | _ => 0
/-- holds the ticket `n_end == 0`, has not completed the sink yet -/
def lE1 {α} : Option (Loc α) → Nat
  | some .e1 => 1
  | _ => 0

abbrev Th (α : Type) := Thread (Loc α) α (List α)

def wG {α} (th : Th α) : Nat := th.script.countP isGreet + lG (locOf th.frame)
def wG2 {α} (th : Th α) : Nat := lG2 (locOf th.frame)
def wE {α} (th : Th α) : Nat := th.script.countP isFin + lE (locOf th.frame)
def wE1 {α} (th : Th α) : Nat := lE1 (locOf th.frame)

open Cb.MergePar (tot tot_le_set tot_le_length tot_eq_zero le_tot)

/-- Each inequality has the form `tot w threads + x ≤ y` with `x`, `y` made of shared fields. -/
structure Inv {α} (s : PSys (St α) (Loc α) α (List α)) : Prop where
  gs : tot wG s.threads ≤ s.st.nStart
  g2 : tot wG2 s.threads + (s.obs.greets + min s.st.nStart 1) ≤ 1
  es : tot wE s.threads ≤ s.st.nEnd
  e1 : tot wE1 s.threads + (s.obs.terms + min s.st.nEnd 1) ≤ 1
  er : s.obs.errs = 0

/-- One countdown (`n_start` with the greeting, `n_end` with the completion) across a step of one thread: `w`, `w'` the
thread's weight on the counter `k`, `k'` before and after, `h`, `h'` its weight as holder of the ticket 0, `m`, `m'` the messages
sent on that ticket.  Neither inequality of `Inv` about the countdown loses: what the thread's weight does not give up, the
shared terms do. -/
def Bal (w h k m w' h' k' m' : Nat) : Prop := w' + k ≤ w + k' ∧ h' + (m' + min k' 1) ≤ h + (m + min k 1)

section countdown
variable {w h k m w' h' m' x : Nat}

theorem Bal.of_le (hw : w' ≤ w) (hh : h' ≤ h) (hm : m' = m) : Bal w h k m w' h' k m' := by
  unfold Bal; omega

/-- The thread still weighs 1 on the counter, so the counter is positive and the decrement is exact … -/
theorem Bal.dec (hk : x + 1 ≤ k) : Bal (x + 1) 0 k m x 0 (k - 1) m := by
  unfold Bal; omega

/-- … and the thread that obtains 0 takes the ticket. -/
theorem Bal.dec_last (hk : x + 1 ≤ k) (h0 : k - 1 = 0) : Bal (x + 1) 0 k m x 1 (k - 1) m := by
  unfold Bal; omega

theorem Bal.send : Bal x 1 k m x 0 k (m + 1) := by
  unfold Bal; omega

end countdown

/-- Thread `th` becomes `th'` while the shared state goes from `(st, ob)` to `(st', ob')`, and no inequality of `Inv` loses. -/
def Balanced {α} (st : St α) (ob : Obs (List α)) (th : Th α) (st' : St α) (ob' : Obs (List α)) (th' : Th α) : Prop :=
  Bal (wG th) (wG2 th) st.nStart ob.greets (wG th') (wG2 th') st'.nStart ob'.greets ∧
  Bal (wE th) (wE1 th) st.nEnd ob.terms (wE th') (wE1 th') st'.nEnd ob'.terms ∧
  ob'.errs = ob.errs

theorem inv_update {α} {s : PSys (St α) (Loc α) α (List α)} (hi : Inv s) {t : Nat} {th : Th α} (ht : s.threads[t]? = some th)
    {st' : St α} {th' : Th α} {ob' : Obs (List α)} (hb : Balanced s.st s.obs th st' ob' th') :
    Inv { st := st', threads := s.threads.set t th', obs := ob' } :=
  ⟨tot_le_set wG ht (x := 0) (x' := 0) hi.gs hb.1.1, tot_le_set wG2 ht hi.g2 (Nat.add_le_add_right hb.1.2 1),
    tot_le_set wE ht (x := 0) (x' := 0) hi.es hb.2.1.1, tot_le_set wE1 ht hi.e1 (Nat.add_le_add_right hb.2.1.2 1),
    hb.2.2.trans hi.er⟩

theorem balanced_of_le {α} (st : St α) {ob ob' : Obs (List α)} {th th' : Th α}
    (hG : wG th' ≤ wG th) (hG2 : wG2 th' ≤ wG2 th) (hE : wE th' ≤ wE th) (hE1 : wE1 th' ≤ wE1 th)
    (hg : ob'.greets = ob.greets) (ht : ob'.terms = ob.terms) (he : ob'.errs = ob.errs) :
    Balanced st ob th st ob' th' :=
  ⟨.of_le hG hG2 hg, .of_le hE hE1 ht, he⟩

/-- The handler entered for `i` weighs what `i` weighed in the script. -/
theorem enter_weights {α} (i : In α) :
    lG (some (enter i)) = (if isGreet i then 1 else 0) ∧ lG2 (some (enter i)) = 0 ∧
    lE (some (enter i)) = (if isFin i then 1 else 0) ∧ lE1 (some (enter i)) = 0 := by
  cases i with
  | srcDown j d => cases d <;> exact ⟨rfl, rfl, rfl, rfl⟩
  | _ => exact ⟨rfl, rfl, rfl, rfl⟩

theorem balanced_enter {α} (st : St α) (ob : Obs (List α)) (i : In α) (rest : List (In α)) :
    Balanced st ob ⟨i :: rest, none⟩ st ob ⟨rest, some (.run (enter i))⟩ := by
  obtain ⟨h1, h2, h3, h4⟩ := enter_weights i
  refine balanced_of_le st ?_ ?_ ?_ ?_ rfl rfl rfl
  all_goals
    simp only [wG, wG2, wE, wE1, locOf, Option.map, Frame.loc, List.countP_cons, h1, h2, h3, h4]
    simp only [lG, lG2, lE, lE1, Nat.add_zero, Nat.le_refl]

def ActOK {α} (st : St α) (ob : Obs (List α)) (sc : List (In α)) (l : Loc α) : Act (St α) (Loc α) (List α) → Prop
  | .tau st' l' => Balanced st ob ⟨sc, some (.run l)⟩ st' ob ⟨sc, some (.run l')⟩
  | .call o st' l' => Balanced st ob ⟨sc, some (.run l)⟩ st' (ob.onOut o) ⟨sc, some (.wait o l')⟩
  | _ => True

/-- Only `g1`, `g2`, `e0`, `e1` touch a counter or a counted message: `g1` (`e0`) decrements `n_start` (`n_end`), and `g2`
(`e1`), reached by the thread that obtained 0, sends the greeting (the completion). -/
theorem step_ok {α} (n : Nat) (st : St α) (ob : Obs (List α)) (sc : List (In α)) (l : Loc α)
    (hG : wG ⟨sc, some (.run l)⟩ ≤ st.nStart) (hE : wE ⟨sc, some (.run l)⟩ ≤ st.nEnd) : ActOK st ob sc l (step n st l) := by
  have same {w h k m : Nat} : Bal w h k m w h k m := .of_le (Nat.le_refl w) (Nat.le_refl h) rfl
  cases l with
  | g1 =>
    show Balanced st ob _ _ ob ⟨sc, some (.run (if st.nStart - 1 == 0 then .g2 else .done))⟩
    by_cases h0 : st.nStart - 1 = 0
    · rw [if_pos (beq_iff_eq.mpr h0)]; exact ⟨.dec_last hG h0, same, rfl⟩
    · rw [if_neg (mt beq_iff_eq.mp h0)]; exact ⟨.dec hG, same, rfl⟩
  | e0 =>
    show Balanced st ob _ _ ob ⟨sc, some (.run (if st.nEnd - 1 == 0 then .e1 else .done))⟩
    by_cases h0 : st.nEnd - 1 = 0
    · rw [if_pos (beq_iff_eq.mpr h0)]; exact ⟨same, .dec_last hE h0, rfl⟩
    · rw [if_neg (mt beq_iff_eq.mp h0)]; exact ⟨same, .dec hE, rfl⟩
  | g2 => exact ⟨(onOut_counts ob _).1 ▸ .send, (onOut_counts ob _).2.1 ▸ same, (onOut_counts ob _).2.2.1⟩
  | e1 => exact ⟨(onOut_counts ob _).1 ▸ same, (onOut_counts ob _).2.1 ▸ .send, (onOut_counts ob _).2.2.1⟩
  | _ =>
    simp only [step]
    repeat' split
    all_goals simp only [ActOK, Balanced, Bal, wG, wG2, wE, wE1, locOf, Option.map, Frame.loc, lG, lG2, lE, lE1, onOut_counts,
      outGreet, outTerm, outErr, Nat.add_zero, Nat.le_refl, and_self]

theorem inv_step {α} (n : Nat) (s b : PSys (St α) (Loc α) α (List α)) (t : Nat) (hi : Inv s)
    (hs : pstep (machine α n) s t = some b) : Inv b := by
  refine pstep_cases hs (fun i sc hth _ => ?_) (fun i sc hth _ => ?_) (fun sc o l hth => ?_) (fun sc l hth => ?_)
  · exact inv_update hi hth (balanced_of_le _ (Nat.zero_le _) (Nat.zero_le _) (Nat.zero_le _) (Nat.zero_le _) rfl rfl rfl)
  · exact inv_update hi hth (balanced_enter _ _ i sc)
  · rw [onRet_eq]
    exact inv_update hi hth (balanced_of_le _ (Nat.le_refl _) (Nat.le_refl _) (Nat.le_refl _) (Nat.le_refl _) rfl rfl rfl)
  · have hok := step_ok n s.st s.obs sc l (Nat.le_trans (le_tot wG hth) hi.gs) (Nat.le_trans (le_tot wE hth) hi.es)
    cases hact : step n s.st l with
    | ret =>
      cases (pstep_ret hth hact).symm.trans hs
      exact inv_update hi hth
        (balanced_of_le _ (Nat.le_add_right _ _) (Nat.zero_le _) (Nat.le_add_right _ _) (Nat.zero_le _) rfl rfl rfl)
    | tau st' l' => rw [hact] at hok; cases (pstep_tau hth hact).symm.trans hs; exact inv_update hi hth hok
    | call o st' l' => rw [hact] at hok; cases (pstep_call hth hact).symm.trans hs; exact inv_update hi hth hok
    | panic msg =>
      cases (pstep_panic hth hact).symm.trans hs
      exact inv_update hi hth (balanced_of_le _ (Nat.zero_le _) (Nat.zero_le _) (Nat.zero_le _) (Nat.zero_le _) rfl rfl rfl)

theorem countP_data {α} (p : In α → Bool) (hp : ∀ i a, p (.srcDown i (.data a)) = false) (i : Nat) (ds : List α) :
    (ds.map (fun a => In.srcDown i (Down.data a))).countP p = 0 := by
  induction ds with
  | nil => rfl
  | cons a ds ih => simp [hp, ih]

theorem member_weights {α} (i : Nat) (th : Th α) (hf : th.frame = none) (hm : MemberScript i th.script) :
    wG th ≤ 1 ∧ wG2 th = 0 ∧ wE th ≤ 1 ∧ wE1 th = 0 := by
  obtain ⟨script, frame⟩ := th
  simp only [] at hf hm
  subst hf
  cases script with
  | nil => exact hm.elim
  | cons g rest =>
    obtain ⟨hg, ds, fin, hr, hfin⟩ := hm
    subst hg hr
    have h1 := countP_data isGreet (fun _ _ => rfl) i ds
    have h2 := countP_data isFin (fun _ _ => rfl) i ds
    rcases hfin with h | h | ⟨e, h⟩ <;> subst h <;>
      simp [wG, wG2, wE, wE1, locOf, lG, lG2, lE, lE1, isGreet, isFin, List.countP_cons, List.countP_append, h1, h2]

theorem inv_start {α} (n : Nat) (ths : List (Th α)) (h : Members n ths) : Inv (start n ths) := by
  obtain ⟨hlen, hm⟩ := h
  have hall : ∀ th ∈ ths, wG th ≤ 1 ∧ wG2 th = 0 ∧ wE th ≤ 1 ∧ wE1 th = 0 := by
    intro th hth
    obtain ⟨i, hi, rfl⟩ := List.mem_iff_getElem.mp hth
    exact member_weights i _ (hm i hi).1 (hm i hi).2
  have s1 := tot_le_length wG ths (fun x hx => (hall x hx).1)
  have s2 := tot_eq_zero wG2 ths (fun x hx => (hall x hx).2.1)
  have s3 := tot_le_length wE ths (fun x hx => (hall x hx).2.2.1)
  have s4 := tot_eq_zero wE1 ths (fun x hx => (hall x hx).2.2.2)
  constructor <;> simp only [start] <;> omega

/-- C18 (combine), the part that holds: for every arity, all scripts and every schedule, the sink is greeted at most once and
completed at most once, and never receives an `Error`. -/
theorem combine_par_counts_partial {α : Type} (n : Nat) (ths : List (Thread (Loc α) α (List α))) (h : Members n ths) :
    ∀ s, PReach (machine α n) (start n ths) s → s.obs.greets ≤ 1 ∧ s.obs.terms ≤ 1 ∧ s.obs.errs = 0 := by
  intro s hr
  have hinv : Inv s := by
    induction hr with
    | init => exact inv_start n ths h
    | step t _ hs ih => exact inv_step n _ _ t ih hs
  obtain ⟨_, h2, _, h4, h5⟩ := hinv
  exact ⟨by omega, by omega, h5⟩

/-- both members greet completely; thread 0 runs its data handler up to and including `d1` (`n_data` 2→1) but not the store
`d2`; thread 1 runs its whole data handler (`n_data` 1→0, stores, reads the tuple `[none, some 2]`) -/
def panicSched : List Nat := [0,0,0,0, 1,1,1,1,1,1, 0,0,0, 1,1,1,1,1,1]

/-- C18 (combine), the part that fails (known finding KF4): with two members whose FIRST data race, the thread that brings
`n_data` to 0 can read the tuple before the other thread has stored its value, and `unwrap()` panics. -/
theorem combine_par_panics :
    ∃ s, PReach (machine Nat 2) (start 2 [⟨[.srcGreet 0, .srcDown 0 (.data 1)], none⟩, ⟨[.srcGreet 1, .srcDown 1 (.data 2)], none⟩]) s ∧
      s.obs.panics = 1 :=
  witness_of_sched _ _ panicSched ⟨_, rfl, rfl⟩

end Cb.CombinePar
#print axioms Cb.CombinePar.combine_par_counts_partial
#print axioms Cb.CombinePar.combine_par_panics
