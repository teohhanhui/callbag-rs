import CallbagModel.Ops.Take
import CallbagModel.Par.TakeAbs
/-!
# take(max) under racing deliveries (C19): the machine `Take.machine α max` run by the thread scheduler `pstep`
refines the abstract program-counter model of `Par/TakeAbs.lean`.
-/
namespace Cb.Take
open Cb.TakeAbs (PC Cfg stepPC stepAt)

def pcOf {α} : Option (Frame (Loc α) α) → PC
  | some (.run (.d2 _ t)) => .d2 t
  | some (.wait _ (.d3 t)) => .inData t
  | some (.run (.d3 t)) => .d3 t
  | some (.run .d3b) => .d3b
  | some (.run .d4) => .d4
  | some (.run .d5) => .d5
  | some (.wait _ .d6) => .inUp
  | some (.run .d6) => .d6
  | some (.wait _ .done) => .inDown
  | _ => .idle

/-- the frames a thread that only delivers data can be in -/
inductive FrameOK {α} : Option (Frame (Loc α) α) → Prop
  | none : FrameOK none
  | d0 (a : α) : FrameOK (some (.run (.d0 a)))
  | d2 (a : α) (t : Nat) : FrameOK (some (.run (.d2 a t)))
  | inData (a : α) (t : Nat) : FrameOK (some (.wait (.down 0 (.data a)) (.d3 t)))
  | d3 (t : Nat) : FrameOK (some (.run (.d3 t)))
  | d3b : FrameOK (some (.run .d3b))
  | d4 : FrameOK (some (.run .d4))
  | d5 : FrameOK (some (.run .d5))
  | inUp : FrameOK (some (.wait (.srcUp 0 .term) .d6))
  | d6 : FrameOK (some (.run .d6))
  | inDown : FrameOK (some (.wait (.down 0 .term) .done))
  | done : FrameOK (some (.run .done))

def ScriptOK {α} (sc : List (In α)) : Prop := ∀ i ∈ sc, ∃ a, i = In.srcDown 0 (Down.data a)

def ThreadOK {α} (th : Thread (Loc α) α α) : Prop := FrameOK th.frame ∧ ScriptOK th.script

/-- the abstract configuration of a concrete one (`md` is the ghost `maxDone`) -/
def absOf {α} (s : PSys St (Loc α) α α) (md : Nat) : Cfg :=
  { taken := s.st.taken, fin := s.st.fin, pcs := s.threads.map (fun th => pcOf th.frame),
    dataOuts := s.obs.datas.length, upTerms := s.obs.upTerms, downTerms := s.obs.terms, maxDone := md }

/-- what the concrete configuration satisfies besides the abstract invariant -/
structure Side {α} (s : PSys St (Loc α) α α) : Prop where
  tb : s.st.tb = true
  errs : s.obs.errs = 0
  panics : s.obs.panics = 0
  ok : ∀ th ∈ s.threads, ThreadOK th

theorem scriptOK_tail {α} {i : In α} {rest : List (In α)} (h : ScriptOK (i :: rest)) : ScriptOK rest :=
  fun j hj => h j (List.mem_cons_of_mem _ hj)

theorem scriptOK_nil {α} : ScriptOK ([] : List (In α)) := fun _ h => by cases h

theorem map_set_stutter {α β} (f : α → β) (l : List α) (t : Nat) (h : t < l.length) (x : α) (hx : f x = f l[t]) :
    (l.set t x).map f = l.map f := by
  rw [List.map_set, hx]
  have : f l[t] = (l.map f)[t]'(by simpa using h) := by simp
  rw [this, List.set_getElem_self]

section refine
variable {α : Type} {max : Nat} {s : PSys St (Loc α) α α} {t md : Nat} {th th' : Thread (Loc α) α α} {st' : St} {ob' : Obs α}

theorem absOf_stutter (hlt : t < s.threads.length) (hth : s.threads[t] = th) (hpc : pcOf th'.frame = pcOf th.frame)
    (h1 : st'.taken = s.st.taken) (h2 : st'.fin = s.st.fin) (h3 : ob'.datas = s.obs.datas)
    (h4 : ob'.upTerms = s.obs.upTerms) (h5 : ob'.terms = s.obs.terms) :
    absOf ⟨st', s.threads.set t th', ob'⟩ md = absOf s md := by
  simp only [absOf, h1, h2, h3, h4, h5]
  rw [map_set_stutter _ _ _ hlt _ (hth ▸ hpc)]

theorem absOf_step (hlt : t < s.threads.length) (hth : s.threads[t] = th) (h : t < (absOf s md).pcs.length) {c' : Cfg}
    (hc : stepPC max (absOf s md) (pcOf th.frame) = (c', pcOf th'.frame))
    (h1 : c'.taken = st'.taken) (h2 : c'.fin = st'.fin) (h3 : c'.dataOuts = ob'.datas.length)
    (h4 : c'.upTerms = ob'.upTerms) (h5 : c'.downTerms = ob'.terms) :
    absOf ⟨st', s.threads.set t th', ob'⟩ (stepAt max (absOf s md) t h).maxDone = stepAt max (absOf s md) t h := by
  have hpc : (absOf s md).pcs[t] = pcOf th.frame := by simp only [absOf, List.getElem_map, hth]
  simp only [stepAt, hpc, hc]
  simp only [absOf, List.map_set, h1, h2, h3, h4, h5]

end refine

theorem pstep_refines {α} (max : Nat) (s s' : PSys St (Loc α) α α) (t md : Nat) (hs : Side s)
    (hp : pstep (machine α max) s t = some s') :
    Side s' ∧ (absOf s' md = absOf s md ∨
      ∃ h : t < (absOf s md).pcs.length, absOf s' (stepAt max (absOf s md) t h).maxDone = stepAt max (absOf s md) t h) := by
  cases hget : s.threads[t]? with
  | none => rw [pstep_none hget] at hp; cases hp
  | some th =>
    obtain ⟨hlt, hth⟩ := List.getElem?_eq_some_iff.mp hget
    obtain ⟨script, frame⟩ := th
    obtain ⟨hf, hsc⟩ := hs.ok _ (List.mem_of_getElem? hget)
    have hpc : t < (absOf s md).pcs.length := by simpa [absOf] using hlt
    have side := fun th' (h : ThreadOK th') => forall_set (i := t) hs.ok h
    cases hf with
    | none =>
      cases script with
      | nil => rw [pstep_idle hget] at hp; cases hp
      | cons i rest =>
        cases hd : s.obs.disposed.contains (memberOf i) with
        | true =>
          cases (pstep_start_disposed hget hd).symm.trans hp
          exact ⟨⟨hs.tb, hs.errs, hs.panics, side _ ⟨FrameOK.none, scriptOK_nil⟩⟩,
            Or.inl (absOf_stutter hlt hth rfl rfl rfl rfl rfl rfl)⟩
        | false =>
          obtain ⟨a, rfl⟩ := hsc i (List.mem_cons_self ..)
          cases (pstep_start hget hd).symm.trans hp
          exact ⟨⟨hs.tb, hs.errs, hs.panics, side _ ⟨FrameOK.d0 a, scriptOK_tail hsc⟩⟩,
            Or.inl (absOf_stutter hlt hth rfl rfl rfl rfl rfl rfl)⟩
    | d0 a =>
      by_cases hm : s.st.taken < max
      · cases (pstep_tau hget (if_pos hm)).symm.trans hp
        exact ⟨⟨hs.tb, hs.errs, hs.panics, side _ ⟨FrameOK.d2 _ _, hsc⟩⟩,
          Or.inr ⟨hpc, absOf_step hlt hth hpc (if_pos hm) rfl rfl rfl rfl rfl⟩⟩
      · cases (pstep_ret hget (if_neg hm)).symm.trans hp
        exact ⟨⟨hs.tb, hs.errs, hs.panics, side _ ⟨FrameOK.none, hsc⟩⟩,
          Or.inl (absOf_stutter hlt hth rfl rfl rfl rfl rfl rfl)⟩
    | d2 a tk =>
      cases (pstep_call hget rfl).symm.trans hp
      have c := onOut_counts s.obs (.down 0 (.data a))
      exact ⟨⟨hs.tb, c.2.2.1.trans hs.errs, c.2.2.2.1.trans hs.panics, side _ ⟨FrameOK.inData _ _, hsc⟩⟩,
        Or.inr ⟨hpc, absOf_step hlt hth hpc rfl rfl rfl c.2.2.2.2.2.symm (by simp [Obs.onOut, absOf]) c.2.1.symm⟩⟩
    | inData a tk =>
      cases (pstep_wait hget).symm.trans hp
      exact ⟨⟨hs.tb, hs.errs, hs.panics, side _ ⟨FrameOK.d3 _, hsc⟩⟩,
        Or.inr ⟨hpc, absOf_step hlt hth hpc rfl rfl rfl rfl rfl rfl⟩⟩
    | d3 tk =>
      by_cases hm : tk = max
      · cases (pstep_tau hget (if_pos hm)).symm.trans hp
        exact ⟨⟨hs.tb, hs.errs, hs.panics, side _ ⟨FrameOK.d3b, hsc⟩⟩,
          Or.inr ⟨hpc, absOf_step hlt hth hpc (if_pos hm) rfl rfl rfl rfl rfl⟩⟩
      · cases (pstep_ret hget (if_neg hm)).symm.trans hp
        exact ⟨⟨hs.tb, hs.errs, hs.panics, side _ ⟨FrameOK.none, hsc⟩⟩,
          Or.inr ⟨hpc, absOf_step hlt hth hpc (if_neg hm) rfl rfl rfl rfl rfl⟩⟩
    | d3b =>
      by_cases hm : s.st.fin = true
      · cases (pstep_ret hget (if_pos hm)).symm.trans hp
        exact ⟨⟨hs.tb, hs.errs, hs.panics, side _ ⟨FrameOK.none, hsc⟩⟩,
          Or.inr ⟨hpc, absOf_step hlt hth hpc (if_pos hm) rfl rfl rfl rfl rfl⟩⟩
      · cases (pstep_tau hget (if_neg hm)).symm.trans hp
        exact ⟨⟨hs.tb, hs.errs, hs.panics, side _ ⟨FrameOK.d4, hsc⟩⟩,
          Or.inr ⟨hpc, absOf_step hlt hth hpc (if_neg hm) rfl rfl rfl rfl rfl⟩⟩
    | d4 =>
      cases (pstep_tau hget rfl).symm.trans hp
      exact ⟨⟨hs.tb, hs.errs, hs.panics, side _ ⟨FrameOK.d5, hsc⟩⟩,
        Or.inr ⟨hpc, absOf_step hlt hth hpc rfl rfl rfl rfl rfl rfl⟩⟩
    | d5 =>
      cases (pstep_call hget (if_pos hs.tb)).symm.trans hp
      exact ⟨⟨hs.tb, hs.errs, hs.panics, side _ ⟨FrameOK.inUp, hsc⟩⟩,
        Or.inr ⟨hpc, absOf_step hlt hth hpc rfl rfl rfl rfl rfl rfl⟩⟩
    | inUp =>
      cases (pstep_wait hget).symm.trans hp
      exact ⟨⟨hs.tb, hs.errs, hs.panics, side _ ⟨FrameOK.d6, hsc⟩⟩,
        Or.inr ⟨hpc, absOf_step hlt hth hpc rfl rfl rfl rfl rfl rfl⟩⟩
    | d6 =>
      cases (pstep_call hget rfl).symm.trans hp
      have c := onOut_counts s.obs (.down 0 .term)
      exact ⟨⟨hs.tb, c.2.2.1.trans hs.errs, c.2.2.2.1.trans hs.panics, side _ ⟨FrameOK.inDown, hsc⟩⟩,
        Or.inr ⟨hpc, absOf_step hlt hth hpc rfl rfl rfl c.2.2.2.2.2.symm (by simp [Obs.onOut, absOf]) c.2.1.symm⟩⟩
    | inDown =>
      cases (pstep_wait hget).symm.trans hp
      exact ⟨⟨hs.tb, hs.errs, hs.panics, side _ ⟨FrameOK.done, hsc⟩⟩,
        Or.inr ⟨hpc, absOf_step hlt hth hpc rfl rfl rfl rfl rfl rfl⟩⟩
    | done =>
      cases (pstep_ret hget rfl).symm.trans hp
      exact ⟨⟨hs.tb, hs.errs, hs.panics, side _ ⟨FrameOK.none, hsc⟩⟩,
        Or.inl (absOf_stutter hlt hth rfl rfl rfl rfl rfl rfl)⟩

open Cb.TakeAbs (atD2 onMaxPath afterUp afterDown)

def DataOnly {α : Type} (ths : List (Thread (Loc α) α α)) : Prop :=
  ∀ th ∈ ths, th.frame = none ∧ ∀ i ∈ th.script, ∃ a, i = In.srcDown 0 (Down.data a)

/-- the configuration in which the race starts: sink and source greeted, nothing taken, nothing observed -/
def start {α : Type} (ths : List (Thread (Loc α) α α)) : PSys St (Loc α) α α :=
  { st := { taken := 0, tb := true, fin := false }, threads := ths, obs := {} }

def PInv {α} (max : Nat) (s : PSys St (Loc α) α α) : Prop :=
  Side s ∧ ∃ md, TakeAbs.Inv max (absOf s md)

theorem pinv_step {α} (max : Nat) (s s' : PSys St (Loc α) α α) (t : Nat) (hi : PInv max s)
    (hp : pstep (machine α max) s t = some s') : PInv max s' := by
  obtain ⟨hs, md, h1⟩ := hi
  obtain ⟨hs', hst | ⟨h, hst⟩⟩ := pstep_refines max s s' t md hs hp
  · exact ⟨hs', md, hst ▸ h1⟩
  · exact ⟨hs', _, hst ▸ TakeAbs.inv_stepAt max _ t h h1⟩

theorem pcs_idle {α} {ths : List (Thread (Loc α) α α)} (h : ∀ th ∈ ths, th.frame = none) :
    ths.map (fun th => pcOf th.frame) = List.replicate ths.length PC.idle := by
  rw [List.eq_replicate_iff]
  refine ⟨by simp, ?_⟩
  intro b hb
  obtain ⟨th, hth, rfl⟩ := List.mem_map.mp hb
  rw [h th hth]; rfl

theorem pinv_start {α} (max : Nat) (ths : List (Thread (Loc α) α α)) (h : DataOnly ths) : PInv max (start ths) := by
  have hpcs := pcs_idle fun th hth => (h th hth).1
  have habs : absOf (start ths) 0 = ⟨0, false, List.replicate ths.length .idle, 0, 0, 0, 0⟩ := by
    simp [absOf, start, hpcs]
  refine ⟨⟨rfl, rfl, rfl, fun th hth => ⟨?_, (h th hth).2⟩⟩, 0, habs ▸ TakeAbs.inv_init max ths.length⟩
  rw [(h th hth).1]; exact FrameOK.none

theorem pinv_reach {α} (max : Nat) (ths : List (Thread (Loc α) α α)) (h : DataOnly ths) :
    ∀ s, PReach (machine α max) (start ths) s → PInv max s := by
  intro s hr
  induction hr with
  | init => exact pinv_start max ths h
  | step t _ hp ih => exact pinv_step max _ _ t ih hp

/-- C19: whatever the number of threads, their scripts and the schedule, `take(max)` delivers at most `max` data, terminates
its upstream at most once and its sink at most once, never panics, and completes the sink only after all `max` slots have been
claimed. (NOT: "only after `max` items have been delivered" — see `take_par_term_before_max` below.) -/
theorem take_par_safe {α : Type} (max : Nat) (ths : List (Thread (Loc α) α α)) (h : DataOnly ths) :
    ∀ s, PReach (machine α max) (start ths) s →
      s.obs.datas.length ≤ max ∧ s.obs.upTerms ≤ 1 ∧ s.obs.terms ≤ 1 ∧ s.obs.errs = 0 ∧ s.obs.panics = 0 ∧
      (s.obs.terms = 1 → s.st.taken = max) := by
  intro s hr
  obtain ⟨hs, md, h1⟩ := pinv_reach max ths h s hr
  obtain ⟨a, b, c, d⟩ := TakeAbs.inv_bounds h1
  exact ⟨a, b, c, hs.errs, hs.panics, d⟩

theorem countP_idle {α} (s : PSys St (Loc α) α α) (hq : ∀ th ∈ s.threads, th.frame = none ∧ th.script = [])
    (p : PC → Bool) (hp : p .idle = false) : (s.threads.map (fun th => pcOf th.frame)).countP p = 0 := by
  rw [pcs_idle fun th hth => (hq th hth).1, List.countP_replicate, hp]; rfl

/-- When no thread can move any more, everything claimed has been delivered; if the sink was completed, it got `max` items. -/
theorem take_par_quiescent {α : Type} (max : Nat) (ths : List (Thread (Loc α) α α)) (h : DataOnly ths) :
    ∀ s, PReach (machine α max) (start ths) s → (∀ t, pstep (machine α max) s t = none) →
      s.obs.datas.length = s.st.taken ∧ (s.obs.terms = 1 → s.obs.datas.length = max) := by
  intro s hr hq
  obtain ⟨hs, md, h1⟩ := pinv_reach max ths h s hr
  have hidle := quiescent hq
  have hd := h1.data
  have h0 := countP_idle s hidle atD2 rfl
  have hb := (TakeAbs.inv_bounds h1).2.2.2
  simp only [absOf] at hd hb
  exact ⟨by omega, fun ht => by have := hb ht; omega⟩

/-- … and exactly once each: when no thread can move any more and `max ≥ 1` items were delivered, upstream and sink have been
terminated exactly once. -/
theorem take_par_complete {α : Type} (max : Nat) (hmax : 0 < max) (ths : List (Thread (Loc α) α α)) (h : DataOnly ths) :
    ∀ s, PReach (machine α max) (start ths) s → (∀ t, pstep (machine α max) s t = none) →
      s.obs.datas.length = max → s.obs.upTerms = 1 ∧ s.obs.terms = 1 := by
  intro s hr hq hlen
  obtain ⟨hs, md, h1⟩ := pinv_reach max ths h s hr
  have hidle := quiescent hq
  have hd := h1.data
  have hu := h1.uniq
  have hup := h1.up
  have hdown := h1.down
  have c1 := countP_idle s hidle atD2 rfl
  have c2 := countP_idle s hidle (onMaxPath max) rfl
  have c3 := countP_idle s hidle afterUp rfl
  have c4 := countP_idle s hidle afterDown rfl
  simp only [absOf] at hd hu hup hdown
  have hT : s.st.taken = max := by omega
  rw [hT, TakeAbs.full_self hmax] at hu
  omega

/-- The code BEFORE the fix (`load` then `fetch_add`) over-delivers: `take(1)` fed by two threads delivers 2 items
(both threads pass the test `taken < max` before either increments). -/
theorem take_par_legacy_overdelivers :
    ∃ s, PReach (machine Nat 1 false) (start [⟨[.srcDown 0 (.data 1)], none⟩, ⟨[.srcDown 0 (.data 2)], none⟩]) s ∧
      s.obs.datas.length = 2 :=
  witness_of_sched _ _ [0, 0, 1, 1, 0, 0, 0, 0, 1, 1, 1, 1] ⟨_, rfl, rfl⟩

/-- FINDING (also with the fix): the sink can be completed BEFORE `max` items were delivered, and receives the missing
item after its `Terminate`. `take(2)`, two threads: thread 0 claims slot 1 and is preempted before `sink(Data)`;
thread 1 claims slot 2 = max, delivers, terminates upstream and sink; then thread 0 delivers. -/
theorem take_par_term_before_max :
    ∃ s, PReach (machine Nat 2) (start [⟨[.srcDown 0 (.data 1)], none⟩, ⟨[.srcDown 0 (.data 2)], none⟩]) s ∧
      s.obs.terms = 1 ∧ s.obs.datas.length = 1 :=
  witness_of_sched _ _ [0, 0, 1, 1, 1, 1, 1, 1, 1, 1, 1, 1, 1] ⟨_, rfl, rfl, rfl⟩

theorem take_par_data_after_term :
    ∃ s, PReach (machine Nat 2) (start [⟨[.srcDown 0 (.data 1)], none⟩, ⟨[.srcDown 0 (.data 2)], none⟩]) s ∧
      s.obs.afterTerm = 1 ∧ s.obs.datas = [2, 1] :=
  witness_of_sched _ _ [0, 0, 1, 1, 1, 1, 1, 1, 1, 1, 1, 1, 1, 0] ⟨_, rfl, rfl, rfl⟩

end Cb.Take
#print axioms Cb.Take.take_par_safe
#print axioms Cb.Take.take_par_quiescent
#print axioms Cb.Take.take_par_complete
#print axioms Cb.Take.take_par_legacy_overdelivers
#print axioms Cb.Take.take_par_term_before_max
#print axioms Cb.Take.take_par_data_after_term
