import CallbagModel.Sem
/-!
# Two subscriptions to the same operator value (C13)

In the model an operator VALUE has no state of its own: `Machine.init` is the state created inside the `Handshake` branch, once
per subscription (the one exception is `share`, whose machine keeps `sinks` and `source_talkback` across subscriptions in a single
configuration and is therefore not instantiated twice here).  Two overlapping subscriptions are two configurations of the same
machine whose steps interleave in any order whatsoever — a superset of what one program stack can produce.  Independence is then
true by the shape of the model; what carries the weight for C13 is the check that the REAL operators have this shape: the
correspondence runs two overlapping subscriptions of one operator value on the crate and compares each projection with a solo run
(`tools/extra.py`, `run_dual`).
-/
namespace Cb
variable {St Loc α β : Type}

/-- any interleaving of the steps of two subscriptions `a`, `b` of the same machine -/
inductive DReach (M : Machine St Loc α β) : Sys St Loc α β → Sys St Loc α β → Prop where
  | init : DReach M (Sys.init M) (Sys.init M)
  | stepA {a a' b} : DReach M a b → SStep M anyEnv a a' → DReach M a' b
  | stepB {a b b'} : DReach M a b → SStep M anyEnv b b' → DReach M a b'

/-- each subscription behaves exactly as if it were the only one: its configuration is one the solo machine can reach -/
theorem dual_independent (M : Machine St Loc α β) {a b : Sys St Loc α β} (h : DReach M a b) : SReach M a ∧ SReach M b := by
  induction h with
  | init => exact ⟨.init, .init⟩
  | stepA _ hs ih => exact ⟨.step ih.1 hs, ih.2⟩
  | stepB _ hs ih => exact ⟨ih.1, .step ih.2 hs⟩

/-- … whatever the other one does in the meantime: steps of `b` leave `a` untouched, and conversely every pair of solo runs is an
interleaved run -/
theorem dual_complete (M : Machine St Loc α β) {a b : Sys St Loc α β} (ha : SReach M a) (hb : SReach M b) : DReach M a b := by
  have h1 : DReach M a (Sys.init M) := by
    induction ha with
    | init => exact .init
    | step _ hs ih => exact .stepA ih hs
  induction hb with
  | init => exact h1
  | step _ hs ih => exact .stepB ih hs

theorem dual_transfer (M : Machine St Loc α β) (P : Sys St Loc α β → Prop) (h : ∀ s, SReach M s → P s)
    {a b : Sys St Loc α β} (hd : DReach M a b) : P a ∧ P b :=
  ⟨h a (dual_independent M hd).1, h b (dual_independent M hd).2⟩

end Cb
