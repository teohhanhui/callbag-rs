import CallbagModel.Inv.PlugCost
import CallbagModel.Inv.EndOnPull
/-!
# `concat!` under a demand: members that end only when pulled

The members are `EndOnPull` (`Inv/EndOnPull.lean`; its header says why `concat`'s sticky `got_pull` needs that), and that file also has
`EndLenSrc j n` (the terminal of upstream `j` comes after exactly `n` items) and `ended_len`.

The invariant `KJ` of `Concat.machine α n` is proved under the assumption `CndJ n dem tr` (every member `j < n` delivers and ends
only when pulled and sends no `Error`; the sink obeys the demand `dem`; closed under tails).  It records who is being pulled: a member
with an unserved `Pull` is the current one and then the sink's `Pull` is unserved (`KT`); between two members the sink's `Pull` is
unserved (`q`); and the assertions `Fl` on the running handler.  What is a property of `concat`'s own calls (`concat_pok`, `concat_eok`,
`concat_dm`) is read off it at the call (`pOk_reach`, `eOk_reach`, `demOkSrcJ_reach`).
With every slot plugged (`PartD.head`) the cost is `costJ cs yss js dem = Σ_j cs j (dsub dem (offY yss j))`; `termsL` lists its summands
in the order of the members (`costJ_termsL`).
`JoinHead A ys c` is what a member brings: a closed head of `ys` that delivers and ends only when pulled, of cost `c` under every demand.
`concat!` of such members is one again (`concat2_join`, `concatM_join`, stated for the terms of the driver).
-/
namespace Cb

namespace JoinDemand
open ComposeFun ComposeComplete PlugSafe PlugConcat FlatPlugFun ComposeCost

section TraceInv
variable {α : Type}

theorem wants_dsub {dem : Demand} {off k : Nat} (h : wants dem (off + k)) : wants (dsub dem off) k := by
  cases dem with
  | none => trivial
  | some d => simp only [wants, dsub] at h ⊢; omega

/-- the trace-level part of the invariant (`sk` the sink-side events, `sr` the source-side events, `i` the current member): an
upstream with an unserved `Pull` is the current member, and then the sink's `Pull` is unserved -/
structure KT (n i : Nat) (sk : List (SinkEv α)) (sr : List (SrcEv α)) : Prop where
  bp : i < n → lastPullSrc i sr = true → lastPull 0 sk = true
  lp : ∀ j, j ≠ i → lastPullSrc j sr = false

variable {n i : Nat} {sk : List (SinkEv α)} {sr : List (SrcEv α)}

theorem KT.init : KT n 0 ([] : List (SinkEv α)) ([] : List (SrcEv α)) :=
  ⟨fun _ h => (by simp [lastPullSrc] at h), fun _ _ => rfl⟩

theorem KT.sinkNeutral (h : KT n i sk sr) (e : SinkEv α) (h1 : relS 0 e = none) : KT n i (e :: sk) sr :=
  ⟨fun hi hb => (by simp only [lastPull, h1, Option.getD_none]; exact h.bp hi hb), h.lp⟩

theorem KT.pull0 (h : KT n i sk sr) : KT n i (.up 0 .pull :: sk) sr :=
  ⟨fun _ _ => (by simp [lastPull, relS]), h.lp⟩

theorem KT.srcNeutral (h : KT n i sk sr) (e : SrcEv α) (h1 : ∀ j, relSrc j e = none) : KT n i sk (e :: sr) :=
  ⟨fun hi hb => h.bp hi (by simpa [lastPullSrc, h1] using hb),
    fun j hj => by simp only [lastPullSrc, h1, Option.getD_none]; exact h.lp j hj⟩

theorem KT.down (h : KT n i sk sr) (k : Nat) (d : Down α) : KT n i sk (.down k d :: sr) := by
  refine ⟨fun hi hb => ?_, fun j hj => ?_⟩
  · by_cases hk : k = i
    · subst hk; simp [lastPullSrc, relSrc] at hb
    · apply h.bp hi; simpa [lastPullSrc, relSrc, hk] using hb
  · by_cases hk : k = j
    · subst hk; simp [lastPullSrc, relSrc]
    · simp only [lastPullSrc, relSrc, if_neg hk, Option.getD_none]; exact h.lp j hj

theorem KT.pullSrc (h : KT n i sk sr) (ha : lastPull 0 sk = true) : KT n i sk (.up i .pull :: sr) := by
  refine ⟨fun _ _ => ha, fun j hj => ?_⟩
  have : ¬ (i = j) := fun hc => hj hc.symm
  simp only [lastPullSrc, relSrc, this, and_false, if_false, Option.getD_none]; exact h.lp j hj

/-- a delivery to the sink: `concat`'s own terminal (`n ≤ i`), or while the current member is not being pulled -/
theorem KT.out (h : KT n i sk sr) (d : Down α) (hb : n ≤ i ∨ lastPullSrc i sr = false) : KT n i (.down 0 d :: sk) sr :=
  ⟨fun hlt hb' => hb.elim (fun hi => absurd hlt (Nat.not_lt_of_le hi)) fun hb => (by rw [hb] at hb'; cases hb'), h.lp⟩

theorem KT.next (h : KT n i sk sr) (hb : lastPullSrc i sr = false) : KT n (i + 1) sk sr :=
  ⟨fun _ hb' => (by rw [h.lp (i + 1) (Nat.succ_ne_self i)] at hb'; cases hb'),
    fun j hj => (by
      by_cases hji : j = i
      · subst hji; exact hb
      · exact h.lp j hji)⟩

end TraceInv

section ConcatInv
open ConcatN PlugConcat.CK
variable {α : Type}

structure CndJ (n : Nat) (dem : Demand) (tr : List (Ev α α)) : Prop where
  pok : ∀ j, j < n → POkSrc j (srcEvs tr)
  eok : ∀ j, j < n → EOkSrc j (srcEvs tr)
  ne : ∀ j, j < n → ∀ e, SrcEv.down j (Down.err e) ∉ srcEvs tr
  dm : DemOk dem (sinkEvs tr)

theorem CndJ.tail {n : Nat} {dem : Demand} {e : Ev α α} {tr : List (Ev α α)} (h : CndJ n dem (e :: tr)) : CndJ n dem tr :=
  ⟨fun j hj => pOkSrc_tail_ev (h.pok j hj), fun j hj => eOkSrc_tail_ev (h.eok j hj),
    fun j hj e' hm => h.ne j hj e' (mem_srcEvs_cons hm), h.dm.tail⟩

def Fl (n : Nat) (st : Concat.St) (ph : Ph) (tr : List (Ev α α)) : List (Fm α) → Prop
  | .run .t0 :: _ => aP tr = true ∧ lastPullSrc st.i (srcEvs tr) = false
  | .run .next :: _ => 0 < st.i → aP tr = true
  | .run (.g0 _) :: _ => (0 < st.i → aP tr = true) ∧ st.i < n
  | .run .g1 :: _ => (0 < st.i → aP tr = true) ∧ st.i < n
  | .run .g2 :: _ => aP tr = true ∧ st.i < n
  | .run .g3 :: _ => aP tr = true ∧ st.i < n
  | .run (.fwd (.data _)) :: _ => aP tr = true ∧ ph.srcPh st.i = .live ∧ lastPullSrc st.i (srcEvs tr) = false
  | .run .p0 :: _ => aP tr = true ∧ st.i < n
  | .run (.u1 .pull) :: _ => aP tr = true ∧ st.i < n
  | .run (.u1 .term) :: _ => ph.sinkPh 0 ≠ .live
  | .run (.u1 (.err _)) :: _ => ph.sinkPh 0 ≠ .live
  | _ => True

theorem fl_turn {n : Nat} {st : Concat.St} {ph : Ph} {tr : List (Ev α α)} {stk : List (Fm α)}
    (h : ∀ f ∈ stk, ∃ o l, f = Frame.wait o l) : Fl n st ph tr stk :=
  of_waits (Fl n st ph tr) h trivial fun _ _ _ => trivial

structure KJ (n : Nat) (s : Sys Concat.St (Concat.Loc α) α α) : Prop where
  kt : KT n s.st.i (sinkEvs s.tr) (srcEvs s.tr)
  q : 0 < s.st.i → s.g.ph.sinkPh 0 = .live → s.g.ph.srcPh s.st.i ≠ .live → aP s.tr = true
  fl : Fl n s.st s.g.ph s.tr s.stack

theorem KJ_reach (n : Nat) (hn : 0 < n) (dem : Demand) :
    ∀ s, SReach (Concat.machine α n) s → s.panicked = none → CndJ n dem s.tr → KJ n s := by
  refine ConcatK.reach_ind n hn (fun s => CndJ n dem s.tr → KJ n s) ?_ ?_ ?_ ?_ ?_ ?_
  · intro _
    exact ⟨KT.init, fun h => by simp [Sys.init, Concat.machine] at h, trivial⟩
  · intro st l stk g tr st' l' _ ih h hC
    obtain ⟨hkt, hq, hfl⟩ := ih hC
    cases h with
    | g0 => exact ⟨hkt, hq, hfl⟩
    | g1 h0 => exact ⟨hkt, hq, hfl.1 (Nat.pos_of_ne_zero h0), hfl.2⟩
    | g2 _ => exact ⟨hkt, hq, hfl⟩
    | t0 => exact ⟨hkt.next hfl.2, fun _ _ _ => hfl.1, fun _ => hfl.1⟩
    | p0 => exact ⟨hkt, hq, hfl⟩
  · intro st l stk g tr o ha ih h _ hC
    have hC' := hC.tail
    obtain ⟨hkt, hq, hfl⟩ := ih hC'
    have hk2 := K2_reach n hn _ ha rfl
    have htop : TopB st g.ph (.run l :: stk) := (K1_reach n hn _ ha rfl).top
    -- a `Pull` to the member in the slot, which is the current one
    have pull : ∀ s, st.slot = some s → st.slot = some st.i → aP tr = true →
        KT n st.i (sinkEvs tr) (.up s .pull :: srcEvs tr) := by
      intro s hs hi hap
      rw [hi] at hs; cases hs
      exact hkt.pullSrc hap
    cases h with
    | last hin =>
      refine ⟨hkt.out _ (.inl (Nat.le_of_eq hin.symm)), fun _ hl _ => ?_, trivial⟩
      simp only [onOut_ph] at hl; exact absurd hl (Ph.onOut_final_ne_live g.ph 0 rfl)
    | sub _ => exact ⟨hkt.srcNeutral _ (fun _ => rfl), fun h0 _ _ => hfl h0, trivial⟩
    | greet hi0 => exact ⟨hkt.sinkNeutral _ rfl, fun h0 _ _ => absurd hi0 (Nat.ne_of_gt h0), trivial⟩
    | repull hs => exact ⟨pull _ hs htop hfl.1, fun _ _ _ => hfl.1, trivial⟩
    | @up s u hs =>
      cases u with
      | pull => exact ⟨pull _ hs (htop rfl) hfl.1, fun _ _ _ => hfl.1, trivial⟩
      | term =>
        refine ⟨hkt.srcNeutral _ (fun j => by simp [relSrc]), fun _ hl _ => ?_, trivial⟩
        simp only [onOut_ph, Ph.sinkPh_onOut_srcUp] at hl; exact absurd hl hfl
      | err e =>
        refine ⟨hkt.srcNeutral _ (fun j => by simp [relSrc]), fun _ hl _ => ?_, trivial⟩
        simp only [onOut_ph, Ph.sinkPh_onOut_srcUp] at hl; exact absurd hl hfl
    | @fwd d =>
      cases d with
      | data x =>
        refine ⟨hkt.out _ (.inr hfl.2.2), fun _ _ hnl => ?_, trivial⟩
        simp only [onOut_ph, Ph.srcPh_onOut_down] at hnl; exact absurd hfl.2.1 hnl
      | term => exact absurd rfl (hk2.nft stk)
      | err e =>
        obtain ⟨i, e', hlt, hm⟩ := hk2.fe e stk rfl
        exact absurd hm (hC'.ne i hlt e')
  · intro st l stk g tr _ ih _ hw hC
    obtain ⟨hkt, hq, _⟩ := ih hC.tail
    exact ⟨hkt, onRetO_ph g _ ▸ hq, fl_turn hw⟩
  · intro st stk g tr c i ha ih hc hl hoths hm hC
    obtain ⟨hkt, hq, hfl⟩ := ih hC.tail
    cases legalIn_of hoths hm hc hl with
    | subscribe _ h0 =>
      have hi0 : ¬ 0 < st.i := fun h => Nat.ne_of_gt h h0
      exact ⟨hkt.sinkNeutral _ rfl, fun h0 _ _ => absurd h0 hi0, fun h0 => absurd h0 hi0⟩
    | sinkUp u _ _ _ hlt =>
      cases u with
      | pull => exact ⟨hkt.pull0, fun _ _ _ => aP_sinkPull tr, aP_sinkPull tr, hlt⟩
      | term =>
        have hd : (g.onIn stk.length (In.sinkUp 0 Up.term : In α)).ph.sinkPh 0 ≠ .live := by simp [Ph.onIn]
        exact ⟨hkt.sinkNeutral _ rfl, fun _ hl' _ => absurd hl' hd, hd⟩
      | err e =>
        have hd : (g.onIn stk.length (In.sinkUp 0 (Up.err e) : In α)).ph.sinkPh 0 ≠ .live := by simp [Ph.onIn]
        exact ⟨hkt.sinkNeutral _ rfl, fun _ hl' _ => absurd hl' hd, hd⟩
    | srcGreet hlt hsl =>
      have hsub := legal_srcGreet hl
      refine ⟨hkt.srcNeutral _ (fun _ => rfl), fun _ _ hnl => ?_,
        fun h0 => hq h0 (hsl (Nat.ne_of_gt h0)) (by rw [hsub]; simp), hlt⟩
      simp [Ph.onIn] at hnl
    | srcDown d _ hlt =>
      -- data and terminal arrive in answer to a `Pull`, which was sent under an unserved `Pull` of the sink
      have hap : isDataJ st.i (SrcEv.down st.i d) = true ∨ isEndJ st.i (SrcEv.down st.i d) = true → aP tr = true := by
        intro hd
        refine hkt.bp hlt ?_
        rcases hd with hd | hd
        · exact (hC.pok st.i hlt).1 hd
        · exact (hC.eok st.i hlt).1 hd
      cases d with
      | data x =>
        refine ⟨hkt.down _ _, fun _ _ hnl => ?_, hap (.inl (by simp [isDataJ])), legal_srcDown hl, by simp [srcEvs, srcEv, lastPullSrc, relSrc]⟩
        simp only [onIn_ph, Ph.onIn] at hnl; exact absurd (legal_srcDown hl) hnl
      | term =>
        have hap' := hap (.inr (by simp [isEndJ]))
        exact ⟨hkt.down _ _, fun _ _ _ => hap', hap', by simp [srcEvs, srcEv, lastPullSrc, relSrc]⟩
      | err e => exact absurd (by simp [srcEvs, srcEv]) (hC.ne st.i hlt e)
  · intro st stk g tr o _ ih _ hC
    obtain ⟨hkt, hq, _⟩ := ih hC.tail
    exact ⟨hkt, hq, trivial⟩

/-- the terminal is `concat`'s answer to a `Pull`: it is sent from `next`, under the unserved `Pull` that `KJ.fl` records -/
theorem concat_eok (n : Nat) (hn : 0 < n) (dem : Demand) :
    ∀ s, SReach (Concat.machine α n) s → CndJ n dem s.tr → EOk (sinkEvs s.tr) :=
  eOk_reach _ (CndJ n dem) (fun _ _ h => h.tail) fun st l stk g tr s' l' ha hst hC => by
    cases Concat.Edge.of hst with
    | last hin => exact (KJ_reach n hn dem _ ha rfl hC).fl (hin ▸ hn)
    | fwd => exact absurd rfl ((K2_reach n hn _ ha rfl).nft stk)

theorem concat_pok (n : Nat) (hn : 0 < n) (dem : Demand) :
    ∀ s, SReach (Concat.machine α n) s → CndJ n dem s.tr → POk (sinkEvs s.tr) :=
  pOk_reach _ (CndJ n dem) (fun _ _ h => h.tail) fun st l stk g tr x s' l' ha hst hC => by
    cases Concat.Edge.of hst with
    | fwd => exact (KJ_reach n hn dem _ ha rfl hC).fl.1

/-- while the current member is pulled, what the sink has received is what the members up to it have sent -/
theorem pull_wants {n : Nat} (hn : 0 < n) {dem : Demand} {st s' : Concat.St} {stk : List (Fm α)} {g : G} {tr : List (Ev α α)}
    {l l' : Concat.Loc α} {k : Nat} (ha : SReach (Concat.machine α n) ⟨st, .run l :: stk, g, tr, none⟩)
    (hst : (Concat.machine α n).step st l = .call (.srcUp k .pull) s' l')
    (hC : DemOk dem (sinkEvs tr)) (hap : aP tr = true) (hi : st.i < n) :
    wants (dsub dem (catN (fun j => sentData j tr) st.i).length) (sentData st.i tr).length := by
  have hk1 := K1_reach n hn _ ha rfl
  have hw := wants_of_lastPull hC hap
  rw [← recvData_eq, KD.at_pull hn ha hst, catN_split hi (fun j h1 _ => sentData_of_idle ha (hk1.s2 j h1)), List.length_append] at hw
  exact wants_dsub hw

end ConcatInv

section Assembly
open ConcatN PlugConcat.CK ComposeFull

/-- the number of items of the members before `j` -/
def offY (yss : Nat → List Int) (j : Nat) : Nat := (catN yss j).length

/-- `CndJ`, and every member `i` ends after exactly `|yss i|` items -/
structure CndL (n : Nat) (dem : Demand) (yss : Nat → List Int) (tr : List (Ev Int Int)) : Prop where
  j : CndJ n dem tr
  el : ∀ i, i < n → EndLenSrc i (yss i).length (srcEvs tr)

theorem CndL.tail {n : Nat} {dem : Demand} {yss : Nat → List Int} {e : Ev Int Int} {tr : List (Ev Int Int)}
    (h : CndL n dem yss (e :: tr)) : CndL n dem yss tr :=
  ⟨h.j.tail, fun i hi => endLenSrc_tail_ev (h.el i hi)⟩

theorem concat_sent_before {n : Nat} (hn : 0 < n) {dem : Demand} {yss : Nat → List Int} {s : CSys Int} (hs : SReach (Concat.machine Int n) s)
    (hp : s.panicked = none) (hC : CndL n dem yss s.tr) {j : Nat} (hj : j ≤ s.st.i) (hjn : j ≤ n) :
    (catN (fun i => sentData i s.tr) j).length = offY yss j :=
  catN_length_eq fun i hi => sentData_eq i s.tr ▸ ended_len hs (hC.el i (Nat.lt_of_lt_of_le hi hjn))
    (hC.j.ne i (Nat.lt_of_lt_of_le hi hjn)) ((K1_reach n hn s hs hp).s1 i (Nat.lt_of_lt_of_le hi hj))

/-- member `j` of `concat` is pulled only while the sink wants more than the members before it deliver: a property of the calls
`.srcUp j .pull`, each made to the current member under an unserved `Pull` of the sink (`KJ.fl`) -/
theorem concat_dm (n : Nat) (hn : 0 < n) (dem : Demand) (yss : Nat → List Int) (j : Nat) (hj : j < n) :
    ∀ s, SReach (Concat.machine Int n) s → CndL n dem yss s.tr → DemOkSrcJ j (dsub dem (offY yss j)) (srcEvs s.tr) :=
  demOkSrcJ_reach _ (CndL n dem yss) (fun _ _ h => h.tail) j _ fun st l stk g tr s' l' ha hst hC => by
    have hfl := (KJ_reach n hn dem _ ha rfl hC.j).fl
    have hw : aP tr = true → st.slot = some j → st.slot = some st.i →
        wants (dsub dem (offY yss j)) (sentS j (srcEvs tr)).length := fun hap h1 h2 => by
      obtain rfl : j = st.i := Option.some.inj (h1.symm.trans h2)
      have := pull_wants hn ha hst hC.j.dm hap hj
      rwa [concat_sent_before hn ha rfl hC (Nat.le_refl _) (Nat.le_of_lt hj), sentData_eq] at this
    have htop := (K1_reach n hn _ ha rfl).top
    cases Concat.Edge.of hst with
    | repull hs => exact hw hfl.1 hs htop
    | up hs => exact hw hfl.1 hs (htop rfl)

/-- what `concat` sees of the plugged member `i`, whose counter stands at `x` -/
structure MemD (c : Demand → Nat) (ys : List Int) (i : Nat) (sC : CSys Int) (x : Nat) (top : Prop) : Prop where
  po : POkSrc i (srcEvs sC.tr)
  eo : EOkSrc i (srcEvs sC.tr)
  ne : ∀ e, SrcEv.down i (Down.err e) ∉ srcEvs sC.tr
  pre : sentData i sC.tr <+: ys
  el : EndLenSrc i ys.length (srcEvs sC.tr)
  up : ∀ dm, DemOkSrcJ i dm (srcEvs sC.tr) → x ≤ c dm
  low : top → c (some (sentData i sC.tr).length) ≤ x ∧ (sC.g.ph.srcPh i = .ended → c none ≤ x)

/-- the n-ary `concat` machine with the slots in `js` plugged by closed heads of `yss i`, of cost `cs i`, that deliver and end only
when pulled -/
structure PartD {St Loc : Type} (n : Nat) (js : List Nat) (cs : Nat → Demand → Nat) (yss : Nat → List Int)
    (M : Machine St Loc Int Int) (nx : St → Nat) : Prop where
  up : UpSide M
  proj : ∀ s, SReach M s → ∃ (sC : CSys Int) (xs : Nat → Nat), SReach (Concat.machine Int n) sC ∧ sC.panicked = none ∧ View js s sC ∧
    nx s.st = (js.map xs).sum ∧ ∀ i ∈ js, MemD (cs i) (yss i) i sC (xs i) (s.stack = [])

theorem PartD.base (n : Nat) (hn : 0 < n) (cs : Nat → Demand → Nat) (yss : Nat → List Int) :
    PartD n [] cs yss (Concat.machine Int n) (fun _ => 0) := by
  refine ⟨Concat.upSide n hn, fun s hs => ?_⟩
  exact ⟨s, fun _ => 0, hs, (Concat.concat_basicSafe n hn s hs).2, .refl s, rfl, (fun i hi => by cases hi)⟩

theorem PartD.plug {SA LA αA St Loc : Type} {A : Machine SA LA αA Int} {M : Machine St Loc Int Int} {n k : Nat} {js : List Nat}
    {cs : Nat → Demand → Nat} {yss : Nat → List Int} {nx : St → Nat} {nxA : SA → Nat}
    (hM : PartD n js cs yss M nx) (hk : k ∉ js) (hA : HeadOkT A (yss k)) (NA : NoUpstream A) (PA : PullOnly A) (EA : EndOnPull A)
    (uA : HeadUp A nxA (cs k)) (lA : HeadLow A nxA (cs k)) :
    PartD n (k :: js) cs yss (Cb.plug k A M) (fun st => nxA st.1 + nx st.2) := by
  have H : HypP A M := hypP_of hA.head.up NA hM.up.safe
  refine ⟨UpSide.plug H k hM.up, fun s hs => ?_⟩
  obtain ⟨sA, sM, hrA, hrM, hst, _, htop, hview⟩ := View.plug H hk s hs
  obtain ⟨sC, xs, hrC, hpC, hv, hsum, hmem⟩ := hM.proj sM hrM
  obtain ⟨hv', hifc⟩ := hview sC hv
  refine ⟨sC, fun i => if i = k then nxA sA.st else xs i, hrC, hpC, hv', ?_, fun i hm => ?_⟩
  · rw [hst]
    simp only [List.map_cons, List.sum_cons, if_true]
    rw [List.map_congr_left (f := fun i => if i = k then nxA sA.st else xs i) (g := xs) (fun i hi => by
      have : i ≠ k := fun h => hk (h ▸ hi)
      simp [this])]
    show nxA sA.st + nx sM.st = _
    rw [hsum]
  · rcases List.mem_cons.1 hm with rfl | hm
    · simp only [if_true]
      refine ⟨hifc.pOk (PA sA hrA), hifc.eOk (EA sA hrA), hifc.noErr (hA.noErr sA hrA), ?_, hifc.endLen (endFull_reach hA sA hrA),
        fun dm hd => uA dm sA hrA (hifc.demOk hd), fun htop' => ?_⟩
      · rw [hifc.sent]; exact recv_prefix_all hA.head.spec sA hrA
      · obtain ⟨l1, l2⟩ := lA sA hrA (htop htop').1
        rw [hifc.sent]
        exact ⟨l1, fun he => l2 (hifc.ended he)⟩
    · have hik : i ≠ k := fun h => hk (h ▸ hm)
      simp only [if_neg hik]
      obtain ⟨a1, a2, a3, a4, a5, a6, a7⟩ := hmem i hm
      exact ⟨a1, a2, a3, a4, a5, a6, fun htop' => a7 (htop htop').2⟩

theorem sum_map_le {X : Type} {f g : X → Nat} {l : List X} (h : ∀ x ∈ l, f x ≤ g x) : (l.map f).sum ≤ (l.map g).sum := by
  induction l with
  | nil => exact Nat.le_refl _
  | cons x t ih =>
    simp only [List.map_cons, List.sum_cons]
    have := h x List.mem_cons_self
    have := ih (fun y hy => h y (List.mem_cons_of_mem _ hy))
    omega

/-- the cost of the plugged network under a demand: member `j` is asked for what is left after the members before it -/
def costJ (cs : Nat → Demand → Nat) (yss : Nat → List Int) (js : List Nat) (dem : Demand) : Nat :=
  (js.map (fun j => cs j (dsub dem (offY yss j)))).sum

theorem PartD.head {St Loc : Type} {M : Machine St Loc Int Int} {n : Nat} (hn : 0 < n) {js : List Nat} {cs : Nat → Demand → Nat}
    {yss : Nat → List Int} {nx : St → Nat} (hM : PartD n js cs yss M nx) (hall : ∀ i, i < n → i ∈ js) (hlt : ∀ i ∈ js, i < n)
    (hmono : ∀ i ∈ js, ∀ d1 d2, Dle d1 d2 → cs i d1 ≤ cs i d2) :
    PullOnly M ∧ EndOnPull M ∧ HeadUp M nx (costJ cs yss js) ∧ HeadLow M nx (costJ cs yss js) := by
  have hC : ∀ {s : Sys St Loc Int Int} {sC : CSys Int} {xs : Nat → Nat} {dem : Demand}, View js s sC →
      (∀ i ∈ js, MemD (cs i) (yss i) i sC (xs i) (s.stack = [])) → DemOk dem (sinkEvs s.tr) → CndL n dem yss sC.tr :=
    fun hv hmem hd => ⟨⟨fun j hj => (hmem j (hall j hj)).po, fun j hj => (hmem j (hall j hj)).eo,
      fun j hj => (hmem j (hall j hj)).ne, hv.sink ▸ hd⟩, fun j hj => (hmem j (hall j hj)).el⟩
  refine ⟨fun s hs => ?_, fun s hs => ?_, fun dem s hs hd => ?_, fun s hs hstk => ?_⟩
  · obtain ⟨sC, xs, hrC, _, hv, _, hmem⟩ := hM.proj s hs
    rw [hv.sink]
    exact concat_pok n hn none sC hrC (hC hv hmem (demOk_none _)).j
  · obtain ⟨sC, xs, hrC, _, hv, _, hmem⟩ := hM.proj s hs
    rw [hv.sink]
    exact concat_eok n hn none sC hrC (hC hv hmem (demOk_none _)).j
  · obtain ⟨sC, xs, hrC, _, hv, hsum, hmem⟩ := hM.proj s hs
    rw [hsum]
    exact sum_map_le fun j hj => (hmem j hj).up _ (concat_dm n hn dem yss j (hlt j hj) sC hrC (hC hv hmem hd))
  · obtain ⟨sC, xs, hrC, hpC, hv, hsum, hmem⟩ := hM.proj s hs
    have hk1 := K1_reach n hn sC hrC hpC
    have hrecv := hv.recv hn hrC (envTurn_of_top (hM.up.safe s hs).2 hstk)
    rw [hsum]
    refine ⟨?_, fun hdone => ?_⟩
    · apply sum_map_le
      intro j hj
      have hjn := hlt j hj
      obtain ⟨l1, l2⟩ := (hmem j hj).low hstk
      by_cases hej : sC.g.ph.srcPh j = .ended
      · exact Nat.le_trans (hmono j hj _ _ (Dle.to_none _)) (l2 hej)
      · -- `j` has not ended: the members after it have sent nothing
        have hji : sC.st.i ≤ j := by
          apply Classical.byContradiction; intro hnl; exact hej (hk1.s1 j (Nat.lt_of_not_le hnl))
        have hz : ∀ i, j < i → i < n → sentData i sC.tr = [] := fun i h1 _ => sentData_of_idle hrC (hk1.s2 i (Nat.lt_of_le_of_lt hji h1))
        rcases Nat.eq_or_lt_of_le hji with hij | hij
        · have hk : (recvData 0 s.tr).length = offY yss j + (sentData j sC.tr).length := by
            rw [hrecv, catN_split hjn hz, List.length_append,
              concat_sent_before hn hrC hpC (hC hv hmem (demOk_none _)) (Nat.le_of_eq hij.symm) (Nat.le_of_lt hjn)]
          rw [hk, dsub_add]; exact l1
        · have hzj : sentData j sC.tr = [] := sentData_of_idle hrC (hk1.s2 j hij)
          have hk : (recvData 0 s.tr).length ≤ offY yss j := by
            rw [hrecv, catN_tail_nil (Nat.le_of_lt hjn) (fun i h1 h2 => by
              rcases Nat.eq_or_lt_of_le h1 with rfl | h1
              · exact hzj
              · exact hz i h1 h2)]
            exact catN_length_le (fun i hi => (hmem i (hall i (Nat.lt_trans hi hjn))).pre.length_le)
          rw [dsub_of_le hk, ← List.length_nil, ← hzj]; exact l1
    · have hend := hv.all_ended hn hrC hpC (fun i hi => (hmem i (hall i hi)).ne) hdone
      apply sum_map_le
      intro j hj
      exact ((hmem j hj).low hstk).2 (hend j (hlt j hj))

/-- the costs of the members, each under what is left of the demand after the members before it -/
def termsL : List (Demand → Nat) → List (List Int) → Demand → List Nat
  | c :: cs, y :: ys, dem => c dem :: termsL cs ys (dsub dem y.length)
  | _, _, _ => []

theorem termsL_length : ∀ (cs : List (Demand → Nat)) (ys : List (List Int)) (dem : Demand), ys.length = cs.length →
    (termsL cs ys dem).length = cs.length
  | [], [], _, _ => rfl
  | [], _ :: _, _, h => by simp at h
  | _ :: _, [], _, h => by simp at h
  | c :: cs, y :: ys, dem, h => by simp [termsL, termsL_length cs ys _ (by simpa using h)]

theorem termsL_getD : ∀ (cs : List (Demand → Nat)) (ys : List (List Int)) (dem : Demand) (j : Nat), ys.length = cs.length → j < cs.length →
    (termsL cs ys dem).getD j 0 = (cs.getD j (fun _ => 0)) (dsub dem (offY (fun i => ys.getD i []) j))
  | [], _, _, _, _, h => by simp at h
  | _ :: _, [], _, _, h, _ => by simp at h
  | c :: cs, y :: ys, dem, 0, _, _ => by simp [termsL, offY, catN, dsub_zero]
  | c :: cs, y :: ys, dem, j + 1, h, hj => by
    have ih := termsL_getD cs ys (dsub dem y.length) j (by simpa using h) (by simpa using hj)
    simp only [termsL, List.getD_cons_succ, ih, dsub_dsub]
    congr 2
    unfold offY
    rw [catN_shift, List.length_append]
    simp

theorem costJ_termsL (cs : List (Demand → Nat)) (ys : List (List Int)) (dem : Demand) (h : ys.length = cs.length) :
    costJ (fun i => cs.getD i (fun _ => 0)) (fun i => ys.getD i []) (downFrom cs.length) dem = (termsL cs ys dem).sum := by
  unfold costJ
  rw [List.map_congr_left (g := fun j => (termsL cs ys dem).getD j 0)
    (fun j hj => (termsL_getD cs ys dem j h (mem_downFrom.1 hj)).symm)]
  have := PlugCost.sum_downFrom_getD (termsL cs ys dem)
  rw [termsL_length cs ys dem h] at this
  exact this

end Assembly

section Driver
open Closed ComposeFull ConcatN

/-- everything known of a closed head that delivers and ends only when pulled: its list `ys` and its cost `c` under every demand -/
structure JoinHead (A : AnyM) (ys : List Int) (c : Demand → Nat) : Prop where
  ok : HeadOkT A.M ys
  nu : NoUpstream A.M
  pull : PullOnly A.M
  eop : EndOnPull A.M
  up : HeadUp A.M A.nexts c
  low : HeadLow A.M A.nexts c
  mono : ∀ d1 d2, Dle d1 d2 → c d1 ≤ c d2

/-- **binary `concat!` of heads that end only when pulled**, the term of the driver -/
theorem concat2_join {A B : AnyM} {ysA ysB : List Int} {cA cB : Demand → Nat} (hA : JoinHead A ysA cA) (hB : JoinHead B ysB cB) :
    JoinHead (plugM 0 A (plugM 1 B concat2M)) (ysA ++ ysB) (fun dem => cA dem + cB (dsub dem ysA.length)) := by
  have h2 : (0 : Nat) < 2 := by decide
  let cs : Nat → Demand → Nat := fun | 0 => cA | _ => cB
  let yss : Nat → List Int := fun | 0 => ysA | _ => ysB
  -- each step is stated for the term of the driver, so that nothing below unfolds `plugM`
  have h0 : PartD 2 [] cs yss concat2M.M concat2M.nexts := PartD.base 2 h2 cs yss
  have h1 : PartD 2 [1] cs yss (plugM 1 B concat2M).M (plugM 1 B concat2M).nexts :=
    h0.plug List.not_mem_nil hB.ok hB.nu hB.pull hB.eop hB.up hB.low
  have h3 : PartD 2 [0, 1] cs yss (plugM 0 A (plugM 1 B concat2M)).M (plugM 0 A (plugM 1 B concat2M)).nexts :=
    h1.plug (by simp) hA.ok hA.nu hA.pull hA.eop hA.up hA.low
  obtain ⟨p1, p2, p3, p4⟩ := h3.head h2 (fun i hi => by simp; omega) (fun i hi => by simp at hi; omega)
    (fun i _ => match i with | 0 => hA.mono | _ + 1 => hB.mono)
  have q : HeadOkT (plugM 0 A (plugM 1 B concat2M)).M (ysA ++ ysB) ∧ NoUpstream (plugM 0 A (plugM 1 B concat2M)).M :=
    concat2_headOkT hA.ok hA.nu hB.ok hB.nu
  have hc : costJ cs yss [0, 1] = fun dem => cA dem + cB (dsub dem ysA.length) := by
    funext dem
    show cA (dsub dem 0) + (cB (dsub dem ([] ++ ysA).length) + 0) = _
    rw [dsub_zero, List.nil_append, Nat.add_zero]
  rw [hc] at p3 p4
  exact ⟨q.1, q.2, p1, p2, p3, p4, fun d1 d2 hd => Nat.add_le_add (hA.mono _ _ hd) (hB.mono _ _ (dle_dsub hd _))⟩

/-- **n-ary `concat!` of heads that end only when pulled**, the term of the driver -/
theorem concatM_join (As : List AnyM) (hne : 0 < As.length) (cs : Nat → Demand → Nat) (yss : List (List Int)) (hlen : yss.length = As.length)
    (h : ∀ i (hi : i < As.length), JoinHead As[i] (yss.getD i []) (cs i)) :
    JoinHead (concatM As) yss.flatten (costJ cs (fun i => yss.getD i []) (downFrom As.length)) := by
  have := concatM_fold (P := fun k acc => PartD As.length (downFrom k) cs (fun i => yss.getD i []) acc.M acc.nexts)
    (Q := fun k A => JoinHead A (yss.getD k []) (cs k)) As (PartD.base As.length hne cs _)
    (fun k A acc hM hA => hM.plug (not_mem_downFrom k) hA.ok hA.nu hA.pull hA.eop hA.up hA.low) h
  obtain ⟨p1, p2, p3, p4⟩ := this.head hne (fun i hi => mem_downFrom.2 hi) (fun i hi => mem_downFrom.1 hi)
    (fun i hi d1 d2 hd => (h i (mem_downFrom.1 hi)).mono _ _ hd)
  obtain ⟨q1, q2⟩ := concatN_headOkT' As hne yss hlen (fun i hi => ⟨(h i hi).ok, (h i hi).nu⟩)
  refine ⟨q1, q2, p1, p2, p3, p4, fun d1 d2 hd => ?_⟩
  apply sum_map_le
  intro j hj
  exact (h j (mem_downFrom.1 hj)).mono _ _ (dle_dsub hd _)

end Driver

end JoinDemand
end Cb

#print axioms Cb.JoinDemand.KJ_reach
#print axioms Cb.JoinDemand.PartD.plug
#print axioms Cb.JoinDemand.PartD.head
#print axioms Cb.JoinDemand.concat2_join
#print axioms Cb.JoinDemand.concatM_join
