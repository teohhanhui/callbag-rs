import CallbagModel.Inv.TraceGhost
/-!
# Readable, monitor-free forms of C01, C02, C03 (generic: every machine, every restriction of the environment)

The project states C01–C03 through the ghost monitor: "no violation with `Viol.prop = 1 / 2 / 3` is recorded".  Here the
monitor is connected to statements about the boundary trace alone, by positions in chronological order (`GreetFirstOnce`,
`TerminalFinal`, `DisposalRespected`).

`GreetFirstOnce` follows from "no prop-1 violation" alone and `DisposalRespected` from "no prop-3 violation" alone.
`TerminalFinal` does NOT follow from "no prop-2 violation" alone: the monitor classifies a delivery by the phase of the sink,
so a terminal sent to a sink that is not greeted yet (prop 1) or that has disposed (prop 3) leaves the phase unchanged and
later deliveries are again classified as prop 1 / prop 3, never as prop 2 (`terminalFinal_needs_C01`,
`terminalFinal_needs_C03` are machine-checked counterexamples).  The statement that holds, `terminalFinal_of_clean`, asks for
no violation of props 1, 2 and 3.

Method: one invariant `RDp k ph tr` relating the phase of sink `k` to the (newest-first) trace, in a recursion-friendly
"every suffix" form, preserved by every event (`RDp.step`) and therefore holding along every run (`SReachR.ph_tr`); the
positional statements are then read off by general list lemmas about `reverse` and `getElem?`.
-/
namespace Cb

variable {α β : Type}

/-- chronological position-based reading: `tr.reverse[p]` is the `p`-th event -/
def chronAt (tr : List (Ev α β)) (p : Nat) : Option (Ev α β) := tr.reverse[p]?

/-- C01: a sink is greeted at most once, and every delivery to it comes after its greeting -/
def GreetFirstOnce (k : Nat) (tr : List (Ev α β)) : Prop :=
  (∀ p q, chronAt tr p = some (.out (.greet k)) → chronAt tr q = some (.out (.greet k)) → p = q) ∧
  (∀ p d, chronAt tr p = some (.out (.down k d)) → ∃ q, q < p ∧ chronAt tr q = some (.out (.greet k)))

/-- C02: at most one terminal message per sink, and nothing is delivered to it afterwards -/
def TerminalFinal (k : Nat) (tr : List (Ev α β)) : Prop :=
  ∀ p d, chronAt tr p = some (.out (.down k d)) → isFinal d = true →
    ∀ q d', p < q → chronAt tr q ≠ some (.out (.down k d'))

/-- C03: once sink `k` has sent Terminate / Error on its talkback, no further delivery to it BEGINS -/
def DisposalRespected (k : Nat) (tr : List (Ev α β)) : Prop :=
  ∀ p u, chronAt tr p = some (.inp (.sinkUp k u)) → u ≠ .pull →
    ∀ q d, p < q → chronAt tr q ≠ some (.out (.down k d))

end Cb

namespace Cb.Rd

variable {St Loc α β : Type}

def isGreetTo (k : Nat) : Ev α β → Bool
  | .out (.greet k') => k' == k
  | _ => false

def isDownTo (k : Nat) : Ev α β → Bool
  | .out (.down k' _) => k' == k
  | _ => false

def isDisposeOf (k : Nat) : Ev α β → Bool
  | .inp (.sinkUp k' .term) => k' == k
  | .inp (.sinkUp k' (.err _)) => k' == k
  | _ => false

theorem isGreetTo_eq {k : Nat} {e : Ev α β} (h : isGreetTo k e = true) : e = .out (.greet k) := by
  unfold isGreetTo at h
  split at h
  · simp only [beq_iff_eq] at h; rw [h]
  · cases h

/-- `P e t` holds for every suffix `e :: t` of the trace -/
def AllSuf (P : Ev α β → List (Ev α β) → Prop) : List (Ev α β) → Prop
  | [] => True
  | e :: t => P e t ∧ AllSuf P t

theorem AllSuf.of_append {P : Ev α β → List (Ev α β) → Prop} :
    ∀ (l : List (Ev α β)) {t : List (Ev α β)}, AllSuf P (l ++ t) → AllSuf P t
  | [], _, h => h
  | _ :: l, _, h => AllSuf.of_append l h.2

theorem AllSuf.at {P : Ev α β → List (Ev α β) → Prop} {l : List (Ev α β)} {e : Ev α β} {t : List (Ev α β)}
    (h : AllSuf P (l ++ e :: t)) : P e t := (AllSuf.of_append l h).1

def C1 (ph : Ph) : Prop := ∀ v ∈ ph.viols, v.prop ≠ 1
def C3 (ph : Ph) : Prop := ∀ v ∈ ph.viols, v.prop ≠ 3
def C123 (ph : Ph) : Prop := ∀ v ∈ ph.viols, v.prop ≠ 1 ∧ v.prop ≠ 2 ∧ v.prop ≠ 3

@[simp] theorem Ph.sinkPh_flag (ph : Ph) (v : Viol) (k : Nat) : (ph.flag v).sinkPh k = ph.sinkPh k := rfl
theorem C1_flag (ph : Ph) (v : Viol) : C1 (ph.flag v) ↔ v.prop ≠ 1 ∧ C1 ph := by simp [C1]
theorem C3_flag (ph : Ph) (v : Viol) : C3 (ph.flag v) ↔ v.prop ≠ 3 ∧ C3 ph := by simp [C3]
theorem C123_flag (ph : Ph) (v : Viol) : C123 (ph.flag v) ↔ (v.prop ≠ 1 ∧ v.prop ≠ 2 ∧ v.prop ≠ 3) ∧ C123 ph := by simp [C123]

theorem C1.mono {ph ph' : Ph} (hv : ∀ v ∈ ph.viols, v ∈ ph'.viols) (h : C1 ph') : C1 ph := fun v hm => h v (hv v hm)
theorem C3.mono {ph ph' : Ph} (hv : ∀ v ∈ ph.viols, v ∈ ph'.viols) (h : C3 ph') : C3 ph := fun v hm => h v (hv v hm)
theorem C123.mono {ph ph' : Ph} (hv : ∀ v ∈ ph.viols, v ∈ ph'.viols) (h : C123 ph') : C123 ph := fun v hm => h v (hv v hm)

/-- the phase of sink `k` is what the trace (newest first) says, and every delivery to `k` found the trace before it in order.
Every clause that depends on the operator behaving is guarded by the cleanliness of the monitor NOW (violations are never
removed, so nothing has to be threaded backwards). -/
structure RDp (k : Nat) (ph : Ph) (tr : List (Ev α β)) : Prop where
  g1 : C1 ph → tr.countP (isGreetTo k) = if ph.sinkPh k = .idle ∨ ph.sinkPh k = .subscribed then 0 else 1
  s1 : C1 ph → AllSuf (fun e t => isDownTo k e = true → 1 ≤ t.countP (isGreetTo k)) tr
  g2 : C123 ph → ∀ e ∈ tr, isFinalOut k e = true → ph.sinkPh k = .doneBySrc
  s2 : C123 ph → AllSuf (fun e t => isDownTo k e = true → ∀ e' ∈ t, isFinalOut k e' = false) tr
  g3 : ∀ e ∈ tr, isDisposeOf k e = true → ph.sinkPh k = .doneBySelf
  s3 : C3 ph → AllSuf (fun e t => isDownTo k e = true → ∀ e' ∈ t, isDisposeOf k e' = false) tr

theorem RDp.init (k : Nat) : RDp k ({} : Ph) ([] : List (Ev α β)) := by
  constructor <;> simp [AllSuf]

/-- one event: the obligations are propositional facts about the old phase, the new phase and the event -/
theorem RDp.step {k : Nat} {ph ph' : Ph} {tr : List (Ev α β)} (h : RDp k ph tr) (e : Ev α β)
    (hv : ∀ v ∈ ph.viols, v ∈ ph'.viols)
    (o1 : C1 ph' → (if isGreetTo k e = true then 1 else 0) + (if ph.sinkPh k = .idle ∨ ph.sinkPh k = .subscribed then 0 else 1)
        = (if ph'.sinkPh k = .idle ∨ ph'.sinkPh k = .subscribed then 0 else 1))
    (o1' : C1 ph' → isDownTo k e = true → ¬ (ph.sinkPh k = .idle ∨ ph.sinkPh k = .subscribed))
    (o2 : C123 ph' → (isFinalOut k e = true ∨ ph.sinkPh k = .doneBySrc) → ph'.sinkPh k = .doneBySrc)
    (o2' : C123 ph' → isDownTo k e = true → ph.sinkPh k ≠ .doneBySrc)
    (o3 : (isDisposeOf k e = true ∨ ph.sinkPh k = .doneBySelf) → ph'.sinkPh k = .doneBySelf)
    (o3' : C3 ph' → isDownTo k e = true → ph.sinkPh k ≠ .doneBySelf) :
    RDp k ph' (e :: tr) := by
  refine ⟨?_, ?_, ?_, ?_, ?_, ?_⟩
  · intro c
    have ih := h.g1 (c.mono hv)
    rw [List.countP_cons, ih, ← o1 c]; exact Nat.add_comm _ _
  · intro c
    refine ⟨fun hd => ?_, h.s1 (c.mono hv)⟩
    have ih := h.g1 (c.mono hv)
    rw [ih, if_neg (o1' c hd)]; exact Nat.le_refl _
  · intro c e' he' hf
    rcases List.mem_cons.1 he' with rfl | he'
    · exact o2 c (.inl hf)
    · exact o2 c (.inr (h.g2 (c.mono hv) e' he' hf))
  · intro c
    refine ⟨fun hd e' he' => ?_, h.s2 (c.mono hv)⟩
    cases hf : isFinalOut k e' with
    | false => rfl
    | true => exact absurd (h.g2 (c.mono hv) e' he' hf) (o2' c hd)
  · intro e' he' hf
    rcases List.mem_cons.1 he' with rfl | he'
    · exact o3 (.inl hf)
    · exact o3 (.inr (h.g3 e' he' hf))
  · intro c
    refine ⟨fun hd e' he' => ?_, h.s3 (c.mono hv)⟩
    cases hf : isDisposeOf k e' with
    | false => rfl
    | true => exact absurd (h.g3 e' he' hf) (o3' c hd)

theorem RDp.frame {k : Nat} {ph ph' : Ph} {tr : List (Ev α β)} (h : RDp k ph tr) (e : Ev α β)
    (hv : ∀ v ∈ ph.viols, v ∈ ph'.viols) (hph : ph'.sinkPh k = ph.sinkPh k)
    (h1 : isGreetTo k e = false) (h2 : isFinalOut k e = false) (h3 : isDisposeOf k e = false) (h4 : isDownTo k e = false) :
    RDp k ph' (e :: tr) := by
  apply h.step e hv <;> simp [h1, h2, h3, h4, hph]

theorem RDp.skip {k : Nat} {ph : Ph} {tr : List (Ev α β)} (h : RDp k ph tr) (e : Ev α β)
    (he : e = .retE ∨ e = .retO ∨ e = .panic) : RDp k ph (e :: tr) := by
  rcases he with rfl | rfl | rfl <;>
    exact h.frame _ (fun _ hm => hm) rfl (by simp [isGreetTo]) (by simp [isFinalOut]) (by simp [isDisposeOf]) (by simp [isDownTo])

theorem RDp.inp {sh : Shape} {k : Nat} {ph : Ph} {c : Ctx β} {tr : List (Ev α β)} (h : RDp k ph tr) (i : In α)
    (hl : legalIn sh ph c i = true) : RDp k (ph.onIn i) (.inp i :: tr) := by
  cases i with
  | subscribe k' =>
    have hk := legal_subscribe hl
    by_cases hkk : k = k'
    · subst hkk
      apply h.step (ph' := ph.onIn (.subscribe k)) _ (fun _ hm => hm) <;> simp [Ph.onIn, isGreetTo, isFinalOut, isDisposeOf, isDownTo, hk]
    · exact h.frame _ (fun _ hm => hm) (by simp [Ph.onIn, hkk]) (by simp [isGreetTo]) (by simp [isFinalOut])
        (by simp [isDisposeOf]) (by simp [isDownTo])
  | sinkUp k' u =>
    have hk := legal_sinkUp hl
    cases u with
    | pull =>
      exact h.frame _ (fun _ hm => hm) rfl (by simp [isGreetTo]) (by simp [isFinalOut]) (by simp [isDisposeOf]) (by simp [isDownTo])
    | term =>
      by_cases hkk : k = k'
      · subst hkk
        apply h.step (ph' := ph.onIn (.sinkUp k .term)) _ (fun _ hm => hm) <;> simp [Ph.onIn, isGreetTo, isFinalOut, isDisposeOf, isDownTo, hk]
      · have hkk' : ¬ k' = k := fun e => hkk e.symm
        exact h.frame _ (fun _ hm => hm) (by simp [Ph.onIn, hkk]) (by simp [isGreetTo]) (by simp [isFinalOut])
          (by simp [isDisposeOf, hkk']) (by simp [isDownTo])
    | err x =>
      by_cases hkk : k = k'
      · subst hkk
        apply h.step (ph' := ph.onIn (.sinkUp k (.err x))) _ (fun _ hm => hm) <;> simp [Ph.onIn, isGreetTo, isFinalOut, isDisposeOf, isDownTo, hk]
      · have hkk' : ¬ k' = k := fun e => hkk e.symm
        exact h.frame _ (fun _ hm => hm) (by simp [Ph.onIn, hkk]) (by simp [isGreetTo]) (by simp [isFinalOut])
          (by simp [isDisposeOf, hkk']) (by simp [isDownTo])
  | srcGreet j =>
    exact h.frame _ (fun _ hm => hm) rfl (by simp [isGreetTo]) (by simp [isFinalOut]) (by simp [isDisposeOf]) (by simp [isDownTo])
  | srcDown j d =>
    cases d <;>
      exact h.frame _ (fun _ hm => hm) rfl (by simp [isGreetTo]) (by simp [isFinalOut]) (by simp [isDisposeOf]) (by simp [isDownTo])

theorem sinkPh_onOut_other {ph : Ph} {k : Nat} (o : Out β) (h1 : isGreetTo (α := α) k (.out o) = false)
    (h4 : isDownTo (α := α) k (.out o) = false) : (ph.onOut o).sinkPh k = ph.sinkPh k := by
  rcases ph.onOut_sinkPh o k with h | ⟨rfl, -⟩ | ⟨-, -, d, rfl⟩
  · exact h
  · simp [isGreetTo] at h1
  · simp [isDownTo] at h4

/-- An output addressed to sink `k` is accepted, and the phase of `k` moves with the projections of the trace, or it is flagged,
and the violation recorded switches off the clauses the output breaks.  Any other output leaves the phase of `k` alone. -/
theorem RDp.out {k : Nat} {ph : Ph} {tr : List (Ev α β)} (h : RDp k ph tr) (o : Out β) :
    RDp k (ph.onOut o) (.out o :: tr) := by
  have keep : ∀ v ∈ ph.viols, v ∈ (ph.onOut o).viols := ph.viols_subset_onOut o
  by_cases hg : isGreetTo (α := α) k (.out o) = true
  · cases o with
    | greet k' =>
      have hkk : k' = k := by simpa [isGreetTo] using hg
      subst hkk
      rcases ph.onOut_eq (.greet k' : Out β) with ⟨ha, e⟩ | ⟨hna, e⟩ <;> rw [e] at keep ⊢
      · apply h.step _ keep <;> simp [Ph.after, isGreetTo, isFinalOut, isDisposeOf, isDownTo, show ph.sinkPh k' = _ from ha]
      · apply h.step _ keep <;>
          simp [Ph.violOf, isGreetTo, isFinalOut, isDisposeOf, isDownTo, show ¬ ph.sinkPh k' = _ from hna, C1_flag, C123_flag,
            Viol.prop]
    | _ => simp [isGreetTo] at hg
  · by_cases hd : isDownTo (α := α) k (.out o) = true
    · cases o with
      | down k' d =>
        have hkk : k' = k := by simpa [isDownTo] using hd
        subst hkk
        rcases ph.onOut_eq (.down k' d) with ⟨ha, e⟩ | ⟨hna, e⟩ <;> rw [e] at keep ⊢
        · cases d <;>
            (apply h.step _ keep <;>
              simp [Ph.after, isGreetTo, isFinalOut, isDisposeOf, isDownTo, isFinal, show ph.sinkPh k' = _ from ha])
        · have hna : ¬ ph.sinkPh k' = .live := hna
          cases hp : ph.sinkPh k' <;> first | exact absurd hp hna | skip
          all_goals
            apply h.step _ keep <;>
              simp [Ph.violOf, isGreetTo, isDisposeOf, isDownTo, hp, C1_flag, C3_flag, C123_flag, Viol.prop]
      | _ => simp [isDownTo] at hd
    · have hg' : isGreetTo (α := α) k (.out o) = false := by simpa using hg
      have hd' : isDownTo (α := α) k (.out o) = false := by simpa using hd
      refine h.frame _ keep (sinkPh_onOut_other (α := α) o hg' hd') hg' ?_ (by simp [isDisposeOf]) hd'
      cases o with
      | down k' d =>
        have hkk : ¬ k' = k := by simpa [isDownTo] using hd'
        cases d <;> simp [isFinalOut, hkk]
      | _ => simp [isFinalOut]

theorem RDp.opStep {M : Machine St Loc α β} {k : Nat} {a b : Sys St Loc α β} (ha : RDp k a.g.ph a.tr)
    (h : opStep M a = some b) : RDp k b.g.ph b.tr :=
  opStep_ph_tr (fun e he h => h.skip e he) (fun o h => h.out o) h ha

theorem RDp.of_reach {M : Machine St Loc α β} {R : Restr St Loc α β} {s : Sys St Loc α β} (hs : SReachR M R s) (k : Nat) :
    RDp k s.g.ph s.tr :=
  SReachR.ph_tr (fun e he h => h.skip e he) (fun o h => h.out o) (RDp.init k) (fun i hl _ h => h.inp i hl) hs

theorem getElem?_split {γ : Type} : ∀ {l : List γ} {p : Nat} {e : γ}, l[p]? = some e → ∃ a b, l = a ++ e :: b ∧ a.length = p
  | [], _, _, h => by simp at h
  | x :: l, 0, e, h => by
    simp only [List.getElem?_cons_zero, Option.some.injEq] at h
    exact ⟨[], l, by simp [h], rfl⟩
  | x :: l, p+1, e, h => by
    simp only [List.getElem?_cons_succ] at h
    obtain ⟨a, b, hab, hlen⟩ := getElem?_split h
    exact ⟨x :: a, b, by simp [hab], by simp [hlen]⟩

theorem chronAt_split {tr : List (Ev α β)} {p : Nat} {e : Ev α β} (h : chronAt tr p = some e) :
    ∃ l t, tr = l ++ e :: t ∧ t.length = p := by
  obtain ⟨a, b, hab, hlen⟩ := getElem?_split h
  refine ⟨b.reverse, a.reverse, ?_, by simpa using hlen⟩
  have := congrArg List.reverse hab
  simpa using this

theorem chronAt_append_lt (l : List (Ev α β)) {t : List (Ev α β)} {q : Nat} (h : q < t.length) :
    chronAt (l ++ t) q = chronAt t q := by
  unfold chronAt
  rw [List.reverse_append, List.getElem?_append_left (by simpa using h)]

theorem chronAt_cons_lt (e : Ev α β) {t : List (Ev α β)} {q : Nat} (h : q < t.length) :
    chronAt (e :: t) q = chronAt t q := chronAt_append_lt [e] h

theorem chronAt_lt {tr : List (Ev α β)} {p : Nat} {e : Ev α β} (h : chronAt tr p = some e) : p < tr.length := by
  unfold chronAt at h
  have := (List.getElem?_eq_some_iff.1 h).1
  simpa using this

theorem chronAt_mem {tr : List (Ev α β)} {p : Nat} {e : Ev α β} (h : chronAt tr p = some e) : e ∈ tr :=
  List.mem_reverse.1 (List.mem_of_getElem? h)

theorem chronAt_of_mem {tr : List (Ev α β)} {e : Ev α β} (h : e ∈ tr) : ∃ q, q < tr.length ∧ chronAt tr q = some e := by
  obtain ⟨q, hq, he⟩ := List.getElem_of_mem (List.mem_reverse.2 h)
  exact ⟨q, by simpa using hq, by unfold chronAt; rw [List.getElem?_eq_getElem hq, he]⟩

theorem two_le_countP {tr : List (Ev α β)} {f : Ev α β → Bool} {p q : Nat} {a b : Ev α β} (hpq : p < q)
    (hp : chronAt tr p = some a) (hq : chronAt tr q = some b) (ha : f a = true) (hb : f b = true) : 2 ≤ tr.countP f := by
  obtain ⟨l, t, rfl, hlen⟩ := chronAt_split hq
  rw [chronAt_append_lt l (t := b :: t) (by simp [hlen]; omega)] at hp
  rw [chronAt_cons_lt b (by omega)] at hp
  have h1 : 0 < t.countP f := List.countP_pos_iff.2 ⟨a, chronAt_mem hp, ha⟩
  rw [List.countP_append, List.countP_cons, if_pos hb]
  omega

/-- replay of a schedule: `none` = one operator micro-step, `some m` = environment move `m` -/
def replay (M : Machine St Loc α β) : Sys St Loc α β → List (Option (Move α)) → Option (Sys St Loc α β)
  | s, [] => some s
  | s, none :: r => match opStep M s with
    | some s' => replay M s' r
    | none => none
  | s, some m :: r => match envMove M s m with
    | some s' => replay M s' r
    | none => none

theorem reach_replay {M : Machine St Loc α β} : ∀ (sc : List (Option (Move α))) {a b : Sys St Loc α β},
    SReach M a → replay M a sc = some b → SReach M b
  | [], a, b, ha, h => by simp only [replay, Option.some.injEq] at h; exact h ▸ ha
  | none :: r, a, b, ha, h => by
    simp only [replay] at h
    cases ho : opStep M a with
    | none => simp [ho] at h
    | some a' => rw [ho] at h; exact reach_replay r (.step ha (.op ho)) h
  | some m :: r, a, b, ha, h => by
    simp only [replay] at h
    cases ho : envMove M a m with
    | none => simp [ho] at h
    | some a' => rw [ho] at h; exact reach_replay r (.step ha (.env ((envMove_iff M m a a').1 ho) trivial)) h

end Cb.Rd

namespace Cb
open Rd

variable {St Loc α β : Type}

variable {M : Machine St Loc α β} {R : Restr St Loc α β} {s : Sys St Loc α β}

/-- C01, readable: no prop-1 violation recorded ⇒ every sink is greeted at most once and before anything is delivered to it -/
theorem greetFirstOnce_of_clean (hs : SReachR M R s) (hv : ∀ v ∈ s.g.ph.viols, v.prop ≠ 1) (k : Nat) :
    GreetFirstOnce k s.tr := by
  have inv := RDp.of_reach hs k
  have hcount : s.tr.countP (isGreetTo k) ≤ 1 := by rw [inv.g1 hv]; split <;> simp
  have hsuf := inv.s1 hv
  refine ⟨fun p q hp hq => ?_, fun p d hp => ?_⟩
  · rcases Nat.lt_trichotomy p q with hlt | heq | hgt
    · have := two_le_countP (f := isGreetTo k) hlt hp hq (by simp [isGreetTo]) (by simp [isGreetTo]); omega
    · exact heq
    · have := two_le_countP (f := isGreetTo k) hgt hq hp (by simp [isGreetTo]) (by simp [isGreetTo]); omega
  · obtain ⟨l, t, htr, hlen⟩ := chronAt_split hp
    rw [htr] at hsuf
    have h1 : 0 < t.countP (isGreetTo k) := hsuf.at (by simp [isDownTo])
    obtain ⟨e, he, hg⟩ := List.countP_pos_iff.1 h1
    obtain ⟨q, hq, hqe⟩ := chronAt_of_mem he
    refine ⟨q, by omega, ?_⟩
    rw [htr, chronAt_append_lt l (t := _ :: t) (by simp; omega)]
    rw [chronAt_cons_lt _ hq, ← isGreetTo_eq hg]
    exact hqe

/-- C02, readable: no violation of props 1, 2, 3 recorded ⇒ nothing is delivered to a sink after its
terminal.  (With "no prop-2 violation" alone the statement is false: `terminalFinal_needs_C01`, `terminalFinal_needs_C03`.) -/
theorem terminalFinal_of_clean (hs : SReachR M R s) (hv : ∀ v ∈ s.g.ph.viols, v.prop ≠ 1 ∧ v.prop ≠ 2 ∧ v.prop ≠ 3) (k : Nat) :
    TerminalFinal k s.tr := by
  have hsuf := (RDp.of_reach hs k).s2 hv
  intro p d hp hfin q d' hpq hq
  obtain ⟨l, t, htr, hlen⟩ := chronAt_split hq
  rw [htr] at hsuf
  have hno := hsuf.at (by simp [isDownTo])
  rw [htr, chronAt_append_lt l (t := _ :: t) (by simp; omega)] at hp
  rw [chronAt_cons_lt _ (by omega)] at hp
  have := hno _ (chronAt_mem hp)
  cases d <;> simp [isFinalOut, isFinal] at this hfin

/-- C03, readable: no prop-3 violation recorded ⇒ no delivery to a sink begins after it disposed -/
theorem disposalRespected_of_clean (hs : SReachR M R s) (hv : ∀ v ∈ s.g.ph.viols, v.prop ≠ 3) (k : Nat) :
    DisposalRespected k s.tr := by
  have hsuf := (RDp.of_reach hs k).s3 hv
  intro p u hp hu q d hpq hq
  obtain ⟨l, t, htr, hlen⟩ := chronAt_split hq
  rw [htr] at hsuf
  have hno := hsuf.at (by simp [isDownTo])
  rw [htr, chronAt_append_lt l (t := _ :: t) (by simp; omega)] at hp
  rw [chronAt_cons_lt _ (by omega)] at hp
  have := hno _ (chronAt_mem hp)
  cases u <;> simp [isDisposeOf] at this hu

/-- all three at once, from the hypothesis the safety theorems of the operators provide (`BasicSafe`, `Safe`) -/
theorem readable_of_noViols (hs : SReachR M R s) (hv : s.g.ph.viols = []) (k : Nat) :
    GreetFirstOnce k s.tr ∧ TerminalFinal k s.tr ∧ DisposalRespected k s.tr := by
  refine ⟨greetFirstOnce_of_clean hs ?_ k, terminalFinal_of_clean hs ?_ k, disposalRespected_of_clean hs ?_ k⟩ <;>
    (rw [hv]; intro v hm; cases hm)

/-! ## `TerminalFinal` needs C01 and C03: machine-checked counterexamples to the statement with "no prop-2 violation" alone -/

/-- on `subscribe`: Terminate, then the greeting, then Data -/
def cexM1 : Machine Unit Nat Unit Unit where
  shape := {}
  init := ()
  enter := fun _ => 0
  step := fun _ l => match l with
    | 0 => .call (.down 0 .term) () 1
    | 1 => .call (.greet 0) () 2
    | 2 => .call (.down 0 (.data ())) () 3
    | _ => .ret

def cexSched1 : List (Option (Move Unit)) := [some (.call (.subscribe 0)), none, some .ret, none, some .ret, none]
def cexS1 : Sys Unit Nat Unit Unit := (replay cexM1 (Sys.init cexM1) cexSched1).getD (Sys.init cexM1)

/-- only prop-1 violations recorded, yet `Data` follows `Terminate` -/
theorem terminalFinal_needs_C01 :
    SReach cexM1 cexS1 ∧ (∀ v ∈ cexS1.g.ph.viols, v.prop ≠ 2 ∧ v.prop ≠ 3) ∧ ¬ TerminalFinal 0 cexS1.tr := by
  have htr : cexS1.tr = [.out (.down 0 (.data ())), .retE, .out (.greet 0), .retE, .out (.down 0 .term), .inp (.subscribe 0)] := rfl
  have hvi : cexS1.g.ph.viols = [.ungreeted 0] := rfl
  refine ⟨reach_replay cexSched1 .init (b := cexS1) rfl, ?_, fun h => ?_⟩
  · rw [hvi]; intro v hm; simp only [List.mem_singleton] at hm; subst hm; simp [Viol.prop]
  · rw [htr] at h
    exact h 1 .term rfl rfl 5 (.data ()) (by omega) rfl

/-- on `subscribe`: the greeting; on anything the sink sends: Terminate, then Data -/
def cexM3 : Machine Unit Nat Unit Unit where
  shape := {}
  init := ()
  enter := fun i => match i with
    | .subscribe _ => 0
    | _ => 10
  step := fun _ l => match l with
    | 0 => .call (.greet 0) () 1
    | 10 => .call (.down 0 .term) () 11
    | 11 => .call (.down 0 (.data ())) () 12
    | _ => .ret

def cexSched3 : List (Option (Move Unit)) :=
  [some (.call (.subscribe 0)), none, some (.call (.sinkUp 0 .term)), none, some .ret, none]
def cexS3 : Sys Unit Nat Unit Unit := (replay cexM3 (Sys.init cexM3) cexSched3).getD (Sys.init cexM3)

/-- only prop-3 violations recorded, yet `Data` follows `Terminate` -/
theorem terminalFinal_needs_C03 :
    SReach cexM3 cexS3 ∧ (∀ v ∈ cexS3.g.ph.viols, v.prop ≠ 1 ∧ v.prop ≠ 2) ∧ ¬ TerminalFinal 0 cexS3.tr := by
  have htr : cexS3.tr = [.out (.down 0 (.data ())), .retE, .out (.down 0 .term), .inp (.sinkUp 0 .term), .out (.greet 0),
      .inp (.subscribe 0)] := rfl
  have hvi : cexS3.g.ph.viols = [.afterDispose 0, .afterDispose 0] := rfl
  refine ⟨reach_replay cexSched3 .init (b := cexS3) rfl, ?_, fun h => ?_⟩
  · rw [hvi]; intro v hm; simp only [List.mem_cons, List.not_mem_nil, or_false, or_self] at hm; subst hm; simp [Viol.prop]
  · rw [htr] at h
    exact h 3 .term rfl rfl 5 (.data ()) (by omega) rfl

end Cb

#print axioms Cb.greetFirstOnce_of_clean
#print axioms Cb.terminalFinal_of_clean
#print axioms Cb.disposalRespected_of_clean
#print axioms Cb.readable_of_noViols
#print axioms Cb.terminalFinal_needs_C01
#print axioms Cb.terminalFinal_needs_C03
