import CallbagModel.Inv.ShareCS
/-!
# share under `noNestedFanout`: the step of the phase-level invariant, and FULL safety (both ghost layers)

A restricted environment is a special case of a wider one, and nothing about the handlers of `share` is analysed a second time.

* Phase layer.  `Inv/Share.lean` has the strict invariant (`Share.Inv`) and its macro steps (`Share.Macro`, `Macro.inv`).  It is
  no corollary of the wider development: `ph.viols = []` is false without the restriction (KF5a, KF5b).  Nor does the strict
  `Mode` imply the wider `CMode` (in `tfan` it says nothing of the talkback slot), so the two invariants are carried side by side
  (`Invs`).  A `noNestedFanout` move is a `legalIn` move: `ShareCS.macro_step` at `cs := False` names the macro step it starts,
  and `CMacro.toMacro` reads that step through the strict `Mode` (`macro_step`, by `Lands.map`).
* Second layer.  Every `noNestedFanout` history is a cross-sink history, and the second ghost layer records nothing on any of
  those (`ShareCS.share_safe_cs`).
-/
namespace Cb.Share
open Cb.ShareWeak Cb.ShareCS

variable {α : Type}

theorem Mode.stackOK {st : St} {g : Ph} {stk : List (Fr α)} (hm : Mode st g stk) (hc : Core st g) (hs : SOK g stk) :
    StackOK st.sinks stk := by
  rcases hm with ⟨_, h⟩ | ⟨k, _, _, _, hk, _⟩ | ⟨s, d, r, rest, rfl, hd, _⟩
  · exact h
  · exact absurd hk (hc.nosub k)
  · exact (sok_not_tfan hd hs).elim

/-- Where the wider step knows `Core` the mode is `core` and the stack is `StackOK` (`Mode.stackOK`); the sink that disposes is the one
being served, if any; a delivery of the upstream finds tail frames only. -/
theorem _root_.Cb.ShareCS.CMacro.toMacro {s : Cfg α} {m : Move α} {st : St} {r : Option (Out α × Loc α)}
    (hm : CMacro False s m st r) (hmode : Mode s.st s.g.ph s.stack) (hr : noNestedFanout s m) : Macro s m st r := by
  cases hm with
  | subFirst k h0 hc he => exact .subFirst k h0 hc he
  | subMore k h0 hc he hk => exact .subMore k h0 hc he hk
  | pull k hc hs hk => exact .pull k hc (hmode.stackOK hc hs) hk
  | disposeLast k u hu hc hs hk he hcx hctx =>
    exact .disposeLast k u hu hc ((hmode.stackOK hc hs).erase hcx (by simpa using hctx)) hk he
  | disposeSome k u hu hc hs he hcx hctx =>
    exact .disposeSome k u hu hc ((hmode.stackOK hc hs).erase hcx (by simpa using hctx)) he
  | greet k hstk w => exact .greet k hstk w
  | downData i a hc hs hsr => exact .downData i a hc ((hmode.stackOK hc hs).tails_of_closed hr) hsr
  | downEnd i d hd hc hs hi hsr => exact .downEnd i d hd hc ((hmode.stackOK hc hs).tails_of_closed hr) hi hsr
  | ret o hstk hc hs =>
    rw [hstk] at hmode
    rcases (hmode.stackOK hc (hs.cons_done o)).top with ⟨_, h⟩ | ⟨_, _, _, _, h, _⟩
    · exact .ret o hstk hc h
    · cases h
  | retDataNil s0 a hstk hc hs =>
    rw [hstk] at hmode
    rcases (hmode.stackOK hc (hs.cons_fan s0 a [] (fun _ h => nomatch h))).top with ⟨h, _⟩ | ⟨_, _, _, _, _, ht, _⟩
    · cases h
    · exact .retDataNil s0 a hstk hc ht
  | retDataCons s0 a s1 r1 hstk hc hs hg =>
    rw [hstk] at hmode
    rcases (hmode.stackOK hc (hs.cons_fan s0 a (s1 :: r1) hg)).top with ⟨h, _⟩ | ⟨_, _, _, ho, hl, ht, hnd, hsub⟩
    · cases h
    · cases ho; cases hl
      exact .retDataCons s0 a s1 r1 hstk hc ht (List.nodup_cons.1 hnd).2 hsub
  | retEndNil s0 d hstk hd hs ht =>
    rw [hstk] at hmode
    obtain ⟨h1, _, h3, h4, h5⟩ := hmode.tfan_inv hd
    exact .retEndNil s0 d hstk hd h1 (fun k h => nomatch (h3 k).1 h) h4 h5
  | retEndCons s0 d s1 r1 hstk hd hs ht =>
    rw [hstk] at hmode
    obtain ⟨h1, h2, h3, h4, h5⟩ := hmode.tfan_inv hd
    exact .retEndCons s0 d s1 r1 hstk hd h1 h2 h3 h4 h5
  | strayPull k j _ hcs => exact hcs.elim
  | strayDispose k u hu _ hcs => exact hcs.elim
  | retStray j s0 d r hstk hd hs ht =>
    exfalso
    rw [hstk] at hmode
    rcases hmode with ⟨_, h⟩ | ⟨k, h, _⟩ | ⟨s', d', r', rest', h, _⟩
    · rcases h.top with ⟨_, h⟩ | ⟨_, _, _, h, _⟩
      · exact stackOK_not_fan hd h
      · cases h
    · cases h
    · cases h

def Invs (s : Cfg α) : Prop := Inv s ∧ CInv False s

theorem macro_step {s s' : Cfg α} {m : Move α} (h : Invs s) (hs : EnvStep (machine α) m s s') (hr : noNestedFanout s m) :
    Lands (machine α) Macro Invs (fun _ => True) s s' m :=
  (ShareCS.macro_step h.2 hs.toCS (Or.inr hs)).map fun _ _ hm hc =>
    have hm' := hm.toMacro h.1.2.2.2 hr
    ⟨hm', hm'.inv h.1, hc⟩

theorem invs_step (s s' : Cfg α) (m : Move α) (h : Invs s) (hs : EnvStep (machine α) m s s') (hr : noNestedFanout s m) :
    ∃ n, Invs (advance (machine α) n s') :=
  (macro_step h hs hr).inv

/-- share, any number of sinks: under every conformant environment in which no upstream delivers while one of the
operator's own deliveries to a sink is in progress, the operator never violates the sink- or source-side protocol
(C01, C02, C03, protocol part of C04) and never panics (C17). -/
theorem share_basicSafe_partial {α : Type} : ∀ s, SReachR (machine α) noNestedFanout s → BasicSafe s :=
  reach_of_macro_inv (machine α) noNestedFanout BasicSafe Invs ⟨inv_init, ShareCS.inv_init⟩ (fun s h => inv_turn s h.1) invs_step
    (basicSafe_mono (machine α))

end Cb.Share

namespace Cb.ShareFull
open Cb.Share

variable {α : Type}

/-- share, any number of sinks: under every conformant environment in which no upstream delivers while one of the
operator's own deliveries to a sink is in progress, the operator never violates any clause of C01–C05 (both ghost
layers: phases, no orphaned upstream, an upstream `Error(e)` reaches every live sink exactly once, unchanged, before
its handler returns) and never panics (C17). -/
theorem share_safe_partial {α : Type} : ∀ s, SReachR (machine α) noNestedFanout s → Safe s := fun s hs =>
  have hb := share_basicSafe_partial s hs
  ⟨by rw [G.viols, hb.1, (ShareCS.share_safe_cs s (CSReachR.of_sreachR hs).weaken).2.1]; rfl, hb.2⟩

/-! `X`: the second layer in terms of the strict modes of `Inv/Share.lean`.  Where nothing is pending, `Mode` gives `XOk`
(`xok_of_mode`): in `core` no sink open means `sinks = []` means no upstream live; in `waiting` a sink is `subscribed`.  While the
frame of an `Error(e)` fan-out is on top of the stack `XOk`'s pending clause is false. -/

def X (stk : List (Fr α)) (g : G) : Prop :=
  g.xviols = [] ∧
  (g.pend = none ∨ ∃ s e r rest ks, stk = .wait (.down s (.err e)) (.fLoop r (.err e)) :: rest ∧
     g.pend = some (e, rest.length, ks) ∧ ks ≠ [] ∧
     ∀ k ∈ ks, (g.ph.sinkPh k = .doneBySrc ∧ g.finOf k = some (Fin.err e)) ∨ k ∈ r)

theorem X.pend_none {stk : List (Fr α)} {g : G} (h : X stk g)
    (hs : ∀ s e r rest, stk ≠ .wait (.down s (.err e)) (.fLoop r (.err e)) :: rest) : g.pend = none := by
  rcases h.2 with h | ⟨s, e, r, rest, ks, h, _⟩
  · exact h
  · exact absurd h (hs s e r rest)

theorem noOrphan_of_mode {st : St} {ph : Ph} {stk : List (Fr α)} (hm : Mode st ph stk) : NoOrphan ph := by
  rcases hm with ⟨hcore, _⟩ | ⟨k, _, _, _, hk, _⟩ | ⟨s, d, r, rest, _, _, _, _, _, _, hsrcs⟩
  · exact ShareCS.noOrphan_of_core hcore
  · exact noOrphan_of_open k (Or.inl hk)
  · exact noOrphan_of_noLive (fun i => (hsrcs i).1)

/-- in the `core` and `waiting` modes the common second-layer invariant `XOk` holds (in `tfan` it does not) -/
theorem xok_of_mode {st : St} {stk : List (Fr α)} {g : G} (hm : Mode st g.ph stk) (hX : X stk g)
    (hn : ∀ s d r rest, isEndD d = true → stk ≠ .wait (.down s d) (.fLoop r d) :: rest) : XOk g :=
  Quiet.xok ⟨hX.1, hX.pend_none fun s e r rest => hn s (.err e) r rest rfl⟩ (noOrphan_of_mode hm)

end Cb.ShareFull

#print axioms Cb.Share.share_basicSafe_partial
#print axioms Cb.ShareFull.share_safe_partial
