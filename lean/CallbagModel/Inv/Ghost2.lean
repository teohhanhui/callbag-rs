import CallbagModel.Inv.Ghost
/-!
# Lemmas about the second ghost layer (error relay and orphans of C04; C05)

`XOk g` is the part of a full-safety invariant that is the same for every operator: no second-layer violation has been
recorded, and the two checks made when a handler returns (`checkPend`, `checkOrphans`) would pass.  It is preserved by
`onRetO` unconditionally (`XOk.onRetO`), so proofs only have to re-establish it after `onIn` / `onOut`.
For an operator with one sink and one upstream (`Single`) that relays what it receives (`PassTo`) the whole second layer is `XOkRelay`,
carried by the two relay laws `XOk.relayUp` / `relayDown`.  Where `XOk` fails for a moment there are two states, the same for every
operator: `Quiet` (nothing flagged, nothing pending) and `PendErr` (an upstream `Error` still owed to the sink).
-/
namespace Cb

def NoOrphan (g : Ph) : Prop := g.anySinkOpen = false → ∀ i, g.srcPh i ≠ .live

structure XOk (g : G) : Prop where
  clean : g.xviols = []
  pend : ∀ e h ks, g.pend = some (e, h, ks) →
    ks ≠ [] ∧ (∀ k ∈ ks, g.ph.sinkPh k = .doneBySrc ∧ g.finOf k = some (Fin.err e)) ∧ ∀ i, g.ph.srcPh i ≠ .live
  orphan : NoOrphan g.ph

theorem liveSrcs_eq_nil {g : Ph} (h : ∀ i, g.srcPh i ≠ .live) : liveSrcs g = [] := by
  apply List.eq_nil_iff_forall_not_mem.2
  intro i hi
  exact h i ((mem_liveSrcs g i).1 hi)

@[simp] theorem flagAll_nil (g : G) : g.flagAll [] = g := rfl

theorem filter_self_or_none {α} (p : α → Bool) (o : Option α) : o.filter p = o ∨ o.filter p = none := by
  cases o with
  | none => exact .inl rfl
  | some a => rw [Option.filter_some]; split <;> simp

theorem onRetO_fields (g : G) (n : Nat) :
    (g.onRetO n).ph = g.ph ∧ (g.onRetO n).fin = g.fin ∧ ((g.onRetO n).pend = g.pend ∨ (g.onRetO n).pend = none) ∧
    ((g.onRetO n).sinkErr = g.sinkErr ∨ (g.onRetO n).sinkErr = none) := by
  obtain ⟨l, e, -⟩ := onRetO_eq g n
  rw [e]
  exact ⟨rfl, rfl, filter_self_or_none _ _, filter_self_or_none _ _⟩

theorem onRetO_xviols (g : G) (n : Nat)
    (hp : ∀ e h ks, g.pend = some (e, h, ks) → h = n →
      (∀ k ∈ ks, g.finOf k = some (Fin.err e) ∨ g.ph.sinkPh k = .doneBySelf) ∧ liveSrcs g.ph = [])
    (ho : n = 0 → g.ph.anySinkOpen = false → liveSrcs g.ph = []) : (g.onRetO n).xviols = g.xviols := by
  obtain ⟨l, e, hl⟩ := onRetO_eq g n
  cases l with
  | nil => rw [e]; rfl
  | cons v l =>
    exfalso
    obtain ⟨h0, hc, i, hi, -⟩ | ⟨e', ks, hq, ⟨k, hk, -, hf, hs⟩ | ⟨i, hi, -⟩⟩ := hl v List.mem_cons_self
    · rw [ho h0 hc] at hi; cases hi
    · exact ((hp e' n ks hq rfl).1 k hk).elim hf hs
    · rw [(hp e' n ks hq rfl).2] at hi; cases hi

theorem XOk.onRetO {g : G} (hx : XOk g) (h : Nat) : XOk (g.onRetO h) := by
  obtain ⟨hph, hfin, hpd, -⟩ := onRetO_fields g h
  refine ⟨(onRetO_xviols g h (fun e _ ks hp _ => ?_) fun _ hc => liveSrcs_eq_nil (hx.orphan hc)).trans hx.clean,
    fun e h' ks hp => ?_, hph ▸ hx.orphan⟩
  · exact ⟨fun k hk => .inl ((hx.pend e _ ks hp).2.1 k hk).2, liveSrcs_eq_nil (hx.pend e _ ks hp).2.2⟩
  · rcases hpd with hpd | hpd <;> rw [hpd] at hp
    · unfold G.finOf; rw [hph, hfin]; exact hx.pend e h' ks hp
    · cases hp

theorem onRetO_sinkErr_none {g : G} (hs : g.sinkErr = none) (h : Nat) : (g.onRetO h).sinkErr = none :=
  (onRetO_fields g h).2.2.2.elim (·.trans hs) id

theorem onRetO_fin {g : G} (hx : XOk g) (h : Nat) : (g.onRetO h).fin = g.fin := (onRetO_fields g h).2.1

theorem onIn_ext_plain {α} (g : G) (h : Nat) (i : In α)
    (h1 : ∀ k e, i ≠ .sinkUp k (.err e)) (h2 : ∀ j e, i ≠ .srcDown j (.err e)) :
    g.onIn h i = { g with ph := g.ph.onIn i } := by
  rw [onIn_eq, g.sinkErrAfter_eq h h1, g.pendAfter_eq h h2]

@[simp] theorem onIn_subscribe {α} (g : G) (h k : Nat) : g.onIn h (.subscribe k : In α) = { g with ph := g.ph.onIn (.subscribe k : In α) } := rfl
@[simp] theorem onIn_srcGreet {α} (g : G) (h i : Nat) : g.onIn h (.srcGreet i : In α) = { g with ph := g.ph.onIn (.srcGreet i : In α) } := rfl
@[simp] theorem onIn_pull {α} (g : G) (h k : Nat) : g.onIn h (.sinkUp k .pull : In α) = { g with ph := g.ph.onIn (.sinkUp k .pull : In α) } := rfl
@[simp] theorem onIn_sinkTerm {α} (g : G) (h k : Nat) : g.onIn h (.sinkUp k .term : In α) = { g with ph := g.ph.onIn (.sinkUp k .term : In α) } := rfl
@[simp] theorem onIn_sinkErr {α} (g : G) (h k e : Nat) :
    g.onIn h (.sinkUp k (.err e) : In α) = { g with ph := g.ph.onIn (.sinkUp k (.err e) : In α), sinkErr := some (e, h) } := rfl
@[simp] theorem onIn_data {α} (g : G) (h i : Nat) (a : α) : g.onIn h (.srcDown i (.data a)) = { g with ph := g.ph.onIn (.srcDown i (.data a)) } := rfl
@[simp] theorem onIn_srcTerm {α} (g : G) (h i : Nat) : g.onIn h (.srcDown i .term : In α) = { g with ph := g.ph.onIn (.srcDown i .term : In α) } := rfl
theorem onIn_srcErr {α} (g : G) (h i e : Nat) :
    g.onIn h (.srcDown i (.err e) : In α) =
      if (livesOf g.ph).isEmpty || g.pend.isSome then { g with ph := g.ph.onIn (.srcDown i (.err e) : In α) }
      else { g with ph := g.ph.onIn (.srcDown i (.err e) : In α), pend := some (e, h, livesOf g.ph) } := rfl

theorem livesOf_ne_nil {g : Ph} (k : Nat) (h : g.sinkPh k = .live) : livesOf g ≠ [] := by
  intro hn
  have := (mem_livesOf g k).2 h
  rw [hn] at this; cases this

theorem livesOf_eq_nil {g : Ph} (h : ∀ k, g.sinkPh k ≠ .live) : livesOf g = [] :=
  List.eq_nil_iff_forall_not_mem.2 (fun k hk => h k ((mem_livesOf g k).1 hk))

theorem onIn_srcDown_noLive {α} (g : G) (h i : Nat) (d : Down α) (hl : ∀ k, g.ph.sinkPh k ≠ .live) :
    g.onIn h (.srcDown i d) = { g with ph := g.ph.onIn (.srcDown i d) } := by
  cases d with
  | err e => rw [onIn_srcErr, livesOf_eq_nil hl]; rfl
  | _ => rfl

@[simp] theorem onOut_greet {β} (sh : Shape) (g : G) (k : Nat) : g.onOut sh (.greet k : Out β) = { g with ph := g.ph.onOut (.greet k : Out β) } := rfl
@[simp] theorem onOut_subSrc {β} (sh : Shape) (g : G) (i : Nat) : g.onOut sh (.subSrc i : Out β) = { g with ph := g.ph.onOut (.subSrc i : Out β) } := rfl
@[simp] theorem onOut_pull {β} (sh : Shape) (g : G) (i : Nat) : g.onOut sh (.srcUp i .pull : Out β) = { g with ph := g.ph.onOut (.srcUp i .pull : Out β) } := rfl
@[simp] theorem onOut_app {β} (sh : Shape) (g : G) (b : β) : g.onOut sh (.app b) = { g with ph := g.ph.onOut (.app b) } := rfl

theorem onOut_of_relayed {β} (sh : Shape) (g : G) (o : Out β)
    (h : ∀ i u e n, o = .srcUp i u → g.ph.srcPh i = .live → sh.relayErr = true → g.sinkErr = some (e, n) → u = .pull ∨ u = .err e) :
    g.onOut sh o = { g with ph := g.ph.onOut o, fin := g.finAfter o } := by
  obtain ⟨l, e, rfl | ⟨i, u, e', n, ho, -, hl, hr, hs, hp, hne⟩⟩ := onOut_eq sh g o
  · exact e
  · exact ((h i u e' n ho hl hr hs).elim hp hne).elim

@[simp] theorem onOut_data {β} (sh : Shape) (g : G) (k : Nat) (b : β) :
    g.onOut sh (.down k (.data b)) = { g with ph := g.ph.onOut (.down k (.data b)) } := by
  rw [onOut_of_relayed sh g (.down k (.data b)) fun _ _ _ _ ho => nomatch ho]; simp [G.finAfter, isFinal]
theorem onOut_final {β} (sh : Shape) (g : G) (k : Nat) (d : Down β) (f : Fin) (hf : finOfDown d = some f) :
    g.onOut sh (.down k d) = if g.ph.sinkPh k = .live then { g with ph := g.ph.onOut (.down k d), fin := setAt g.fin k (some f) }
      else { g with ph := g.ph.onOut (.down k d) } := by
  have hd : isFinal d = true := by cases d <;> first | rfl | cases hf
  rw [onOut_of_relayed sh g (.down k d) fun _ _ _ _ ho => nomatch ho]; simp only [G.finAfter, hd, and_true, hf]; split <;> rfl
theorem onOut_final_live {β} (sh : Shape) (g : G) (k : Nat) (d : Down β) (f : Fin) (hf : finOfDown d = some f) (hl : g.ph.sinkPh k = .live) :
    g.onOut sh (.down k d) = { g with ph := g.ph.onOut (.down k d), fin := setAt g.fin k (some f) } :=
  (onOut_final sh g k d f hf).trans (if_pos hl)
theorem onOut_term_quiet {β} (sh : Shape) (g : G) (i : Nat) (h : g.sinkErr = none ∨ sh.relayErr = false ∨ g.ph.srcPh i ≠ .live) :
    g.onOut sh (.srcUp i .term : Out β) = { g with ph := g.ph.onOut (.srcUp i .term : Out β) } :=
  onOut_of_relayed sh g _ fun _ _ _ _ ho hl hr hs => by
    cases ho
    rcases h with h | h | h
    · cases h.symm.trans hs
    · cases h.symm.trans hr
    · exact absurd hl h
theorem onOut_err_relayed {β} (sh : Shape) (g : G) (i e h : Nat) (hs : g.sinkErr = some (e, h)) :
    g.onOut sh (.srcUp i (.err e) : Out β) = { g with ph := g.ph.onOut (.srcUp i (.err e) : Out β) } :=
  onOut_of_relayed sh g _ fun _ _ _ _ ho _ _ hs' => by
    cases ho; cases hs.symm.trans hs'; exact .inr rfl

@[simp] theorem finOf_setAt (g : G) (k k' : Nat) (f : Option Fin) :
    ({ g with fin := setAt g.fin k f } : G).finOf k' = if k' = k then f else g.finOf k' := by
  simp [G.finOf, phAt_setAt]

@[simp] theorem onOut_downTerm {β} (sh : Shape) (g : G) (k : Nat) :
    g.onOut sh (.down k .term : Out β) = if g.ph.sinkPh k = .live then { g with ph := g.ph.onOut (.down k .term : Out β), fin := setAt g.fin k (some .term) }
      else { g with ph := g.ph.onOut (.down k .term : Out β) } := onOut_final sh g k .term .term rfl

@[simp] theorem onOut_downErr {β} (sh : Shape) (g : G) (k e : Nat) :
    g.onOut sh (.down k (.err e) : Out β) = if g.ph.sinkPh k = .live then { g with ph := g.ph.onOut (.down k (.err e) : Out β), fin := setAt g.fin k (some (.err e)) }
      else { g with ph := g.ph.onOut (.down k (.err e) : Out β) } := onOut_final sh g k (.err e) (.err e) rfl

section Fields
variable {β : Type}

theorem onOut_sinkErr_pend (sh : Shape) (g : G) (o : Out β) :
    (g.onOut sh o).sinkErr = g.sinkErr ∧ (g.onOut sh o).pend = g.pend := by
  obtain ⟨_, h, _⟩ := onOut_eq sh g o
  rw [h]; exact ⟨rfl, rfl⟩

theorem onOut_xviols (sh : Shape) (g : G) (o : Out β)
    (h1 : ∀ i, o = .srcUp i .term → g.ph.srcPh i = .live → g.sinkErr = none)
    (h2 : ∀ i e', o = .srcUp i (.err e') → g.ph.srcPh i = .live → ∀ e h, g.sinkErr = some (e, h) → e = e') :
    (g.onOut sh o).xviols = g.xviols := by
  rw [onOut_of_relayed sh g o fun i u e n ho hl _ hs => ?_]
  subst ho
  cases u with
  | pull => exact .inl rfl
  | term => cases (h1 i rfl hl).symm.trans hs
  | err e' => exact .inr (congrArg Up.err (h2 i e' rfl hl e n hs).symm)

theorem onOut_noRelay (sh : Shape) (hr : sh.relayErr = false) (g : G) (o : Out β) :
    (g.onOut sh o).xviols = g.xviols ∧ (g.onOut sh o).pend = g.pend := by
  rw [onOut_of_relayed sh g o fun _ _ _ _ _ _ hr' _ => nomatch hr.symm.trans hr']
  exact ⟨rfl, rfl⟩

theorem onOut_finOf_same (sh : Shape) (g : G) (o : Out β) (k : Nat) (h : ∀ d, o = .down k d → g.ph.sinkPh k ≠ .live) :
    (g.onOut sh o).finOf k = g.finOf k := by
  obtain ⟨l, e, -⟩ := onOut_eq sh g o
  rw [e]
  cases o with
  | down j d =>
    simp only [G.finOf, G.finAfter]
    split
    · rename_i hc
      rw [phAt_setAt, if_neg (by rintro rfl; exact h d rfl hc.1)]
    · rfl
  | _ => rfl

theorem onOut_finOf_err (sh : Shape) (g : G) (k e : Nat) (h : g.ph.sinkPh k = .live) :
    (g.onOut sh (.down k (.err e) : Out β)).finOf k = some (Fin.err e) := by
  rw [onOut_downErr]; simp [h, G.finOf, phAt_setAt]

theorem onIn_fields {α : Type} (g : G) (n : Nat) (i : In α) :
    (g.onIn n i).xviols = g.xviols ∧ (g.onIn n i).fin = g.fin ∧
    ((∀ k e, i ≠ .sinkUp k (.err e)) → (g.onIn n i).sinkErr = g.sinkErr) ∧
    ((∀ j e, i ≠ .srcDown j (.err e)) → (g.onIn n i).pend = g.pend) := by
  rw [onIn_eq]
  exact ⟨rfl, rfl, g.sinkErrAfter_eq n, g.pendAfter_eq n⟩

end Fields

theorem noOrphan_of_open {g : Ph} (k : Nat) (h : g.sinkPh k = .subscribed ∨ g.sinkPh k = .live) : NoOrphan g := by
  intro hc
  have := (Ph.anySinkOpen_iff g).2 ⟨k, h⟩
  rw [hc] at this; cases this

theorem noOrphan_of_noLive {g : Ph} (h : ∀ i, g.srcPh i ≠ .live) : NoOrphan g := fun _ => h

theorem XOk.pend_none_of_live {g : G} (hx : XOk g) (i : Nat) (h : g.ph.srcPh i = .live) : g.pend = none := by
  cases hp : g.pend with
  | none => rfl
  | some p =>
    obtain ⟨e, h', ks⟩ := p
    exact absurd h ((hx.pend e h' ks hp).2.2 i)

theorem XOk.pend_none_of_noDone {g : G} (hx : XOk g) (h : ∀ k, g.ph.sinkPh k ≠ .doneBySrc) : g.pend = none := by
  cases hp : g.pend with
  | none => rfl
  | some p =>
    obtain ⟨e, h', ks⟩ := p
    obtain ⟨hne, hk, _⟩ := hx.pend e h' ks hp
    cases ks with
    | nil => exact absurd rfl hne
    | cons k r => exact absurd (hk k (List.mem_cons_self)).1 (h k)

theorem XOk.of_fields {g g' : G} (hx : XOk g) (hfin : g'.fin = g.fin) (hpend : g'.pend = g.pend ∨ g'.pend = none)
    (hxv : g'.xviols = g.xviols)
    (hl : g.pend = none ∨ ((∀ i, g'.ph.srcPh i ≠ .live) ∧ ∀ k, g.ph.sinkPh k = .doneBySrc → g'.ph.sinkPh k = .doneBySrc))
    (ho : NoOrphan g'.ph) : XOk g' := by
  refine ⟨by rw [hxv]; exact hx.clean, ?_, ho⟩
  intro e h ks hp
  rcases hpend with hpend | hpend
  · rw [hpend] at hp
    rcases hl with hl | ⟨hl, hd⟩
    · rw [hl] at hp; cases hp
    · obtain ⟨h1, h2, _⟩ := hx.pend e h ks hp
      refine ⟨h1, ?_, hl⟩
      intro k hk; unfold G.finOf; rw [hfin]; exact ⟨hd k (h2 k hk).1, (h2 k hk).2⟩
  · rw [hpend] at hp; cases hp

theorem XOk.of_ph {g : G} (hx : XOk g) {ph : Ph} (hpn : g.pend = none) (ho : NoOrphan ph) : XOk { g with ph := ph } :=
  hx.of_fields rfl (Or.inl rfl) rfl (Or.inl hpn) ho

structure Single (g : Ph) : Prop where
  viols : g.viols = []
  srcs : ∀ i, i ≠ 0 → g.srcPh i = .idle
  sinks : ∀ k, k ≠ 0 → g.sinkPh k = .idle

theorem othersIdle_setSink {g : Ph} (h : ∀ k, k ≠ 0 → g.sinkPh k = .idle) (p : SinkPh) :
    ∀ k, k ≠ 0 → (g.setSink 0 p).sinkPh k = .idle := fun k hk => by
  rw [Ph.sinkPh_setSink, if_neg hk]; exact h k hk

theorem othersIdle_setSrc {g : Ph} (h : ∀ i, i ≠ 0 → g.srcPh i = .idle) (p : SrcPh) :
    ∀ i, i ≠ 0 → (g.setSrc 0 p).srcPh i = .idle := fun i hi => by
  rw [Ph.srcPh_setSrc, if_neg hi]; exact h i hi

namespace Single

theorem setSink {g : Ph} (h : Single g) (p : SinkPh) : Single (g.setSink 0 p) :=
  ⟨h.viols, h.srcs, othersIdle_setSink h.sinks p⟩

theorem setSrc {g : Ph} (h : Single g) (p : SrcPh) : Single (g.setSrc 0 p) :=
  ⟨h.viols, othersIdle_setSrc h.srcs p, h.sinks⟩

end Single

theorem sink_eq_zero {g : Ph} (h : ∀ k, k ≠ 0 → g.sinkPh k = .idle) {k : Nat} (hk : g.sinkPh k ≠ .idle) : k = 0 :=
  Decidable.by_contra fun hne => hk (h k hne)

theorem src_eq_zero {g : Ph} (h : ∀ i, i ≠ 0 → g.srcPh i = .idle) {i : Nat} (hi : g.srcPh i ≠ .idle) : i = 0 :=
  Decidable.by_contra fun hne => hi (h i hne)

theorem sink_zero_of_live {g : Ph} {k : Nat} (hoth : ∀ k, k ≠ 0 → g.sinkPh k = .idle) (hl : g.sinkPh k = .live) : k = 0 :=
  sink_eq_zero hoth (by rw [hl]; decide)

theorem src_lt_of_ne_idle {g : Ph} {n : Nat} (h : ∀ j, n ≤ j → g.srcPh j = .idle) {i : Nat} (hi : g.srcPh i ≠ .idle) : i < n :=
  Nat.lt_of_not_le fun hle => hi (h i hle)

theorem aboveIdle_setSrc {g : Ph} {n i : Nat} (h : ∀ j, n ≤ j → g.srcPh j = .idle) (hi : i < n) (p : SrcPh) :
    ∀ j, n ≤ j → (g.setSrc i p).srcPh j = .idle := fun j hj => by
  rw [Ph.srcPh_setSrc, if_neg (by omega)]; exact h j hj

theorem noLive_of {g : Ph} (hoth : ∀ i, i ≠ 0 → g.srcPh i = .idle) (h0 : g.srcPh 0 ≠ .live) : ∀ i, g.srcPh i ≠ .live := by
  intro i; by_cases hi : i = 0
  · subst hi; exact h0
  · rw [hoth i hi]; decide

theorem noDone_of {g : Ph} (hoths : ∀ k, k ≠ 0 → g.sinkPh k = .idle) (h0 : g.sinkPh 0 ≠ .doneBySrc) :
    ∀ k, g.sinkPh k ≠ .doneBySrc := by
  intro k; by_cases hk : k = 0
  · subst hk; exact h0
  · rw [hoths k hk]; decide

theorem Single.noOrphan {g : Ph} (h : Single g) (ho : g.sinkPh 0 = .subscribed ∨ g.sinkPh 0 = .live ∨ g.srcPh 0 ≠ .live) :
    NoOrphan g :=
  ho.elim (fun h1 => noOrphan_of_open 0 (.inl h1)) fun ho =>
    ho.elim (fun h1 => noOrphan_of_open 0 (.inr h1)) fun h2 => noOrphan_of_noLive (noLive_of h.srcs h2)

theorem XOk.init : XOk ({} : G) :=
  ⟨rfl, fun _ _ _ hp => (nomatch hp), noOrphan_of_noLive fun i => by rw [show ({} : G).ph = {} from rfl, Ph.srcPh_empty]; decide⟩

/-! What operators carry of the second layer where `XOk` is too much.  `Quiet` is `XOk` without `NoOrphan` (`Quiet.xok`): `NoOrphan`
fails while an operator whose last sink has gone disposes of its upstreams one call at a time, and is read off the phase invariant
where it holds.  `PendErr`: an upstream `Error e` has arrived and the operator disposes of its other upstreams before it hands the
error on, so the check that `onIn` recorded cannot pass yet; the call that delivers the error makes it pass (`PendErr.deliver`). -/

def Quiet (g : G) : Prop := g.xviols = [] ∧ g.pend = none

/-- an upstream `Error e` is on record and has still to reach sink 0, the only sink that was live -/
def PendErr (g : G) (e : Nat) : Prop := g.xviols = [] ∧ ∃ h ks, g.pend = some (e, h, ks) ∧ ks ≠ [] ∧ ∀ k ∈ ks, k = 0

section Quiet
variable {α β : Type} {g : G}

theorem Quiet.xok (hq : Quiet g) (ho : NoOrphan g.ph) : XOk g :=
  ⟨hq.1, fun _ _ _ hp => (nomatch hq.2.symm.trans hp), ho⟩

theorem XOk.quiet_of_noDone (hx : XOk g) (h : ∀ k, g.ph.sinkPh k ≠ .doneBySrc) : Quiet g :=
  ⟨hx.clean, hx.pend_none_of_noDone h⟩

/-- the side condition is a mismatch of constructors wherever the call is known -/
theorem Quiet.onIn (hq : Quiet g) (n : Nat) {i : In α} (hi : ∀ j e, i ≠ .srcDown j (.err e) := by intro _ _ h; cases h) :
    Quiet (g.onIn n i) :=
  ⟨(onIn_xviols g n i).trans hq.1, ((onIn_fields g n i).2.2.2 hi).trans hq.2⟩

theorem Quiet.onOut (hq : Quiet g) (sh : Shape) (o : Out β)
    (h : ∀ i u e n, o = .srcUp i u → g.ph.srcPh i = .live → sh.relayErr = true → g.sinkErr = some (e, n) → u = .pull ∨ u = .err e) :
    Quiet (g.onOut sh o) := by
  rw [onOut_of_relayed sh g o h]; exact hq

theorem Quiet.onOut_down (hq : Quiet g) (sh : Shape) (k : Nat) (d : Down β) : Quiet (g.onOut sh (.down k d)) :=
  hq.onOut sh _ fun _ _ _ _ ho => nomatch ho

theorem Quiet.onOut_noRelay (hq : Quiet g) {sh : Shape} (hr : sh.relayErr = false) (o : Out β) : Quiet (g.onOut sh o) :=
  hq.onOut sh o fun _ _ _ _ _ _ hr' _ => nomatch hr.symm.trans hr'

theorem Quiet.onRetO (hq : Quiet g) (ho : NoOrphan g.ph) (n : Nat) : Quiet (g.onRetO n) :=
  ⟨((hq.xok ho).onRetO n).clean, (onRetO_fields g n).2.2.1.elim (·.trans hq.2) id⟩

/-- C05, arrival: an upstream `Error e` that finds sink 0 live, and no other, becomes the pending check for sink 0 -/
theorem Quiet.srcErr (hq : Quiet g) (h0 : g.ph.sinkPh 0 = .live) (honly : ∀ k, g.ph.sinkPh k = .live → k = 0) (n j e : Nat) :
    PendErr (g.onIn n (.srcDown j (.err e) : In α)) e := by
  have hne := livesOf_ne_nil 0 h0
  refine ⟨(onIn_xviols ..).trans hq.1, n, livesOf g.ph, ?_, hne, fun k hk => honly k ((mem_livesOf g.ph k).1 hk)⟩
  rw [onIn_srcErr, hq.2, if_neg (by simpa using hne)]

theorem PendErr.congr {g' : G} {e : Nat} (h : PendErr g e) (hx : g'.xviols = g.xviols) (hp : g'.pend = g.pend) : PendErr g' e :=
  ⟨hx.trans h.1, hp ▸ h.2⟩

/-- C05, delivery: handing `Error e` to sink 0 when no upstream is left live makes the pending check pass -/
theorem PendErr.deliver {e : Nat} (ht : PendErr g e) (sh : Shape) (h0 : g.ph.sinkPh 0 = .live)
    (hnl : ∀ i, (g.ph.onOut (.down 0 (.err e) : Out β)).srcPh i ≠ .live) : XOk (g.onOut sh (.down 0 (.err e) : Out β)) := by
  obtain ⟨hc, h, ks, hp, hne, hks⟩ := ht
  have hnl' : ∀ i, (g.onOut sh (.down 0 (.err e) : Out β)).ph.srcPh i ≠ .live := by rwa [onOut_ph]
  refine ⟨(onOut_xviols sh g (.down 0 (.err e)) (fun _ h => nomatch h) fun _ _ h => nomatch h).trans hc, fun e' h' ks' hp' => ?_,
    noOrphan_of_noLive hnl'⟩
  rw [(onOut_sinkErr_pend sh g _).2, hp] at hp'; cases hp'
  refine ⟨hne, fun k hk => ?_, hnl'⟩
  rw [hks k hk]
  exact ⟨by rw [onOut_ph, Ph.onOut_final h0 rfl, Ph.sinkPh_setSink_self], onOut_finOf_err sh g 0 e h0⟩

end Quiet

/-- second layer of the invariant of an operator with one sink and one upstream that relays: `XOk`, and a sink `Error` is on record
only once the sink has disposed (where such an operator ends its upstream by itself, a `Terminate` sent while the sink's `Error` is being relayed would be flagged) -/
def XOkRelay (g : G) : Prop := XOk g ∧ (g.ph.sinkPh 0 ≠ .doneBySelf → g.sinkErr = none)

theorem XOkRelay.init : XOkRelay ({} : G) := ⟨XOk.init, fun _ => rfl⟩

theorem XOkRelay.onRetO {g : G} (hx : XOkRelay g) (h : Nat) : XOkRelay (g.onRetO h) :=
  ⟨hx.1.onRetO h, fun hne => onRetO_sinkErr_none (hx.2 (by rwa [onRetO_ph] at hne)) h⟩

theorem XOkRelay.of_ph {g : G} (hx : XOkRelay g) {ph : Ph} (hpn : g.pend = none) (ho : NoOrphan ph)
    (hs : g.ph.sinkPh 0 ≠ .doneBySelf) : XOkRelay { g with ph := ph } :=
  ⟨hx.1.of_ph hpn ho, fun _ => hx.2 hs⟩

/-- C04 (relay): the sink's `u`, handed to upstream `i` unchanged within the handler of that very call, is not flagged; the
rest of the second layer is untouched -/
theorem XOk.relayUp {α β} {g : G} (hx : XOk g) (sh : Shape) (h k i : Nat) (u : Up) (hs : g.sinkErr = none) (hpn : g.pend = none)
    (ho : NoOrphan ((g.onIn h (.sinkUp k u : In α)).onOut sh (.srcUp i u : Out β)).ph) :
    XOk ((g.onIn h (.sinkUp k u : In α)).onOut sh (.srcUp i u : Out β)) := by
  cases u with
  | pull => exact hx.of_ph hpn ho
  | term =>
    rw [onIn_sinkTerm, onOut_term_quiet _ _ _ (.inl (by exact hs))] at ho ⊢
    exact hx.of_ph hpn ho
  | err e =>
    rw [onIn_sinkErr, onOut_err_relayed (hs := rfl)] at ho ⊢
    exact hx.of_fields rfl (Or.inl rfl) rfl (Or.inl hpn) ho

/-- C05: an upstream terminal `d`, handed on as `d'` within the handler of that very call to sink 0, the only live one, leaves
nothing to check when the handler returns, provided no upstream is live afterwards -/
theorem XOk.relayDown {α β} {g : G} (hx : XOk g) (sh : Shape) (h i : Nat) (d : Down α) (d' : Down β) (f : Fin)
    (hd : finOfDown d = some f) (hd' : finOfDown d' = some f)
    (hk : g.ph.sinkPh 0 = .live) (honly : ∀ k, g.ph.sinkPh k = .live → k = 0) (hpn : g.pend = none)
    (hl : ∀ j, ((g.onIn h (.srcDown i d)).onOut sh (.down 0 d')).ph.srcPh j ≠ .live) :
    XOk ((g.onIn h (.srcDown i d)).onOut sh (.down 0 d')) ∧
      ((g.onIn h (.srcDown i d)).onOut sh (.down 0 d')).sinkErr = g.sinkErr := by
  have hq : Quiet g := ⟨hx.clean, hpn⟩
  refine ⟨?_, (onOut_sinkErr_pend ..).1.trans ((onIn_fields g h (.srcDown i d)).2.2.1 fun _ _ h => nomatch h)⟩
  cases d with
  | data a => cases hd
  | term => exact ((hq.onIn h).onOut_down sh 0 d').xok (noOrphan_of_noLive hl)
  | err e =>
    cases hd
    cases d' with
    | data b | term => cases hd'
    | err e' =>
      cases hd'
      rw [onOut_ph] at hl
      exact (hq.srcErr hk honly h i e).deliver sh ((onIn_ph ..).symm ▸ hk) hl

/-- What one macro step of an operator with one sink and one upstream that relays does to the ghost: `g'` is again without phase violation, sink 0 and upstream 0
are in phases `p` and `q`, and the second layer has been carried along.  One lemma below per pair of an input (if the handler
was called) and the output or return it answers with; the hypotheses are the phases in `g` that make the output legal. -/
structure PassTo (g g' : G) (p : SinkPh) (q : SrcPh) : Prop where
  single : Single g'.ph
  sink : g'.ph.sinkPh 0 = p
  src : g'.ph.srcPh 0 = q
  xok : XOkRelay g → XOkRelay g'

namespace PassTo

theorem of_ph {g g' : G} {ph : Ph} {p : SinkPh} {q : SrcPh} (hph : g'.ph = ph) (hS : Single ph)
    (hp : ph.sinkPh 0 = p) (hq : ph.srcPh 0 = q) (ho : p = .subscribed ∨ p = .live ∨ q ≠ .live)
    (hx : XOkRelay g → NoOrphan g'.ph → XOkRelay g') : PassTo g g' p q := by
  subst hph hp hq
  exact ⟨hS, rfl, rfl, fun h => hx h (hS.noOrphan ho)⟩

theorem onRetO {g g' : G} {p : SinkPh} {q : SrcPh} (h : PassTo g g' p q) (n : Nat) : PassTo g (g'.onRetO n) p q := by
  obtain ⟨hS, hp, hq, hx⟩ := h
  rw [← onRetO_ph g' n] at hS hp hq
  exact ⟨hS, hp, hq, fun h => (hx h).onRetO n⟩

end PassTo

namespace Single
variable {α β : Type} {g : G} (hS : Single g.ph) (sh : Shape) (n : Nat)
include hS

theorem refl {p : SinkPh} {q : SrcPh} (hp : g.ph.sinkPh 0 = p) (hq : g.ph.srcPh 0 = q) : PassTo g g p q :=
  ⟨hS, hp, hq, id⟩

theorem subscribe (h1 : g.ph.sinkPh 0 = .idle) (h2 : g.ph.srcPh 0 = .idle) :
    PassTo g ((g.onIn n (.subscribe 0 : In α)).onOut sh (.subSrc 0 : Out β)) .subscribed .subscribed :=
  .of_ph (ph := (g.ph.setSink 0 .subscribed).setSrc 0 .subscribed)
    (by rw [onOut_ph, onIn_ph]; exact Ph.onOut_subSrc h2 (Ph.anySinkOpen_setSink _ _ (.inl rfl)))
    ((hS.setSink _).setSrc _) (by simp) (by simp) (.inl rfl)
    fun hx ho => hx.of_ph (hx.1.pend_none_of_noDone (noDone_of hS.sinks (by rw [h1]; decide))) ho (by rw [h1]; decide)

theorem greet (h1 : g.ph.sinkPh 0 = .subscribed) :
    PassTo g ((g.onIn n (.srcGreet 0 : In α)).onOut sh (.greet 0 : Out β)) .live .live :=
  .of_ph (ph := (g.ph.setSrc 0 .live).setSink 0 .live) (by rw [onOut_ph, onIn_ph]; exact Ph.onOut_greet h1)
    ((hS.setSrc _).setSink _) (by simp) (by simp) (.inr (.inl rfl))
    fun hx ho => hx.of_ph (hx.1.pend_none_of_noDone (noDone_of hS.sinks (by rw [h1]; decide))) ho (by rw [h1]; decide)

theorem pull (h1 : g.ph.sinkPh 0 = .live) (h2 : g.ph.srcPh 0 = .live) :
    PassTo g ((g.onIn n (.sinkUp 0 .pull : In α)).onOut sh (.srcUp 0 .pull : Out β)) .live .live :=
  .of_ph (ph := g.ph) (by rw [onOut_ph, onIn_ph]; exact Ph.onOut_pull h2) hS h1 h2 (.inr (.inl rfl))
    fun hx ho => hx.of_ph (hx.1.pend_none_of_live 0 h2) ho (by rw [h1]; decide)

/-- C04 (relay): the sink ends the stream and the operator passes that on -/
theorem sinkEnd (h1 : g.ph.sinkPh 0 = .live) (h2 : g.ph.srcPh 0 = .live) {u : Up} (hu : u ≠ .pull) :
    PassTo g ((g.onIn n (.sinkUp 0 u : In α)).onOut sh (.srcUp 0 u : Out β)) .doneBySelf .disposed :=
  .of_ph (ph := (g.ph.setSink 0 .doneBySelf).setSrc 0 .disposed)
    (by rw [onOut_ph, onIn_ph, Ph.onIn_sinkEnd _ _ hu]; exact Ph.onOut_srcEnd (g := g.ph.setSink 0 .doneBySelf) h2 hu)
    ((hS.setSink _).setSrc _) (by simp) (by simp) (.inr (.inr (by decide)))
    fun hx ho => ⟨hx.1.relayUp _ _ 0 0 u (hx.2 (by rw [h1]; decide)) (hx.1.pend_none_of_live 0 h2) ho,
      fun hne => absurd (by rw [onOut_ph, onIn_ph, Ph.onIn_sinkEnd _ _ hu, Ph.onOut_srcEnd (g := g.ph.setSink 0 .doneBySelf) h2 hu]; simp) hne⟩

theorem data (h1 : g.ph.sinkPh 0 = .live) (h2 : g.ph.srcPh 0 = .live) (a : α) (b : β) :
    PassTo g ((g.onIn n (.srcDown 0 (.data a))).onOut sh (.down 0 (.data b))) .live .live :=
  .of_ph (ph := g.ph) (by rw [onOut_ph, onIn_ph]; exact Ph.onOut_data h1 b) hS h1 h2 (.inr (.inl rfl)) fun hx ho => by
    rw [onIn_data, onOut_data] at ho ⊢
    exact hx.of_ph (hx.1.pend_none_of_live 0 h2) ho (by rw [h1]; decide)

theorem repull (h1 : g.ph.sinkPh 0 = .live) (h2 : g.ph.srcPh 0 = .live) (a : α) :
    PassTo g ((g.onIn n (.srcDown 0 (.data a))).onOut sh (.srcUp 0 .pull : Out β)) .live .live :=
  .of_ph (ph := g.ph) (by rw [onOut_ph, onIn_ph]; exact Ph.onOut_pull h2) hS h1 h2 (.inr (.inl rfl))
    fun hx ho => hx.of_ph (hx.1.pend_none_of_live 0 h2) ho (by rw [h1]; decide)

/-- C05: upstream ends and the operator passes that on -/
theorem srcEnd (h1 : g.ph.sinkPh 0 = .live) (h2 : g.ph.srcPh 0 = .live) {d : Down α} {d' : Down β} {f : Fin}
    (hd : finOfDown d = some f) (hd' : finOfDown d' = some f) :
    PassTo g ((g.onIn n (.srcDown 0 d)).onOut sh (.down 0 d')) .doneBySrc .ended := by
  have hfd : isFinal d = true := by cases d <;> first | rfl | cases hd
  have hfd' : isFinal d' = true := by cases d' <;> first | rfl | cases hd'
  have hph : ((g.onIn n (.srcDown 0 d)).onOut sh (.down 0 d')).ph = (g.ph.setSrc 0 .ended).setSink 0 .doneBySrc := by
    rw [onOut_ph, onIn_ph, Ph.onIn_srcEnd _ _ hfd]; exact Ph.onOut_final (g := g.ph.setSrc 0 .ended) h1 hfd'
  refine .of_ph hph ((hS.setSrc _).setSink _) (by simp) (by simp) (.inr (.inr (by decide))) fun hx _ => ?_
  obtain ⟨hx', hs'⟩ := hx.1.relayDown sh n 0 d d' f hd hd' h1 (fun _ => sink_zero_of_live hS.sinks)
    (hx.1.pend_none_of_live 0 h2) (by rw [hph]; exact noLive_of ((hS.setSrc _).setSink _).srcs (by simp))
  exact ⟨hx', fun _ => hs'.trans (hx.2 (by rw [h1]; decide))⟩

/-- the operator ends its upstream by itself; no `Error` of the sink is on record, so nothing is flagged -/
theorem selfTerm (h1 : g.ph.sinkPh 0 = .live) (h2 : g.ph.srcPh 0 = .live) :
    PassTo g (g.onOut sh (.srcUp 0 .term : Out β)) .live .disposed :=
  .of_ph (ph := g.ph.setSrc 0 .disposed) (by rw [onOut_ph]; exact Ph.onOut_srcEnd h2 (by decide)) (hS.setSrc _) h1 (by simp)
    (.inr (.inl rfl)) fun hx ho => by
      rw [onOut_term_quiet _ _ _ (.inl (hx.2 (by rw [h1]; decide)))] at ho ⊢
      exact hx.of_ph (hx.1.pend_none_of_live 0 h2) ho (by rw [h1]; decide)

theorem selfDone (h1 : g.ph.sinkPh 0 = .live) {q : SrcPh} (h2 : g.ph.srcPh 0 = q) (hq : q ≠ .live) :
    PassTo g (g.onOut sh (.down 0 .term : Out β)) .doneBySrc q :=
  .of_ph (ph := g.ph.setSink 0 .doneBySrc) (by rw [onOut_ph]; exact Ph.onOut_final h1 rfl) (hS.setSink _) (by simp) h2
    (.inr (.inr hq)) fun hx ho =>
      ⟨((hx.1.quiet_of_noDone (noDone_of hS.sinks (by rw [h1]; decide))).onOut_down sh 0 .term).xok ho,
        fun _ => (onOut_sinkErr_pend ..).1.trans (hx.2 (by rw [h1]; decide))⟩

end Single

end Cb
