import CallbagModel.Inv.ComposeInst
import CallbagModel.Props
import CallbagModel.Fun.Relay
import CallbagModel.Fun.Take
/-!
# What a pipeline computes: the boundary traces of `compose M₁ M₂` and of its components

`ComposeFun.compose_inv_tr` (`Inv/ComposeSafe.lean`) relates the trace of the pipeline and those of its components side view by
side view (`TrRel`).  Every trace projection of `Props.lean` that looks at one side only factors through the side views
(`recvData_eq`, `sentData_eq`, `finalsTo_eq`, `applied_eq`, … in `Inv/Views.lean`), which gives the equations of `Proj` about data
((T1)–(T3): `recv`, `sent`, `ifc`) and their analogues for terminals, Pulls and closure applications.
`compose_io`: the list function of a pipeline is the composition of the list functions of its stages.
-/
namespace Cb
namespace ComposeFun
open ComposeSafe

section Io
variable {S1 L1 S2 L2 α β γ : Type} {M1 : Machine S1 L1 α β} {M2 : Machine S2 L2 β γ}

/-- a pipeline configuration `s` and its projections `s₁`, `s₂`, with everything the projection preserves -/
structure Proj (s : Sys (S1 × S2) (List (CFr L1 L2)) α γ) (s1 : Sys S1 L1 α β) (s2 : Sys S2 L2 β γ) : Prop where
  m : Match s s1 s2
  /-- (T1) what the pipeline delivers to its sinks is what `M₂` delivers -/
  recv : ∀ k, recvData k s.tr = recvData k s2.tr
  /-- (T2) what the pipeline receives from its upstreams is what `M₁` receives -/
  sent : ∀ i, sentData i s.tr = sentData i s1.tr
  /-- (T3) the internal interface: what `M₁` delivered to its sink is what `M₂` received from its upstream -/
  ifc : ∀ k, recvData k s1.tr = sentData k s2.tr
  /-- (T4) when the environment has control of the pipeline, each stage's environment has control of it -/
  turn : EnvTurn s → EnvTurn s1 ∧ EnvTurn s2
  fin : ∀ k, finalsTo k s.tr = finalsTo k s2.tr
  app : applied s.tr = applied s2.tr
  pullsIn : ∀ k, pullsIn k s.tr = pullsIn k s2.tr
  pullsOut : ∀ i, pullsOut i s.tr = pullsOut i s1.tr
  ifcPulls : ∀ k, Cb.pullsIn k s1.tr = Cb.pullsOut k s2.tr
  upFin : ∀ i, upFinals i s.tr = upFinals i s1.tr

theorem Proj.of {s : Sys (S1 × S2) (List (CFr L1 L2)) α γ} {s1 : Sys S1 L1 α β} {s2 : Sys S2 L2 β γ}
    (hm : Match s s1 s2) (ht : TrRel s.tr s1.tr s2.tr) : Proj s s1 s2 where
  m := hm
  recv k := by rw [recvData_eq, recvData_eq, ht.sink]
  sent i := by rw [sentData_eq, sentData_eq, ht.src]
  ifc k := by rw [recvData_eq, sentData_eq, recvS_dual, ht.ifc]
  turn := hm.turns
  fin k := by rw [finalsTo_eq, finalsTo_eq, ht.sink]
  app := by rw [applied_eq, applied_eq, ht.sink]
  pullsIn k := by rw [pullsIn_eq, pullsIn_eq, ht.sink]
  pullsOut i := by rw [pullsOut_eq, pullsOut_eq, ht.src]
  ifcPulls k := by rw [pullsIn_eq, pullsOut_eq, pullsInS_dual, ht.ifc]
  upFin i := by rw [upFinals_eq, upFinals_eq, ht.src]

theorem compose_proj (H : Hyp M1 M2) :
    ∀ s, SReach (compose M1 M2) s → ∃ s1 s2, SReach M1 s1 ∧ SReach M2 s2 ∧ Proj s s1 s2 := by
  intro s hs
  obtain ⟨s1, s2, hr1, hr2, hm, ht⟩ := compose_inv_tr H s hs
  exact ⟨s1, s2, hr1, hr2, .of hm ht⟩

/-- **The list function of a pipeline is the composition of the list functions of its stages**, at every point where the
environment has control -/
theorem compose_io {F1 : List α → List β} {F2 : List β → List γ} (H : Hyp M1 M2)
    (h1 : ∀ s1, SReach M1 s1 → EnvTurn s1 → recvData 0 s1.tr = F1 (sentData 0 s1.tr))
    (h2 : ∀ s2, SReach M2 s2 → EnvTurn s2 → recvData 0 s2.tr = F2 (sentData 0 s2.tr)) :
    ∀ s, SReach (compose M1 M2) s → EnvTurn s → recvData 0 s.tr = F2 (F1 (sentData 0 s.tr)) := by
  intro s hs ht
  obtain ⟨s1, s2, hr1, hr2, hp⟩ := compose_proj H s hs
  obtain ⟨ht1, ht2⟩ := hp.turn ht
  rw [hp.recv 0, h2 s2 hr2 ht2, ← hp.ifc 0, h1 s1 hr1 ht1, ← hp.sent 0]

theorem compose_io_applied {F1 : List α → List β} {F2 : List β → List γ} (H : Hyp M1 M2)
    (h1 : ∀ s1, SReach M1 s1 → EnvTurn s1 → recvData 0 s1.tr = F1 (sentData 0 s1.tr))
    (h2 : ∀ s2, SReach M2 s2 → EnvTurn s2 → applied s2.tr = F2 (sentData 0 s2.tr)) :
    ∀ s, SReach (compose M1 M2) s → EnvTurn s → applied s.tr = F2 (F1 (sentData 0 s.tr)) := by
  intro s hs ht
  obtain ⟨s1, s2, hr1, hr2, hp⟩ := compose_proj H s hs
  obtain ⟨ht1, ht2⟩ := hp.turn ht
  rw [hp.app, h2 s2 hr2 ht2, ← hp.ifc 0, h1 s1 hr1 ht1, ← hp.sent 0]

end Io
end ComposeFun

/-- `M` computes the list function `F`: whenever the environment has control, what sink 0 has received is `F` of what upstream 0
has sent -/
def IoSpec {St Loc α β : Type} (M : Machine St Loc α β) (F : List α → List β) : Prop :=
  ∀ s, SReach M s → EnvTurn s → recvData 0 s.tr = F (sentData 0 s.tr)

theorem IoSpec.congr {St Loc α β : Type} {M : Machine St Loc α β} {F G : List α → List β} (h : IoSpec M F)
    (hFG : ∀ l, F l = G l) : IoSpec M G := fun s hs ht => (h s hs ht).trans (hFG _)

open ComposeFun in
theorem IoSpec.compose {S1 L1 S2 L2 α β γ : Type} {M1 : Machine S1 L1 α β} {M2 : Machine S2 L2 β γ}
    {F1 : List α → List β} {F2 : List β → List γ} (U1 : UpSide M1) (D2 : DownSide M2)
    (h1 : IoSpec M1 F1) (h2 : IoSpec M2 F2) : IoSpec (Cb.compose M1 M2) (F2 ∘ F1) :=
  compose_io (hyp_of_roles U1 D2) h1 h2

/-- a pipeline stage: usable in either role, and computing `F` -/
structure Stage {St Loc α β : Type} (M : Machine St Loc α β) (F : List α → List β) : Prop where
  pipe : Pipeable M
  io : IoSpec M F

/-- chains of any length, by iteration -/
theorem Stage.compose {S1 L1 S2 L2 α β γ : Type} {M1 : Machine S1 L1 α β} {M2 : Machine S2 L2 β γ}
    {F1 : List α → List β} {F2 : List β → List γ} (h1 : Stage M1 F1) (h2 : Stage M2 F2) :
    Stage (Cb.compose M1 M2) (F2 ∘ F1) :=
  ⟨h1.pipe.compose h2.pipe, IoSpec.compose h1.pipe.upSide h2.pipe.downSide h1.io h2.io⟩

theorem Stage.congr {St Loc α β : Type} {M : Machine St Loc α β} {F G : List α → List β} (h : Stage M F)
    (hFG : ∀ l, F l = G l) : Stage M G := ⟨h.pipe, h.io.congr hFG⟩

theorem Stage.spec {St Loc α β : Type} {M : Machine St Loc α β} {F : List α → List β} (h : Stage M F) :
    (∀ s, SReach M s → BasicSafe s) ∧ (∀ s, SReach M s → EnvTurn s → recvData 0 s.tr = F (sentData 0 s.tr)) :=
  ⟨h.pipe.safe, h.io⟩

theorem Relay.stage {σ α β : Type} (k : Relay.Kind σ α β) (hk : k.slotted = false → ∀ s a, (k.xfer s a).2 ≠ none) :
    Stage (Relay.machine k) (xferOut k.xfer k.seed) :=
  ⟨Relay.pipeable k hk, RelayFun.relay_io k hk⟩

theorem Relay.map_stage {α β : Type} (f : α → β) : Stage (Relay.machine (Relay.map f)) (List.map f) :=
  (Relay.stage (Relay.map f) (Relay.map_ok f)).congr (fun l => RelayFun.xferOut_map f _ l)

theorem Relay.filter_stage {α : Type} (p : α → Bool) : Stage (Relay.machine (Relay.filter p)) (List.filter p) :=
  (Relay.stage (Relay.filter p) (Relay.filter_ok p)).congr (fun l => RelayFun.xferOut_filter p _ l)

theorem Relay.scan_stage {α β : Type} (r : β → α → β) (seed : β) :
    Stage (Relay.machine (Relay.scan r seed)) (scanF r seed) :=
  (Relay.stage (Relay.scan r seed) (Relay.scan_ok r seed)).congr (fun l => RelayFun.xferOut_scan r seed _ l)

theorem Relay.skip_stage {α : Type} (n : Nat) : Stage (Relay.machine (Relay.skip (α := α) n)) (List.drop n) :=
  (Relay.stage (Relay.skip n) (Relay.skip_ok n)).congr (RelayFun.xferOut_skip_seed n)

theorem Take.stage {α : Type} (max : Nat) : Stage (Take.machine α max) (List.take max) :=
  ⟨Take.pipeable max, fun _ hs ht => (TakeFun.t_at_turn max hs ht).2.io⟩

/-- `pipe!(source, map(f), filter(p), take(n))` is phase-level safe, never panics, and at every environment turn has delivered
`((xs.map f).filter p).take n`, where `xs` is what the source has sent so far -/
theorem map_filter_take {α β : Type} (f : α → β) (p : β → Bool) (n : Nat) :
    (∀ s, SReach (compose (compose (Relay.machine (Relay.map f)) (Relay.machine (Relay.filter p))) (Take.machine β n)) s →
      BasicSafe s) ∧
    (∀ s, SReach (compose (compose (Relay.machine (Relay.map f)) (Relay.machine (Relay.filter p))) (Take.machine β n)) s →
      EnvTurn s → recvData 0 s.tr = (((sentData 0 s.tr).map f).filter p).take n) :=
  (((Relay.map_stage f).compose (Relay.filter_stage p)).compose (Take.stage n)).spec

/-- five stages, bracketed to the right: `skip(k) | scan(r, seed) | map(f) | filter(p) | take(n)` -/
example {α β γ : Type} (k : Nat) (r : β → α → β) (seed : β) (f : β → γ) (p : γ → Bool) (n : Nat) :
    ∀ s, SReach (compose (Relay.machine (Relay.skip (α := α) k)) (compose (Relay.machine (Relay.scan r seed))
        (compose (Relay.machine (Relay.map f)) (compose (Relay.machine (Relay.filter p)) (Take.machine γ n))))) s →
      EnvTurn s → recvData 0 s.tr = ((((scanF r seed ((sentData 0 s.tr).drop k)).map f).filter p).take n) :=
  ((Relay.skip_stage k).compose ((Relay.scan_stage r seed).compose ((Relay.map_stage f).compose
    ((Relay.filter_stage p).compose (Take.stage n))))).io

/-- a head that is not a stage: `pipe!(concat!(a, b), <stage>)` delivers `F` of whatever `concat!` has delivered to the stage;
stated with the projection, since `concat!`'s output depends on two upstreams -/
example {S L α β : Type} {M : Machine S L α β} {F : List α → List β} (hM : Stage M F) :
    ∀ s, SReach (compose (Concat.machine α 2) M) s → EnvTurn s →
      ∃ s1, SReach (Concat.machine α 2) s1 ∧ EnvTurn s1 ∧ (∀ i, sentData i s.tr = sentData i s1.tr) ∧
        recvData 0 s.tr = F (recvData 0 s1.tr) := by
  intro s hs ht
  obtain ⟨s1, s2, hr1, hr2, hp⟩ :=
    ComposeFun.compose_proj (hyp_of_roles (Concat.upSide 2 (by decide)) hM.pipe.downSide) s hs
  obtain ⟨ht1, ht2⟩ := hp.turn ht
  exact ⟨s1, hr1, ht1, hp.sent, by rw [hp.recv 0, hM.io s2 hr2 ht2, hp.ifc 0]⟩

end Cb

#print axioms Cb.ComposeFun.compose_inv_tr
#print axioms Cb.ComposeFun.compose_proj
#print axioms Cb.ComposeFun.compose_io
#print axioms Cb.IoSpec.compose
#print axioms Cb.Stage.compose
#print axioms Cb.map_filter_take
