import CallbagModel.Inv.Ghost2
import CallbagModel.Inv.Runs
import CallbagModel.Ops.Flatten
/-!
# flatten (switch): the phase-level safety invariant

Upstream 0 is the outer source, upstreams `1 … nextId-1` are the inner sources seen so far.  While the output is open, at
most one inner is live (the one in `st.inner`), every other inner seen so far is ended or disposed, and `st.outer` says
whether the outer is live.  Once the output is over no upstream is live or subscribed, so the environment can only return.

The continuations that are not tail calls (`od1`, `oe1 e`, `ie1 e`, `x1`) all wait on a `Terminate` just sent upstream:
their callee can only return, so each of them has a mode of its own with its frame on top of the stack.

A handler runs a few silent steps and then calls or returns; where it lands depends on the move and on `st` only (`stC`,
`respC`, `contC`; `stR`, `respR` for a resumed continuation).  `Macro s m st r` joins this to what legality says of the turn `s`
where the move `m` is made (`CallOk` / `RetOk`).
-/
namespace Cb.Flatten

variable {α : Type}

/-- continuations that may sit below the top of the stack: tail calls only -/
def Benign : Frame (Loc α) α → Prop
  | .wait _ .done => True
  | _ => False

def Dead (g : Ph) (i : Nat) : Prop := g.srcPh i = .ended ∨ g.srcPh i = .disposed

/-- upstream `i` cannot move -/
def Off (g : Ph) (i : Nat) : Prop := g.srcPh i ≠ .live ∧ g.srcPh i ≠ .subscribed

def Quiet (g : Ph) : Prop := ∀ i, Off g i

def OuterOk (outer : Bool) (g : Ph) : Prop := (outer = true → g.srcPh 0 = .live) ∧ (outer = false → Dead g 0)

inductive Mode (st : St) (g : Ph) (stk : List (Frame (Loc α) α)) : Prop where
  | init : g.sinkPh 0 = .idle → g.srcPh 0 = .idle → stk = [] → st.outer = false → st.inner = none → st.nextId = 1 →
      Mode st g stk
  | sub : g.sinkPh 0 = .subscribed → g.srcPh 0 = .subscribed → stk = [.wait (.subSrc 0) .done] → st.outer = false →
      st.inner = none → st.nextId = 1 → Mode st g stk
  | live : g.sinkPh 0 = .live → OuterOk st.outer g →
      (∀ k, st.inner = some k → 0 < k ∧ k < st.nextId ∧ g.srcPh k = .live) →
      (∀ i, 0 < i → i < st.nextId → st.inner ≠ some i → Dead g i) →
      (∀ f ∈ stk, Benign f) → Mode st g stk
  /-- waiting for the greeting of the inner source just subscribed -/
  | wgreet (j : Nat) : g.sinkPh 0 = .live → OuterOk st.outer g → 0 < j → st.nextId = j + 1 → g.srcPh j = .subscribed →
      (∀ i, 0 < i → i < j → Dead g i) →
      (∃ rest, stk = .wait (.subSrc j) .done :: rest ∧ ∀ f ∈ rest, Benign f) → Mode st g stk
  /-- the outer delivered a new inner, the old one has just been disposed -/
  | od1 (k : Nat) : g.sinkPh 0 = .live → OuterOk st.outer g → (∀ i, 0 < i → i < st.nextId → Dead g i) →
      (∃ rest, stk = .wait (.srcUp k .term) .od1 :: rest ∧ ∀ f ∈ rest, Benign f) → Mode st g stk
  /-- the outer errored, the inner has just been disposed -/
  | oe1 (k e : Nat) : g.sinkPh 0 = .live → Quiet g →
      (∃ rest, stk = .wait (.srcUp k .term) (.oe1 e) :: rest ∧ ∀ f ∈ rest, Benign f) → Mode st g stk
  /-- the inner errored, the outer has just been disposed -/
  | ie1 (e : Nat) : g.sinkPh 0 = .live → Quiet g →
      (∃ rest, stk = .wait (.srcUp 0 .term) (.ie1 e) :: rest ∧ ∀ f ∈ rest, Benign f) → Mode st g stk
  /-- the sink disposed, the inner has just been disposed, the outer is next -/
  | x1 (k : Nat) : g.sinkPh 0 = .doneBySelf → OuterOk st.outer g → (∀ i, 0 < i → Off g i) →
      (∃ rest, stk = .wait (.srcUp k .term) .x1 :: rest ∧ ∀ f ∈ rest, Benign f) → Mode st g stk
  | fin : (g.sinkPh 0 = .doneBySrc ∨ g.sinkPh 0 = .doneBySelf) → Quiet g → (∀ f ∈ stk, Benign f) → Mode st g stk

def Inv (s : Sys St (Loc α) α α) : Prop :=
  s.panicked = none ∧ s.g.ph.viols = [] ∧ 0 < s.st.nextId ∧
  (∀ i, s.st.nextId ≤ i → s.g.ph.srcPh i = .idle) ∧ (∀ k, k ≠ 0 → s.g.ph.sinkPh k = .idle) ∧
  Mode s.st s.g.ph s.stack

theorem inv_turn (s : Sys St (Loc α) α α) (h : Inv s) : EnvTurn s ∧ BasicSafe s := by
  obtain ⟨hp, hb, _, _, _, hm⟩ := h
  refine ⟨⟨hp, ?_⟩, hb, hp⟩
  cases hm with
  | init _ _ h | sub _ _ h => simp [h, ctxOf]
  | live _ _ _ _ h | fin _ _ h => exact ctx_isSome_of_waits (fun _ => id) h
  | wgreet _ _ _ _ _ _ _ h | od1 _ _ _ _ h | oe1 _ _ _ _ h | ie1 _ _ _ h | x1 _ _ _ _ h => obtain ⟨_, h, _⟩ := h; simp [h, ctxOf]

theorem inv_init : Inv (Sys.init (machine α)) :=
  ⟨rfl, rfl, by simp [Sys.init, machine], fun _ _ => by simp [Sys.init], fun _ _ => by simp [Sys.init],
    Mode.init (by simp [Sys.init]) (by simp [Sys.init]) rfl rfl rfl rfl⟩

theorem Dead.off {g : Ph} {i : Nat} (h : Dead g i) : Off g i := by
  rcases h with h | h <;> simp [Off, h]

theorem off_of_idle {g : Ph} {i : Nat} (h : g.srcPh i = .idle) : Off g i := by simp [Off, h]

@[simp] theorem dead_setSrc (g : Ph) (k i : Nat) (p : SrcPh) :
    Dead (g.setSrc k p) i ↔ if i = k then (p = .ended ∨ p = .disposed) else Dead g i := by
  simp only [Dead, Ph.srcPh_setSrc]; split <;> rfl

@[simp] theorem dead_setSink (g : Ph) (k i : Nat) (p : SinkPh) : Dead (g.setSink k p) i ↔ Dead g i := Iff.rfl

@[simp] theorem off_setSrc (g : Ph) (k i : Nat) (p : SrcPh) :
    Off (g.setSrc k p) i ↔ if i = k then (p ≠ .live ∧ p ≠ .subscribed) else Off g i := by
  simp only [Off, Ph.srcPh_setSrc]; split <;> rfl

@[simp] theorem outerOk_setSink (b : Bool) (g : Ph) (k : Nat) (p : SinkPh) : OuterOk b (g.setSink k p) ↔ OuterOk b g := Iff.rfl

theorem OuterOk.setSrc {b : Bool} {g : Ph} (h : OuterOk b g) {k : Nat} (hk : 0 < k) (p : SrcPh) : OuterOk b (g.setSrc k p) := by
  simpa [OuterOk, show (0 : Nat) ≠ k by omega] using h

theorem off_setSrc_of {g : Ph} {k i : Nat} {p : SrcPh} (hp : p ≠ .live ∧ p ≠ .subscribed) (h : i ≠ k → Off g i) :
    Off (g.setSrc k p) i := by
  rw [off_setSrc]; split
  · exact hp
  · exact h ‹_›

theorem dead_setSrc_of {g : Ph} {k i : Nat} {p : SrcPh} (hp : p = .ended ∨ p = .disposed) (h : i ≠ k → Dead g i) :
    Dead (g.setSrc k p) i := by
  rw [dead_setSrc]; split
  · exact hp
  · exact h ‹_›

theorem Dead.setSrc_ne {g : Ph} {k i : Nat} (h : Dead g i) (hne : i ≠ k) (p : SrcPh) : Dead (g.setSrc k p) i := by
  rw [dead_setSrc, if_neg hne]; exact h

theorem off_inner {g : Ph} {n : Nat} {cur : Option Nat} (hidle : ∀ i, n ≤ i → g.srcPh i = .idle)
    (hd : ∀ i, 0 < i → i < n → cur ≠ some i → Dead g i) (i : Nat) (hi : 0 < i) (hne : cur ≠ some i) : Off g i := by
  by_cases hn : i < n
  · exact (hd i hi hn hne).off
  · exact off_of_idle (hidle i (by omega))

theorem live_not_subscribed {b : Bool} {g : Ph} {n : Nat} {cur : Option Nat} (h2 : OuterOk b g)
    (hidle : ∀ i, n ≤ i → g.srcPh i = .idle) (h3 : ∀ k, cur = some k → 0 < k ∧ k < n ∧ g.srcPh k = .live)
    (h4 : ∀ i, 0 < i → i < n → cur ≠ some i → Dead g i) (i : Nat) : g.srcPh i ≠ .subscribed := by
  by_cases hi : i = 0
  · subst hi
    cases b with
    | true => simp [h2.1 rfl]
    | false => exact (h2.2 rfl).off.2
  · by_cases hc : cur = some i
    · simp [(h3 i hc).2.2]
    · exact (off_inner hidle h4 i (by omega) hc).2

theorem onOut_term {g : Ph} {i : Nat} (h : g.srcPh i = .live) : g.onOut (.srcUp i .term : Out α) = g.setSrc i .disposed :=
  Ph.onOut_srcEnd h nofun

/-- operator state when the first segment of the handler of `i` ends -/
def stC (st : St) : In α → St
  | .srcGreet 0 => { st with outer := true }
  | .srcGreet (j+1) => { st with inner := some (j+1) }
  | .srcDown 0 (.data _) => match st.inner with
    | some _ => st
    | none => { st with nextId := st.nextId + 1 }
  | .srcDown 0 .term => match st.inner with
    | some _ => { st with outer := false }
    | none => st
  | .srcDown (_+1) .term => if st.outer then { st with inner := none } else st
  | _ => st

/-- how the first segment of the handler of `i` ends: with a call, or (`none`) by returning -/
def respC (st : St) : In α → Option (Out α)
  | .subscribe _ => some (.subSrc 0)
  | .sinkUp _ .pull => match st.inner with
    | some k => some (.srcUp k .pull)
    | none => if st.outer then some (.srcUp 0 .pull) else none
  | .sinkUp _ _ => match st.inner with
    | some k => some (.srcUp k .term)
    | none => if st.outer then some (.srcUp 0 .term) else none
  | .srcGreet 0 => some (.greet 0)
  | .srcGreet (j+1) => some (.srcUp (j+1) .pull)
  | .srcDown 0 (.data _) => match st.inner with
    | some k => some (.srcUp k .term)
    | none => some (.subSrc st.nextId)
  | .srcDown 0 (.err e) => match st.inner with
    | some k => some (.srcUp k .term)
    | none => some (.down 0 (.err e))
  | .srcDown 0 .term => if st.inner.isNone then some (.down 0 .term) else none
  | .srcDown (_+1) (.data a) => some (.down 0 (.data a))
  | .srcDown (_+1) (.err e) => if st.outer then some (.srcUp 0 .term) else some (.down 0 (.err e))
  | .srcDown (_+1) .term => if st.outer then some (.srcUp 0 .pull) else some (.down 0 .term)

/-- the continuation left on the stack by the first call of the handler -/
def contC (st : St) : In α → Loc α
  | .sinkUp _ .pull => .done
  | .sinkUp _ _ => match st.inner with
    | some _ => .x1
    | none => .done
  | .srcDown 0 (.data _) => match st.inner with
    | some _ => .od1
    | none => .done
  | .srcDown 0 (.err e) => match st.inner with
    | some _ => .oe1 e
    | none => .done
  | .srcDown (_+1) (.err e) => if st.outer then .ie1 e else .done
  | _ => .done

theorem contC_plain (st : St) {i : In α} (hx : ∀ k u, i = .sinkUp k u → u = .pull) (he : ∀ j e, i ≠ .srcDown j (.err e)) :
    contC st i = .done ∨ contC st i = .od1 := by
  cases i with
  | sinkUp k u => cases hx k u rfl; exact .inl rfl
  | srcDown j d =>
    cases d with
    | err e => exact absurd rfl (he j e)
    | term => cases j <;> exact .inl rfl
    | data a =>
      cases j with
      | succ j => exact .inl rfl
      | zero =>
        cases hin : st.inner with
        | some k => exact .inr (by simp only [contC, hin])
        | none => exact .inl (by simp only [contC, hin])
  | _ => exact .inl rfl

theorem respC_subSrc {st : St} {i : In α} {j : Nat} (h : respC st i = some (.subSrc j)) :
    j = 0 ∨ (j = st.nextId ∧ st.inner = none ∧ ∃ a, i = .srcDown 0 (.data a)) := by
  obtain ⟨outer, inner, n⟩ := st
  cases i with
  | subscribe k => cases h; exact .inl rfl
  | srcGreet k => cases k <;> cases h
  | sinkUp k u => cases u <;> cases inner <;> cases outer <;> cases h
  | srcDown k d =>
    cases k with
    | zero =>
      cases inner with
      | some k' => cases d <;> cases h
      | none =>
        cases d with
        | data a => cases h; exact .inr ⟨rfl, rfl, a, rfl⟩
        | _ => cases h
    | succ k => cases d <;> cases outer <;> cases h

theorem respC_data {st : St} {i : In α} {k : Nat} {b : α} (h : respC st i = some (.down k (.data b))) :
    ∃ j, i = .srcDown (j+1) (.data b) := by
  obtain ⟨outer, inner, n⟩ := st
  cases i with
  | subscribe k => cases h
  | srcGreet k => cases k <;> cases h
  | sinkUp k u => cases u <;> cases inner <;> cases outer <;> cases h
  | srcDown j d =>
    cases j with
    | zero => cases d <;> cases inner <;> cases h
    | succ j =>
      cases d with
      | data a => cases h; exact ⟨j, rfl⟩
      | _ => cases outer <;> cases h

theorem respC_greet {st : St} {i : In α} {k : Nat} (h : respC st i = some (.greet k)) : i = .srcGreet 0 := by
  obtain ⟨outer, inner, n⟩ := st
  cases i with
  | subscribe k => cases h
  | srcGreet j => cases j <;> first | rfl | cases h
  | sinkUp k u => cases u <;> cases inner <;> cases outer <;> cases h
  | srcDown j d => cases j <;> cases d <;> cases inner <;> cases outer <;> cases h

theorem stC_nextId_cases (st : St) (i : In α) :
    (stC st i).nextId = st.nextId ∨ ((stC st i).nextId = st.nextId + 1 ∧ st.inner = none ∧ ∃ a, i = .srcDown 0 (.data a)) := by
  cases i with
  | srcDown j d =>
    cases j with
    | zero =>
      cases hin : st.inner with
      | none =>
        cases d with
        | data a => exact Or.inr ⟨by simp only [stC, hin], rfl, a, rfl⟩
        | _ => exact Or.inl (by simp only [stC, hin])
      | some k => cases d <;> exact Or.inl (by simp only [stC, hin])
    | succ j =>
      cases d with
      | term => simp only [stC]; split <;> exact Or.inl rfl
      | _ => exact Or.inl rfl
  | srcGreet j => cases j <;> exact Or.inl rfl
  | _ => exact Or.inl rfl

theorem dataOut_respC {st : St} {i : In α} (h : ∀ j a, i ≠ .srcDown j (.data a)) (l : Loc α) (k : Nat) :
    dataOut k ((respC st i).map (·, l)) = [] := by
  cases hr : respC st i with
  | none => rfl
  | some o =>
    cases o with
    | down k' d =>
      cases d with
      | data b => obtain ⟨j, e⟩ := respC_data hr; exact absurd e (h _ _)
      | _ => rfl
    | _ => rfl

theorem contC_sw {st : St} {i : In α} (h : contC st i = .od1 ∨ ∃ e, contC st i = .oe1 e) :
    ∃ d k, i = .srcDown 0 d ∧ st.inner = some k := by
  cases i with
  | srcDown j d =>
    cases j with
    | zero =>
      cases hin : st.inner with
      | some k => exact ⟨d, k, rfl, rfl⟩
      | none => cases d <;> simp [contC, hin] at h
    | succ j => cases d <;> cases hout : st.outer <;> simp [contC, hout] at h
  | sinkUp k u => cases u <;> cases hin : st.inner <;> simp [contC, hin] at h
  | _ => simp [contC] at h

/-- the configuration in which a handler segment ends: inside the call `o` with continuation `l`, or returned (`Sys.ends`, with
the answer and the continuation given apart, as `respC` and `contC` give them) -/
def land (st : St) (r : Option (Out α)) (l : Loc α) (stk : List (Frame (Loc α) α)) (g : G) (tr : List (Ev α α)) :
    Sys St (Loc α) α α :=
  Sys.ends (machine α).shape st stk g tr (r.map (·, l))

theorem next_call (s : Sys St (Loc α) α α) (st : St) (i : In α) (r : Option (Out α)) (l : Loc α) :
    s.next (machine α).shape st (.call i) (r.map (·, l)) = land st r l s.stack (s.g.onIn s.stack.length i) (.inp i :: s.tr) := rfl

theorem next_ret (s : Sys St (Loc α) α α) (st : St) (r : Option (Out α)) (l : Loc α) :
    s.next (machine α).shape st .ret (r.map (·, l)) = land st r l s.stack.tail s.g (.retE :: s.tr) := rfl

def landStk (r : Option (Out α)) (l : Loc α) (stk : List (Frame (Loc α) α)) : List (Frame (Loc α) α) :=
  match r with
  | some o => .wait o l :: stk
  | none => stk

def evOf : Option (Out α) → Ev α α
  | some o => .out o
  | none => .retO

theorem evOf_out {r : Option (Out α)} {o : Out α} (h : evOf r = .out o) : r = some o := by
  cases r with
  | none => cases h
  | some o' => cases h; rfl

theorem evOf_ne_inp {r : Option (Out α)} {i : In α} : evOf r ≠ .inp i := by
  cases r <;> nofun

theorem land_st (st : St) (r : Option (Out α)) (l : Loc α) (stk : List (Frame (Loc α) α)) (g : G) (tr : List (Ev α α)) :
    (land st r l stk g tr).st = st := by cases r <;> rfl

theorem land_stack (st : St) (r : Option (Out α)) (l : Loc α) (stk : List (Frame (Loc α) α)) (g : G) (tr : List (Ev α α)) :
    (land st r l stk g tr).stack = landStk r l stk := by cases r <;> rfl

theorem land_tr (st : St) (r : Option (Out α)) (l : Loc α) (stk : List (Frame (Loc α) α)) (g : G) (tr : List (Ev α α)) :
    (land st r l stk g tr).tr = evOf r :: tr := by cases r <;> rfl

theorem land_some_ph (st : St) (o : Out α) (l : Loc α) (stk : List (Frame (Loc α) α)) (g : G) (tr : List (Ev α α)) :
    (land st (some o) l stk g tr).g.ph = g.ph.onOut o := Sys.ends_some_ph ..

theorem land_none_ph (st : St) (l : Loc α) (stk : List (Frame (Loc α) α)) (g : G) (tr : List (Ev α α)) :
    (land st none l stk g tr).g.ph = g.ph := Sys.ends_none_ph (machine α).shape ..

theorem run_call (st : St) {stk : List (Frame (Loc α) α)} (hc : (ctxOf stk).isSome) (g : G) (tr : List (Ev α α)) (i : In α) :
    advance (machine α) 3 ⟨st, .run ((machine α).enter i) :: stk, g, tr, none⟩ =
      land (stC st i) (respC st i) (contC st i) stk g tr := by
  -- a segment that ends in a call is computed; after one that returns the stack is `stk`, where the remaining steps do nothing
  have top := fun n st g tr => advance_top (machine α) n st hc g tr
  obtain ⟨outer, inner, nextId⟩ := st
  cases i with
  | subscribe k => rfl
  | srcGreet j => cases j <;> rfl
  | sinkUp k u =>
    cases inner with
    | some k' => cases u <;> rfl
    | none =>
      cases outer with
      | true => cases u <;> rfl
      | false => cases u <;> exact top _ _ _ _
  | srcDown j d =>
    cases j with
    | zero =>
      cases inner with
      | none => cases d <;> rfl
      | some k' =>
        cases d with
        | term => exact top _ _ _ _
        | _ => rfl
    | succ j => cases outer <;> cases d <;> rfl

def stR (st : St) : Loc α → St
  | .od1 => { st with nextId := st.nextId + 1 }
  | _ => st

/-- how a resumed continuation ends its segment: with a call (always a tail call), or by returning -/
def respR (st : St) : Loc α → Option (Out α)
  | .od1 => some (.subSrc st.nextId)
  | .oe1 e => some (.down 0 (.err e))
  | .ie1 e => some (.down 0 (.err e))
  | .x1 => if st.outer then some (.srcUp 0 .term) else none
  | _ => none

theorem respR_cases (st : St) (l : Loc α) : respR st l = none ∨ respR st l = some (.subSrc st.nextId) ∨
    (∃ e, respR st l = some (.down 0 (.err e))) ∨ respR st l = some (.srcUp 0 .term) := by
  cases l with
  | od1 => exact .inr (.inl rfl)
  | oe1 e => exact .inr (.inr (.inl ⟨e, rfl⟩))
  | ie1 e => exact .inr (.inr (.inl ⟨e, rfl⟩))
  | x1 => cases hout : st.outer <;> simp [respR, hout]
  | _ => exact .inl rfl

theorem dataOut_respR (st : St) (l l' : Loc α) (k : Nat) : dataOut k ((respR st l).map (·, l')) = [] := by
  rcases respR_cases st l with h | h | ⟨e, h⟩ | h <;> rw [h] <;> rfl

/-- the continuations that exist (`Benign` frames and the four named modes) -/
def Cont (l : Loc α) : Prop := l = .done ∨ l = .od1 ∨ (∃ e, l = .oe1 e) ∨ (∃ e, l = .ie1 e) ∨ l = .x1

theorem run_ret (st : St) {stk : List (Frame (Loc α) α)} (hc : (ctxOf stk).isSome) (g : G) (tr : List (Ev α α)) {l : Loc α}
    (hl : Cont l) :
    advance (machine α) 3 ⟨st, .run l :: stk, g, tr, none⟩ = land (stR st l) (respR st l) .done stk g tr := by
  have top := fun n st g tr => advance_top (machine α) n st hc g tr
  obtain ⟨outer, inner, nextId⟩ := st
  rcases hl with rfl | rfl | ⟨e, rfl⟩ | ⟨e, rfl⟩ | rfl
  · exact top _ _ _ _
  · rfl
  · rfl
  · rfl
  · cases outer with
    | true => rfl
    | false => exact top _ _ _ _

/-- mode `live`, as data -/
structure Live (st : St) (g : Ph) (stk : List (Frame (Loc α) α)) : Prop where
  sink : g.sinkPh 0 = .live
  outer : OuterOk st.outer g
  cur : ∀ k, st.inner = some k → 0 < k ∧ k < st.nextId ∧ g.srcPh k = .live
  old : ∀ i, 0 < i → i < st.nextId → st.inner ≠ some i → Dead g i
  tail : ∀ f ∈ stk, Benign f

/-- what is known at the turn where the environment calls `i` -/
def CallOk (st : St) (g : Ph) (stk : List (Frame (Loc α) α)) : In α → Prop
  | .subscribe k => k = 0 ∧ g.sinkPh 0 = .idle ∧ g.srcPh 0 = .idle ∧ stk = [] ∧ st.outer = false ∧ st.inner = none ∧ st.nextId = 1
  | .srcGreet 0 => g.sinkPh 0 = .subscribed ∧ g.srcPh 0 = .subscribed ∧ stk = [.wait (.subSrc 0) .done] ∧ st.inner = none ∧ st.nextId = 1
  | .srcGreet (j+1) => g.sinkPh 0 = .live ∧ OuterOk st.outer g ∧ st.nextId = j + 2 ∧ g.srcPh (j+1) = .subscribed ∧
      (∀ i, 0 < i → i < j + 1 → Dead g i) ∧ ∃ rest, stk = .wait (.subSrc (j+1)) .done :: rest ∧ ∀ f ∈ rest, Benign f
  | .sinkUp k _ => k = 0 ∧ Live st g stk
  | .srcDown 0 _ => st.outer = true ∧ Live st g stk
  | .srcDown (j+1) _ => st.inner = some (j+1) ∧ Live st g stk

theorem not_legal_inTerm {g : Ph} {k : Nat} {i : In α} : ¬ legalIn (machine α).shape g (.inCall (.srcUp k .term) : Ctx α) i = true := by
  rw [legalIn_inTerm _ rfl]; exact Bool.false_ne_true

theorem callOk_of_legal {st : St} {g : Ph} {stk : List (Frame (Loc α) α)} {c : Ctx α} {i : In α}
    (hidle : ∀ i, st.nextId ≤ i → g.srcPh i = .idle) (hoths : ∀ k, k ≠ 0 → g.sinkPh k = .idle) (hm : Mode st g stk)
    (hc : ctxOf stk = some c) (hl : legalIn (machine α).shape g c i = true) : CallOk st g stk i := by
  -- the callee of a `Terminate` cannot call: no move in the four transient modes
  have hT : ∀ {k l}, (∃ rest, stk = .wait (.srcUp k .term) l :: rest ∧ ∀ f ∈ rest, Benign f) → CallOk st g stk i := by
    rintro k l ⟨rest, rfl, _⟩; cases hc; exact absurd hl not_legal_inTerm
  have hk0 : ∀ {k}, g.sinkPh k = .live → k = 0 := by
    intro k h; apply Classical.byContradiction; intro hk; rw [hoths k hk] at h; cases h
  cases hm with
  | od1 _ _ _ _ h | oe1 _ _ _ _ h | ie1 _ _ _ h | x1 _ _ _ _ h => exact hT h
  | init h1 h2 h3 h4 h5 h6 =>
    have hall : ∀ j, g.srcPh j = .idle := fun j => by
      by_cases hj : j = 0
      · rw [hj]; exact h2
      · exact hidle j (by omega)
    cases i with
    | subscribe k =>
      simp only [legalIn, Bool.and_eq_true, beq_iff_eq, machine, Bool.or_false] at hl
      exact ⟨hl.2, h1, h2, h3, h4, h5, h6⟩
    | sinkUp k u =>
      simp only [legalIn, Bool.and_eq_true, beq_iff_eq] at hl
      have := hk0 hl.1; subst this; rw [h1] at hl; cases hl.1
    | srcGreet j => simp only [legalIn, Bool.and_eq_true, beq_iff_eq, hall j] at hl; cases hl.1
    | srcDown j d => simp only [legalIn, Bool.and_eq_true, beq_iff_eq, hall j] at hl; cases hl.1
  | sub h1 h2 h3 h4 h5 h6 =>
    subst h3; cases hc
    have hsrc : ∀ j, g.srcPh j ≠ .live := fun j => by
      by_cases hj : j = 0
      · rw [hj, h2]; exact SrcPh.noConfusion
      · rw [hidle j (by omega)]; exact SrcPh.noConfusion
    cases i with
    | subscribe k => simp [legalIn, isTop] at hl
    | sinkUp k u =>
      simp only [legalIn, Bool.and_eq_true, beq_iff_eq] at hl
      have := hk0 hl.1; subst this; rw [h1] at hl; cases hl.1
    | srcGreet j =>
      simp only [legalIn, Bool.and_eq_true, beq_iff_eq, machine, Bool.false_and, Bool.or_false, inSub] at hl
      obtain ⟨_, rfl⟩ := hl
      exact ⟨h1, h2, rfl, h5, h6⟩
    | srcDown j d => simp only [legalIn, Bool.and_eq_true, beq_iff_eq] at hl; exact absurd hl.1 (hsrc j)
  | live h1 h2 h3 h4 h5 =>
    have hlive : Live st g stk := ⟨h1, h2, h3, h4, h5⟩
    cases i with
    | subscribe k =>
      simp only [legalIn, Bool.and_eq_true, beq_iff_eq, machine, Bool.or_false] at hl
      obtain ⟨⟨_, hi⟩, rfl⟩ := hl; rw [h1] at hi; cases hi
    | sinkUp k u =>
      simp only [legalIn, Bool.and_eq_true, beq_iff_eq] at hl
      exact ⟨hk0 hl.1, hlive⟩
    | srcGreet j =>
      simp only [legalIn, Bool.and_eq_true, beq_iff_eq] at hl
      exact absurd hl.1 (live_not_subscribed h2 hidle h3 h4 j)
    | srcDown j d =>
      simp only [legalIn, Bool.and_eq_true, beq_iff_eq] at hl
      cases j with
      | zero =>
        refine ⟨?_, hlive⟩
        cases hout : st.outer with
        | true => rfl
        | false => exact absurd hl.1 (h2.2 hout).off.1
      | succ j =>
        refine ⟨Classical.byContradiction fun hcur => ?_, hlive⟩
        exact absurd hl.1 (off_inner hidle h4 (j+1) (by omega) hcur).1
  | wgreet j h1 h2 h3 h4 h5 h6 h7 =>
    obtain ⟨rest, rfl, hrest⟩ := h7
    cases hc
    cases i with
    | subscribe k => simp [legalIn, isTop] at hl
    | sinkUp k u => simp [legalIn, isTop, inGreet, inData] at hl
    | srcGreet i =>
      simp only [legalIn, Bool.and_eq_true, beq_iff_eq, machine, Bool.false_and, Bool.or_false, inSub] at hl
      obtain ⟨_, rfl⟩ := hl
      cases i with
      | zero => cases h3
      | succ i => exact ⟨h1, h2, h4, h5, h6, rest, rfl, hrest⟩
    | srcDown i d =>
      simp only [legalIn, Bool.and_eq_true, beq_iff_eq, isTop, inSub, inPull, Bool.false_or, Bool.or_false] at hl
      obtain ⟨hi, rfl⟩ := hl; rw [h5] at hi; cases hi
  | fin h1 h2 h3 =>
    cases i with
    | subscribe k =>
      simp only [legalIn, Bool.and_eq_true, beq_iff_eq, machine, Bool.or_false] at hl
      obtain ⟨⟨_, hi⟩, rfl⟩ := hl; rcases h1 with h1 | h1 <;> rw [hi] at h1 <;> cases h1
    | sinkUp k u =>
      simp only [legalIn, Bool.and_eq_true, beq_iff_eq] at hl
      have := hk0 hl.1; subst this; rcases h1 with h1 | h1 <;> rw [hl.1] at h1 <;> cases h1
    | srcGreet j => simp only [legalIn, Bool.and_eq_true, beq_iff_eq] at hl; exact absurd hl.1 (h2 j).2
    | srcDown j d => simp only [legalIn, Bool.and_eq_true, beq_iff_eq] at hl; exact absurd hl.1 (h2 j).1

theorem cons_done {o : Out α} {stk : List (Frame (Loc α) α)} (h : ∀ f ∈ stk, Benign f) :
    ∀ f ∈ Frame.wait o Loc.done :: stk, Benign f :=
  List.forall_mem_cons.2 ⟨trivial, h⟩

theorem CallOk.benign {st : St} {g : Ph} {stk : List (Frame (Loc α) α)} {i : In α} (h : CallOk st g stk i) : ∀ f ∈ stk, Benign f := by
  cases i with
  | subscribe k => obtain ⟨_, _, _, rfl, _⟩ := h; exact fun _ hf => by cases hf
  | sinkUp k u => exact h.2.tail
  | srcGreet j =>
    cases j with
    | zero => obtain ⟨_, _, rfl, _⟩ := h; exact cons_done fun _ hf => by cases hf
    | succ j => obtain ⟨_, _, _, _, _, rest, rfl, hrest⟩ := h; exact cons_done hrest
  | srcDown j d => cases j <;> exact h.2.tail

theorem CallOk.sink0 {st : St} {g : Ph} {stk : List (Frame (Loc α) α)} {i : In α} (h : CallOk st g stk i) :
    g.sinkPh 0 = .idle ∨ g.sinkPh 0 = .subscribed ∨ g.sinkPh 0 = .live := by
  cases i with
  | subscribe k => exact .inl h.2.1
  | sinkUp k u => exact .inr (.inr h.2.sink)
  | srcGreet j => cases j <;> first | exact .inr (.inl h.1) | exact .inr (.inr h.1)
  | srcDown j d => cases j <;> exact .inr (.inr h.2.sink)

def isLinkCall : In α → Bool
  | .sinkUp _ _ => true
  | .srcDown _ _ => true
  | _ => false

theorem CallOk.live {st : St} {g : Ph} {stk : List (Frame (Loc α) α)} {i : In α} (h : CallOk st g stk i)
    (hi : isLinkCall i = true) :
    Live st g stk ∧ (∀ j d, i = .srcDown (j+1) d → st.inner = some (j+1)) ∧ ∀ k u, i = .sinkUp k u → k = 0 := by
  cases i with
  | subscribe k => cases hi
  | srcGreet j => cases hi
  | sinkUp k u => exact ⟨h.2, nofun, fun _ _ e => by cases e; exact h.1⟩
  | srcDown j d =>
    cases j with
    | zero => exact ⟨h.2, nofun, nofun⟩
    | succ j => exact ⟨h.2, fun _ _ e => by cases e; exact h.1, nofun⟩

/-- what is known when the continuation `l` is resumed -/
def RetOk (st : St) (g : Ph) : Loc α → Prop
  | .done => ∀ stk : List (Frame (Loc α) α), (∀ f ∈ stk, Benign f) → Mode st g stk
  | .od1 => g.sinkPh 0 = .live ∧ OuterOk st.outer g ∧ ∀ i, 0 < i → i < st.nextId → Dead g i
  | .oe1 _ => g.sinkPh 0 = .live ∧ Quiet g
  | .ie1 _ => g.sinkPh 0 = .live ∧ Quiet g
  | .x1 => g.sinkPh 0 = .doneBySelf ∧ OuterOk st.outer g ∧ ∀ i, 0 < i → Off g i
  | _ => False

theorem RetOk.cont {st : St} {g : Ph} {l : Loc α} (h : RetOk st g l) : Cont l := by
  cases l <;> first | exact h.elim | simp [Cont]

/-- a source that still has to greet cannot return, so only tail calls and the four named continuations are resumed -/
theorem retOk_of_legal {st : St} {g : Ph} {stk : List (Frame (Loc α) α)} {o : Out α} {l : Loc α}
    (hm : Mode st g (.wait o l :: stk)) (hl : legalRet (machine α).shape g (.inCall o : Ctx α) = true) :
    (∀ f ∈ stk, Benign f) ∧ RetOk st g l := by
  have hben : ∀ {P : Prop}, (∀ f ∈ Frame.wait o l :: stk, Benign f) → (l = .done → P) → P := by
    intro P h hP
    have := h _ List.mem_cons_self
    cases l <;> first | exact hP rfl | exact this.elim
  cases hm with
  | init _ _ h => cases h
  | sub _ h2 h => cases h; simp [legalRet, h2, machine] at hl
  | live h1 h2 h3 h4 h5 => exact hben h5 fun e => e ▸ ⟨(List.forall_mem_cons.1 h5).2, fun _ h => Mode.live h1 h2 h3 h4 h⟩
  | wgreet j _ _ _ _ h5 _ h => obtain ⟨rest, e, _⟩ := h; cases e; simp [legalRet, h5, machine] at hl
  | od1 k h1 h2 h3 h => obtain ⟨rest, e, hrest⟩ := h; cases e; exact ⟨hrest, h1, h2, h3⟩
  | oe1 k e h1 h2 h => obtain ⟨rest, e, hrest⟩ := h; cases e; exact ⟨hrest, h1, h2⟩
  | ie1 e h1 h2 h => obtain ⟨rest, e, hrest⟩ := h; cases e; exact ⟨hrest, h1, h2⟩
  | x1 k h1 h2 h3 h => obtain ⟨rest, e, hrest⟩ := h; cases e; exact ⟨hrest, h1, h2, h3⟩
  | fin h1 h2 h3 => exact hben h3 fun e => e ▸ ⟨(List.forall_mem_cons.1 h3).2, fun _ h => Mode.fin h1 h2 h⟩

inductive Macro (s : Sys St (Loc α) α α) : Move α → St → Option (Out α × Loc α) → Prop where
  | call (i : In α) : CallOk s.st s.g.ph s.stack i → Macro s (.call i) (stC s.st i) ((respC s.st i).map (·, contC s.st i))
  | ret {o l stk} : s.stack = .wait o l :: stk → (∀ f ∈ stk, Benign f) → RetOk s.st s.g.ph l →
      Macro s .ret (stR s.st l) ((respR s.st l).map (·, .done))

theorem inv_land_some {st : St} {o : Out α} {l : Loc α} {stk : List (Frame (Loc α) α)} {g : G} {tr : List (Ev α α)} {ph : Ph}
    (hph : g.ph.onOut o = ph) (hv : ph.viols = []) (hpos : 0 < st.nextId) (hidle : ∀ i, st.nextId ≤ i → ph.srcPh i = .idle)
    (hoths : ∀ k, k ≠ 0 → ph.sinkPh k = .idle) (hm : Mode st ph (.wait o l :: stk)) : Inv (land st (some o) l stk g tr) := by
  subst hph; exact ⟨rfl, (land_some_ph ..).symm ▸ hv, hpos, (land_some_ph ..).symm ▸ hidle, (land_some_ph ..).symm ▸ hoths,
    (land_some_ph ..).symm ▸ hm⟩

theorem inv_land_none {st : St} {l : Loc α} {stk : List (Frame (Loc α) α)} {g : G} {tr : List (Ev α α)} {ph : Ph}
    (hph : g.ph = ph) (hv : ph.viols = []) (hpos : 0 < st.nextId) (hidle : ∀ i, st.nextId ≤ i → ph.srcPh i = .idle)
    (hoths : ∀ k, k ≠ 0 → ph.sinkPh k = .idle) (hm : Mode st ph stk) : Inv (land st none l stk g tr) := by
  subst hph; exact ⟨rfl, (land_none_ph ..).symm ▸ hv, hpos, (land_none_ph ..).symm ▸ hidle, (land_none_ph ..).symm ▸ hoths,
    (land_none_ph ..).symm ▸ hm⟩

theorem Live.mode {st : St} {g : Ph} {stk : List (Frame (Loc α) α)} (h : Live st g stk) : Mode st g stk :=
  .live h.sink h.outer h.cur h.old h.tail

theorem Live.push {st : St} {g : Ph} {stk : List (Frame (Loc α) α)} (h : Live st g stk) (o : Out α) :
    Mode st g (.wait o .done :: stk) :=
  .live h.sink h.outer h.cur h.old (cons_done h.tail)

theorem inv_land {s : Sys St (Loc α) α α} {m : Move α} {st : St} {r : Option (Out α × Loc α)} (h : Inv s) (hm : Macro s m st r) :
    Inv (s.next (machine α).shape st m r) := by
  obtain ⟨_, hb, hpos, hidle, hoths, _⟩ := h
  obtain ⟨st, stk, g, tr, _⟩ := s
  simp only at hb hpos hidle hoths
  cases hm with
  | call i hok =>
    rw [next_call]
    simp only at hok ⊢
    cases i with
    | subscribe k =>
      obtain ⟨rfl, h1, h2, rfl, h4, h5, h6⟩ := hok
      have hopen : (g.ph.setSink 0 .subscribed).anySinkOpen = true := (Ph.anySinkOpen_iff _).2 ⟨0, Or.inl (Ph.sinkPh_setSink_self ..)⟩
      exact inv_land_some (ph := (g.ph.setSink 0 .subscribed).setSrc 0 .subscribed)
        (by rw [onIn_ph]; exact Ph.onOut_subSrc h2 hopen) hb hpos (aboveIdle_setSrc (g := g.ph.setSink 0 .subscribed) hidle hpos _)
        (othersIdle_setSink hoths _) (Mode.sub (Ph.sinkPh_setSink_self ..) (Ph.srcPh_setSrc_self ..) rfl h4 h5 h6)
    | sinkUp k u =>
      obtain ⟨rfl, H⟩ := hok
      have hoff : st.inner = none → ∀ i, 0 < i → Off g.ph i := fun hin i hi => off_inner hidle H.old i hi (by simp [hin])
      cases u with
      | pull =>
        cases hin : st.inner with
        | some k =>
          simp only [stC, respC, contC, hin]
          exact inv_land_some (ph := g.ph) (by rw [onIn_ph]; exact Ph.onOut_pull (H.cur k hin).2.2) hb hpos hidle hoths (H.push _)
        | none =>
          cases hout : st.outer with
          | true =>
            simp only [stC, respC, contC, hin, hout, if_true]
            exact inv_land_some (ph := g.ph) (by rw [onIn_ph]; exact Ph.onOut_pull (H.outer.1 hout)) hb hpos hidle hoths (H.push _)
          | false =>
            simp only [stC, respC, contC, hin, hout, Bool.false_eq_true, if_false]
            exact inv_land_none (onIn_ph ..) hb hpos hidle hoths H.mode
      | term | err _ =>
        cases hin : st.inner with
        | some k =>
          obtain ⟨hk0, hkn, hkl⟩ := H.cur k hin
          simp only [stC, respC, contC, hin]
          refine inv_land_some (ph := (g.ph.setSink 0 .doneBySelf).setSrc k .disposed) (by rw [onIn_ph]; exact onOut_term hkl) hb hpos
            (aboveIdle_setSrc (g := g.ph.setSink 0 .doneBySelf) hidle hkn _) (othersIdle_setSink hoths _)
            (Mode.x1 k (Ph.sinkPh_setSink_self g.ph 0 _) (OuterOk.setSrc (g := g.ph.setSink 0 .doneBySelf) H.outer hk0 _) ?_ ⟨stk, rfl, H.tail⟩)
          exact fun i hi => off_setSrc_of (by decide) fun hne => off_inner hidle H.old i hi (by rw [hin]; simpa using Ne.symm hne)
        | none =>
          cases hout : st.outer with
          | true =>
            simp only [stC, respC, contC, hin, hout, if_true]
            refine inv_land_some (ph := (g.ph.setSink 0 .doneBySelf).setSrc 0 .disposed)
              (by rw [onIn_ph]; exact onOut_term (H.outer.1 hout)) hb hpos
              (aboveIdle_setSrc (g := g.ph.setSink 0 .doneBySelf) hidle hpos _) (othersIdle_setSink hoths _)
              (Mode.fin (Or.inr (Ph.sinkPh_setSink_self g.ph 0 _)) ?_ (cons_done H.tail))
            exact fun i => off_setSrc_of (by decide) fun hne => hoff hin i (Nat.pos_of_ne_zero hne)
          | false =>
            simp only [stC, respC, contC, hin, hout, Bool.false_eq_true, if_false]
            refine inv_land_none (ph := g.ph.setSink 0 .doneBySelf) (onIn_ph ..) hb hpos hidle (othersIdle_setSink hoths _)
              (Mode.fin (Or.inr (Ph.sinkPh_setSink_self ..)) ?_ H.tail)
            intro i
            by_cases hi : i = 0
            · rw [hi]; exact (H.outer.2 hout).off
            · exact hoff hin i (Nat.pos_of_ne_zero hi)
    | srcGreet j =>
      cases j with
      | zero =>
        obtain ⟨h1, h2, rfl, h5, h6⟩ := hok
        simp only [stC, respC, contC]
        exact inv_land_some (ph := (g.ph.setSrc 0 .live).setSink 0 .live) (by rw [onIn_ph]; exact Ph.onOut_greet h1) hb hpos
          (aboveIdle_setSrc hidle hpos _) (othersIdle_setSink (g := g.ph.setSrc 0 .live) hoths _)
          (Mode.live (Ph.sinkPh_setSink_self ..) ⟨fun _ => Ph.srcPh_setSrc_self g.ph 0 _, fun h => by cases h⟩ (fun k h => by cases h5.symm.trans h)
            (fun i hi (hlt : i < st.nextId) _ => absurd (Nat.lt_of_lt_of_eq hlt h6) (Nat.not_lt.2 hi)) (cons_done (cons_done fun _ hf => by cases hf)))
      | succ j =>
        obtain ⟨h1, h2, h4, h5, h6, rest, rfl, hrest⟩ := hok
        have hlt : j + 1 < st.nextId := h4 ▸ Nat.lt_succ_self (j+1)
        simp only [stC, respC, contC]
        refine inv_land_some (ph := g.ph.setSrc (j+1) .live) (by rw [onIn_ph]; exact Ph.onOut_pull (Ph.srcPh_setSrc_self ..)) hb hpos
          (aboveIdle_setSrc hidle hlt _) hoths
          (Mode.live h1 (h2.setSrc (Nat.succ_pos j) _)
            (fun k (hk : some (j+1) = some k) => by cases hk; exact ⟨Nat.succ_pos j, hlt, Ph.srcPh_setSrc_self ..⟩) ?_
            (cons_done (cons_done hrest)))
        intro i hi (hlt' : i < st.nextId) (hne : some (j+1) ≠ some i)
        have hne' : i ≠ j + 1 := fun e => hne (by rw [e])
        exact (h6 i hi (Nat.lt_of_le_of_ne (Nat.le_of_lt_succ (Nat.lt_of_lt_of_eq hlt' h4)) hne')).setSrc_ne hne' _
    | srcDown j d =>
      cases j with
      | zero =>
        obtain ⟨hout, H⟩ := hok
        have h0 := H.outer.1 hout
        have hoff : st.inner = none → ∀ i, 0 < i → Off g.ph i := fun hin i hi => off_inner hidle H.old i hi (by simp [hin])
        cases d with
        | data a =>
          cases hin : st.inner with
          | some k =>
            obtain ⟨hk0, hkn, hkl⟩ := H.cur k hin
            simp only [stC, respC, contC, hin]
            refine inv_land_some (ph := g.ph.setSrc k .disposed) (by rw [onIn_ph]; exact onOut_term hkl) hb hpos
              (aboveIdle_setSrc hidle hkn _) hoths (Mode.od1 k H.sink (H.outer.setSrc hk0 _) ?_ ⟨stk, rfl, H.tail⟩)
            exact fun i hi hlt => dead_setSrc_of (Or.inr rfl) fun hne => H.old i hi hlt (by rw [hin]; simpa using Ne.symm hne)
          | none =>
            have hopen : g.ph.anySinkOpen = true := (Ph.anySinkOpen_iff _).2 ⟨0, Or.inr H.sink⟩
            simp only [stC, respC, contC, hin]
            refine inv_land_some (ph := g.ph.setSrc st.nextId .subscribed)
              (by rw [onIn_ph]; exact Ph.onOut_subSrc (hidle _ (Nat.le_refl _)) hopen) hb (Nat.succ_pos _)
              (aboveIdle_setSrc (n := st.nextId + 1) (fun i hi => hidle i (Nat.le_of_succ_le hi)) (Nat.lt_succ_self _) _) hoths
              (Mode.wgreet st.nextId H.sink (H.outer.setSrc hpos _) hpos rfl (Ph.srcPh_setSrc_self ..) ?_ ⟨stk, rfl, H.tail⟩)
            exact fun i hi hlt => (H.old i hi hlt (by simp [hin])).setSrc_ne (Nat.ne_of_lt hlt) _
        | term =>
          cases hin : st.inner with
          | some k =>
            obtain ⟨hk0, hkn, hkl⟩ := H.cur k hin
            simp only [stC, respC, contC, hin, Option.isNone_some, Bool.false_eq_true, if_false]
            refine inv_land_none (ph := g.ph.setSrc 0 .ended) (onIn_ph ..) hb hpos (aboveIdle_setSrc hidle hpos _) hoths
              (Mode.live H.sink ⟨(fun h => by cases h), fun _ => Or.inl (Ph.srcPh_setSrc_self ..)⟩ ?_ ?_ H.tail)
            · intro k' hk'
              cases hk'
              exact ⟨hk0, hkn, (Ph.srcPh_setSrc_ne _ _ (Nat.ne_of_gt hk0)).trans hkl⟩
            · exact fun i hi (hlt : i < st.nextId) hne => (H.old i hi hlt (by rw [hin]; exact hne)).setSrc_ne (Nat.ne_of_gt hi) _
          | none =>
            simp only [stC, respC, contC, hin, Option.isNone_none, if_true]
            refine inv_land_some (ph := (g.ph.setSrc 0 .ended).setSink 0 .doneBySrc) (by rw [onIn_ph]; exact Ph.onOut_final (g := g.ph.setSrc 0 .ended) (d := .term) H.sink rfl)
              hb hpos (aboveIdle_setSrc hidle hpos _) (othersIdle_setSink (g := g.ph.setSrc 0 .ended) hoths _)
              (Mode.fin (Or.inl (Ph.sinkPh_setSink_self ..)) ?_ (cons_done H.tail))
            exact fun i => off_setSrc_of (by decide) fun hne => hoff hin i (Nat.pos_of_ne_zero hne)
        | err e =>
          cases hin : st.inner with
          | some k =>
            obtain ⟨hk0, hkn, hkl⟩ := H.cur k hin
            simp only [stC, respC, contC, hin]
            refine inv_land_some (ph := (g.ph.setSrc 0 .ended).setSrc k .disposed)
              (by rw [onIn_ph]; exact onOut_term ((Ph.srcPh_setSrc_ne _ _ (Nat.ne_of_gt hk0)).trans hkl)) hb hpos
              (aboveIdle_setSrc (aboveIdle_setSrc hidle hpos _) hkn _) hoths (Mode.oe1 k e H.sink ?_ ⟨stk, rfl, H.tail⟩)
            exact fun i => off_setSrc_of (by decide) fun hne => off_setSrc_of (by decide) fun hne0 =>
              off_inner hidle H.old i (Nat.pos_of_ne_zero hne0) (by rw [hin]; simpa using Ne.symm hne)
          | none =>
            simp only [stC, respC, contC, hin]
            refine inv_land_some (ph := (g.ph.setSrc 0 .ended).setSink 0 .doneBySrc) (by rw [onIn_ph]; exact Ph.onOut_final (g := g.ph.setSrc 0 .ended) (d := (.err e)) H.sink rfl)
              hb hpos (aboveIdle_setSrc hidle hpos _) (othersIdle_setSink (g := g.ph.setSrc 0 .ended) hoths _)
              (Mode.fin (Or.inl (Ph.sinkPh_setSink_self ..)) ?_ (cons_done H.tail))
            exact fun i => off_setSrc_of (by decide) fun hne => hoff hin i (Nat.pos_of_ne_zero hne)
      | succ j =>
        obtain ⟨hcur, H⟩ := hok
        obtain ⟨hk0, hkn, hkl⟩ := H.cur _ hcur
        have hoff : ∀ i, 0 < i → i ≠ j + 1 → Off g.ph i :=
          fun i hi hne => off_inner hidle H.old i hi (by rw [hcur]; simpa using Ne.symm hne)
        cases d with
        | data a =>
          simp only [stC, respC, contC]
          exact inv_land_some (ph := g.ph) (by rw [onIn_ph]; exact Ph.onOut_data H.sink a) hb hpos hidle hoths (H.push _)
        | term =>
          cases hout : st.outer with
          | true =>
            simp only [stC, respC, contC, if_pos hout]
            refine inv_land_some (ph := g.ph.setSrc (j+1) .ended)
              (by rw [onIn_ph]; exact Ph.onOut_pull ((Ph.srcPh_setSrc_ne _ _ (Nat.succ_ne_zero j).symm).trans (H.outer.1 hout))) hb hpos
              (aboveIdle_setSrc hidle hkn _) hoths
              (Mode.live H.sink (H.outer.setSrc hk0 _) (fun k hk => by cases hk) ?_ (cons_done H.tail))
            exact fun i hi (hlt : i < st.nextId) _ => dead_setSrc_of (Or.inl rfl) fun hne =>
              H.old i hi hlt (by rw [hcur]; simpa using Ne.symm hne)
          | false =>
            simp only [stC, respC, contC, hout, Bool.false_eq_true, if_false]
            refine inv_land_some (ph := (g.ph.setSrc (j+1) .ended).setSink 0 .doneBySrc)
              (by rw [onIn_ph]; exact Ph.onOut_final (g := g.ph.setSrc (j+1) .ended) (d := .term) H.sink rfl) hb hpos (aboveIdle_setSrc hidle hkn _)
              (othersIdle_setSink (g := g.ph.setSrc (j+1) .ended) hoths _) (Mode.fin (Or.inl (Ph.sinkPh_setSink_self ..)) ?_ (cons_done H.tail))
            intro i
            refine off_setSrc_of (by decide) fun hne => ?_
            by_cases hi : i = 0
            · rw [hi]; exact (H.outer.2 hout).off
            · exact hoff i (Nat.pos_of_ne_zero hi) hne
        | err e =>
          cases hout : st.outer with
          | true =>
            simp only [stC, respC, contC, hout, if_true]
            refine inv_land_some (ph := (g.ph.setSrc (j+1) .ended).setSrc 0 .disposed)
              (by rw [onIn_ph]; exact onOut_term ((Ph.srcPh_setSrc_ne _ _ (Nat.succ_ne_zero j).symm).trans (H.outer.1 hout))) hb hpos
              (aboveIdle_setSrc (aboveIdle_setSrc hidle hkn _) hpos _) hoths (Mode.ie1 e H.sink ?_ ⟨stk, rfl, H.tail⟩)
            exact fun i => off_setSrc_of (by decide) fun hne0 => off_setSrc_of (by decide) fun hne => hoff i (Nat.pos_of_ne_zero hne0) hne
          | false =>
            simp only [stC, respC, contC, hout, Bool.false_eq_true, if_false]
            refine inv_land_some (ph := (g.ph.setSrc (j+1) .ended).setSink 0 .doneBySrc)
              (by rw [onIn_ph]; exact Ph.onOut_final (g := g.ph.setSrc (j+1) .ended) (d := (.err e)) H.sink rfl) hb hpos (aboveIdle_setSrc hidle hkn _)
              (othersIdle_setSink (g := g.ph.setSrc (j+1) .ended) hoths _) (Mode.fin (Or.inl (Ph.sinkPh_setSink_self ..)) ?_ (cons_done H.tail))
            intro i
            refine off_setSrc_of (by decide) fun hne => ?_
            by_cases hi : i = 0
            · rw [hi]; exact (H.outer.2 hout).off
            · exact hoff i (Nat.pos_of_ne_zero hi) hne
  | @ret o l stk hstk hrest hok =>
    cases hstk
    rw [next_ret]
    simp only at hok ⊢
    cases l with
    | done => exact inv_land_none rfl hb hpos hidle hoths (hok stk hrest)
    | od1 =>
      obtain ⟨h1, h2, h3⟩ := hok
      have hopen : g.ph.anySinkOpen = true := (Ph.anySinkOpen_iff _).2 ⟨0, Or.inr h1⟩
      simp only [stR, respR]
      refine inv_land_some (ph := g.ph.setSrc st.nextId .subscribed) (Ph.onOut_subSrc (hidle _ (Nat.le_refl _)) hopen) hb
        (Nat.succ_pos _) (aboveIdle_setSrc (n := st.nextId + 1) (fun i hi => hidle i (Nat.le_of_succ_le hi)) (Nat.lt_succ_self _) _) hoths
        (Mode.wgreet st.nextId h1 (h2.setSrc hpos _) hpos rfl (Ph.srcPh_setSrc_self ..) ?_ ⟨stk, rfl, hrest⟩)
      exact fun i hi hlt => (h3 i hi hlt).setSrc_ne (Nat.ne_of_lt hlt) _
    | oe1 e | ie1 e =>
      simp only [stR, respR]
      exact inv_land_some (ph := g.ph.setSink 0 .doneBySrc) (Ph.onOut_final (d := .err e) hok.1 rfl) hb hpos hidle (othersIdle_setSink hoths _)
        (Mode.fin (Or.inl (Ph.sinkPh_setSink_self ..)) hok.2 (cons_done hrest))
    | x1 =>
      obtain ⟨h1, h2, h3⟩ := hok
      cases hout : st.outer with
      | true =>
        simp only [stR, respR, hout, if_true]
        refine inv_land_some (ph := g.ph.setSrc 0 .disposed) (onOut_term (h2.1 hout)) hb hpos (aboveIdle_setSrc hidle hpos _) hoths
          (Mode.fin (Or.inr h1) ?_ (cons_done hrest))
        exact fun i => off_setSrc_of (by decide) fun hne => h3 i (Nat.pos_of_ne_zero hne)
      | false =>
        simp only [stR, respR, hout, Bool.false_eq_true, if_false]
        refine inv_land_none rfl hb hpos hidle hoths (Mode.fin (Or.inr h1) ?_ hrest)
        intro i
        by_cases hi : i = 0
        · rw [hi]; exact (h2.2 hout).off
        · exact h3 i (Nat.pos_of_ne_zero hi)
    | _ => exact hok.elim

theorem macro_step {s s' : Sys St (Loc α) α α} {m : Move α} (h : Inv s) (hs : EnvStep (machine α) m s s') :
    Lands (machine α) Macro Inv (fun _ => True) s s' m := by
  have ⟨_, _, _, hidle, hoths, hm⟩ := h
  cases hs with
  | call i hc hl =>
    have hok := Macro.call i (callOk_of_legal hidle hoths hm hc hl)
    exact ⟨_, _, hok, ⟨3, run_call _ (by rw [hc]; rfl) _ _ i⟩, inv_land h hok, id⟩
  | ret hl =>
    obtain ⟨hrest, hok⟩ := retOk_of_legal hm hl
    have hok' := Macro.ret rfl hrest hok
    exact ⟨_, _, hok', ⟨3, run_ret _ (ctx_isSome_of_waits (fun _ => id) hrest) _ _ hok.cont⟩, inv_land h hok', id⟩

theorem inv_of_turn {s : Sys St (Loc α) α α} (hs : SReach (machine α) s) (ht : EnvTurn s) : Inv s :=
  Lands.inv_at_turn inv_init (fun s hi => (inv_turn s hi).1) macro_step hs ht

/-- flatten: under every conformant environment (re-entrant sink, synchronous or deferred outer and inner sources), the
operator never violates the sink- or source-side protocol and never panics. -/
theorem flatten_basicSafe {α : Type} : ∀ s, SReach (machine α) s → BasicSafe s :=
  Lands.basicSafe inv_init inv_turn macro_step

end Cb.Flatten

#print axioms Cb.Flatten.flatten_basicSafe
