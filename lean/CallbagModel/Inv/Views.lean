import CallbagModel.Props
/-!
# Side views of a trace

A trace `Sys.tr : List (Ev α γ)` records the events at every boundary of a machine, newest first.  A side view keeps the events of
one boundary, in the vocabulary of that boundary: `sinkEvs` (between the machine and its sinks) and `srcEvs` (between the machine and
its upstreams).  `dualEvs` reads the sink side of a component from the other end of the wire, as source-side events of the component
downstream; `dualJ j` does the same for a component in upstream slot `j`.  Every view is a `List.filterMap` or a `List.filter`, and
the general lemmas use nothing else.

The projections of a composite onto its components (`TrRel` for `compose`, `TrRelP` for `plug`) are equations between side views, so
what is a function of a side view passes from a composite to its components and back: the folds through which the trace projections
of `Props.lean` factor; `lastPull k` / `lastPullSrc i` (the last of {Pull, delivery} at sink `k` / upstream `i` is a Pull); and
`Before sel Φ`, the shape of the guards "data only in answer to a Pull" (`POk`), "the terminal only in answer to a Pull" (`EOk`),
"a Pull only while more is wanted" (`DemOk`) and of their source-side twins.
-/
namespace Cb
namespace ComposeFun

section Views
variable {α β γ : Type}

inductive SinkEv (γ : Type) where
  | subscribe (k : Nat) | up (k : Nat) (u : Up) | greet (k : Nat) | down (k : Nat) (d : Down γ) | app (b : γ)

inductive SrcEv (α : Type) where
  | greet (i : Nat) | down (i : Nat) (d : Down α) | sub (i : Nat) | up (i : Nat) (u : Up)

def sinkEv : Ev α γ → Option (SinkEv γ)
  | .inp (.subscribe k) => some (.subscribe k)
  | .inp (.sinkUp k u) => some (.up k u)
  | .inp (.srcGreet _) => none
  | .inp (.srcDown _ _) => none
  | .out (.greet k) => some (.greet k)
  | .out (.down k d) => some (.down k d)
  | .out (.app b) => some (.app b)
  | .out (.subSrc _) => none
  | .out (.srcUp _ _) => none
  | .retE => none
  | .retO => none
  | .panic => none

def srcEv : Ev α γ → Option (SrcEv α)
  | .inp (.subscribe _) => none
  | .inp (.sinkUp _ _) => none
  | .inp (.srcGreet i) => some (.greet i)
  | .inp (.srcDown i d) => some (.down i d)
  | .out (.greet _) => none
  | .out (.down _ _) => none
  | .out (.app _) => none
  | .out (.subSrc i) => some (.sub i)
  | .out (.srcUp i u) => some (.up i u)
  | .retE => none
  | .retO => none
  | .panic => none

/-- a sink-side event of the upstream-side component, seen from the downstream-side component -/
def dual : SinkEv β → Option (SrcEv β)
  | .subscribe k => some (.sub k)
  | .up k u => some (.up k u)
  | .greet k => some (.greet k)
  | .down k d => some (.down k d)
  | .app _ => none

def consOpt {X : Type} : Option X → List X → List X
  | some x, l => x :: l
  | none, l => l

@[simp] theorem consOpt_some {X : Type} (x : X) (l : List X) : consOpt (some x) l = x :: l := rfl
@[simp] theorem consOpt_none {X : Type} (l : List X) : consOpt none l = l := rfl

theorem mem_consOpt {X : Type} {x : X} {o : Option X} {l : List X} : x ∈ consOpt o l ↔ o = some x ∨ x ∈ l := by
  cases o with
  | none => exact ⟨.inr, fun h => h.resolve_left nofun⟩
  | some y => exact List.mem_cons.trans (or_congr_left ⟨fun h => h ▸ rfl, fun h => (Option.some.inj h).symm⟩)

def sinkEvs : List (Ev α γ) → List (SinkEv γ)
  | [] => []
  | e :: t => consOpt (sinkEv e) (sinkEvs t)

def srcEvs : List (Ev α γ) → List (SrcEv α)
  | [] => []
  | e :: t => consOpt (srcEv e) (srcEvs t)

theorem mem_srcEvs_cons {x : SrcEv α} {e : Ev α γ} {tr : List (Ev α γ)} (h : x ∈ srcEvs tr) : x ∈ srcEvs (e :: tr) :=
  mem_consOpt.2 (.inr h)

def dualEvs : List (SinkEv β) → List (SrcEv β)
  | [] => []
  | e :: t => consOpt (dual e) (dualEvs t)

theorem eq_filterMap_of_rec {X Y : Type} {f : X → Option Y} {v : List X → List Y} (nil : v [] = [])
    (cons : ∀ e t, v (e :: t) = consOpt (f e) (v t)) (l : List X) : v l = l.filterMap f := by
  induction l with
  | nil => exact nil
  | cons e t ih => rw [cons, ih, List.filterMap_cons]; cases f e <;> rfl

theorem sinkEvs_eq (l : List (Ev α γ)) : sinkEvs l = l.filterMap sinkEv := eq_filterMap_of_rec rfl (fun _ _ => rfl) l
theorem srcEvs_eq (l : List (Ev α γ)) : srcEvs l = l.filterMap srcEv := eq_filterMap_of_rec rfl (fun _ _ => rfl) l
theorem dualEvs_eq (l : List (SinkEv β)) : dualEvs l = l.filterMap dual := eq_filterMap_of_rec rfl (fun _ _ => rfl) l

theorem sinkEvs_append (a b : List (Ev α γ)) : sinkEvs (a ++ b) = sinkEvs a ++ sinkEvs b := by
  simp only [sinkEvs_eq, List.filterMap_append]

theorem srcEvs_append (a b : List (Ev α γ)) : srcEvs (a ++ b) = srcEvs a ++ srcEvs b := by
  simp only [srcEvs_eq, List.filterMap_append]

theorem dualEvs_append (a b : List (SinkEv β)) : dualEvs (a ++ b) = dualEvs a ++ dualEvs b := by
  simp only [dualEvs_eq, List.filterMap_append]

theorem mem_of_mem_view {X Y : Type} {f : X → Option Y} {v : List X → List Y} (hv : ∀ l, v l = l.filterMap f) {x : X} {y : Y}
    (hf : ∀ e, f e = some y → e = x) {l : List X} (h : y ∈ v l) : x ∈ l := by
  obtain ⟨e, he, hy⟩ := List.mem_filterMap.1 (hv l ▸ h)
  exact hf e hy ▸ he

end Views

section Folds
variable {α β γ : Type}

def recvS (k : Nat) : List (SinkEv γ) → List γ
  | [] => []
  | .down k' (.data b) :: t => if k' = k then recvS k t ++ [b] else recvS k t
  | _ :: t => recvS k t

def sentS (i : Nat) : List (SrcEv α) → List α
  | [] => []
  | .down i' (.data a) :: t => if i' = i then sentS i t ++ [a] else sentS i t
  | _ :: t => sentS i t

def finS (k : Nat) : List (SinkEv γ) → Nat
  | [] => 0
  | .down k' .term :: t => (if k' = k then 1 else 0) + finS k t
  | .down k' (.err _) :: t => (if k' = k then 1 else 0) + finS k t
  | _ :: t => finS k t

def appS : List (SinkEv γ) → List γ
  | [] => []
  | .app b :: t => appS t ++ [b]
  | _ :: t => appS t

def pullsInS (k : Nat) : List (SinkEv γ) → Nat
  | [] => 0
  | .up k' .pull :: t => (if k' = k then 1 else 0) + pullsInS k t
  | _ :: t => pullsInS k t

def pullsOutS (i : Nat) : List (SrcEv α) → Nat
  | [] => 0
  | .up i' .pull :: t => (if i' = i then 1 else 0) + pullsOutS i t
  | _ :: t => pullsOutS i t

def upFinS (i : Nat) : List (SrcEv α) → Nat
  | [] => 0
  | .up i' .term :: t => (if i' = i then 1 else 0) + upFinS i t
  | .up i' (.err _) :: t => (if i' = i then 1 else 0) + upFinS i t
  | _ :: t => upFinS i t

def srcFinS (i : Nat) : List (SrcEv α) → Nat
  | [] => 0
  | .down i' .term :: t => (if i' = i then 1 else 0) + srcFinS i t
  | .down i' (.err _) :: t => (if i' = i then 1 else 0) + srcFinS i t
  | _ :: t => srcFinS i t

theorem recvData_eq (k : Nat) (tr : List (Ev α γ)) : recvData k tr = recvS k (sinkEvs tr) := by
  induction tr with
  | nil => rfl
  | cons e t ih =>
    cases e with
    | inp i => cases i <;> exact ih
    | out o =>
      cases o with
      | down k' d =>
        cases d with
        | data b => exact congrArg (fun x => if k' = k then x ++ [b] else x) ih
        | _ => exact ih
      | _ => exact ih
    | _ => exact ih

theorem sentData_eq (i : Nat) (tr : List (Ev α γ)) : sentData i tr = sentS i (srcEvs tr) := by
  induction tr with
  | nil => rfl
  | cons e t ih =>
    cases e with
    | inp m =>
      cases m with
      | srcDown i' d =>
        cases d with
        | data a => exact congrArg (fun x => if i' = i then x ++ [a] else x) ih
        | _ => exact ih
      | _ => exact ih
    | out o => cases o <;> exact ih
    | _ => exact ih

theorem finalsTo_eq (k : Nat) (tr : List (Ev α γ)) : finalsTo k tr = finS k (sinkEvs tr) := by
  induction tr with
  | nil => rfl
  | cons e t ih =>
    cases e with
    | inp i => cases i <;> exact ih
    | out o =>
      cases o with
      | down k' d =>
        cases d with
        | data b => exact ih
        | _ => exact congrArg (_ + ·) ih
      | _ => exact ih
    | _ => exact ih

theorem applied_eq (tr : List (Ev α γ)) : applied tr = appS (sinkEvs tr) := by
  induction tr with
  | nil => rfl
  | cons e t ih =>
    cases e with
    | inp i => cases i <;> exact ih
    | out o =>
      cases o with
      | app b => exact congrArg (· ++ [b]) ih
      | _ => exact ih
    | _ => exact ih

theorem pullsIn_eq (k : Nat) (tr : List (Ev α γ)) : pullsIn k tr = pullsInS k (sinkEvs tr) := by
  induction tr with
  | nil => rfl
  | cons e t ih =>
    cases e with
    | inp m =>
      cases m with
      | sinkUp k' u =>
        cases u with
        | pull => exact congrArg (_ + ·) ih
        | _ => exact ih
      | _ => exact ih
    | out o => cases o <;> exact ih
    | _ => exact ih

theorem pullsOut_eq (i : Nat) (tr : List (Ev α γ)) : pullsOut i tr = pullsOutS i (srcEvs tr) := by
  induction tr with
  | nil => rfl
  | cons e t ih =>
    cases e with
    | inp m => cases m <;> exact ih
    | out o =>
      cases o with
      | srcUp i' u =>
        cases u with
        | pull => exact congrArg (_ + ·) ih
        | _ => exact ih
      | _ => exact ih
    | _ => exact ih

theorem upFinals_eq (i : Nat) (tr : List (Ev α γ)) : upFinals i tr = upFinS i (srcEvs tr) := by
  induction tr with
  | nil => rfl
  | cons e t ih =>
    cases e with
    | inp m => cases m <;> exact ih
    | out o =>
      cases o with
      | srcUp i' u =>
        cases u with
        | pull => exact ih
        | _ => exact congrArg (_ + ·) ih
      | _ => exact ih
    | _ => exact ih

theorem recvS_dual (k : Nat) (l : List (SinkEv β)) : recvS k l = sentS k (dualEvs l) := by
  induction l with
  | nil => rfl
  | cons e t ih =>
    cases e with
    | down k' d =>
      cases d with
      | data b => exact congrArg (fun x => if k' = k then x ++ [b] else x) ih
      | _ => exact ih
    | _ => exact ih

theorem finS_dual (k : Nat) (l : List (SinkEv β)) : finS k l = srcFinS k (dualEvs l) := by
  induction l with
  | nil => rfl
  | cons e t ih =>
    cases e with
    | down k' d =>
      cases d with
      | data b => exact ih
      | _ => exact congrArg (_ + ·) ih
    | _ => exact ih

theorem pullsInS_dual (k : Nat) (l : List (SinkEv β)) : pullsInS k l = pullsOutS k (dualEvs l) := by
  induction l with
  | nil => rfl
  | cons e t ih =>
    cases e with
    | up k' u =>
      cases u with
      | pull => exact congrArg (_ + ·) ih
      | _ => exact ih
    | _ => exact ih

end Folds

/-- every event of `l` (newest first) that `sel` selects has a past — the tail below it — that satisfies `Φ` -/
def Before {X : Type} (sel : X → Prop) (Φ : List X → Prop) : List X → Prop
  | [] => True
  | e :: t => (sel e → Φ t) ∧ Before sel Φ t

namespace Before
variable {X Y : Type} {sel : X → Prop} {Φ : List X → Prop} {selY : Y → Prop} {ΦY : List Y → Prop}

theorem iff_of_rec {P : List X → Prop} (nil : P []) (cons : ∀ e t, P (e :: t) ↔ (sel e → Φ t) ∧ P t) (l : List X) :
    P l ↔ Before sel Φ l := by
  induction l with
  | nil => exact iff_of_true nil trivial
  | cons e t ih => exact (cons e t).trans (and_congr_right' ih)

theorem of_forall (h : ∀ t, Φ t) (l : List X) : Before sel Φ l := by
  induction l with
  | nil => trivial
  | cons e t ih => exact ⟨fun _ => h t, ih⟩

theorem filterMap_cons {f : X → Option Y} {e : X} {t : List X} :
    Before selY ΦY ((e :: t).filterMap f) ↔ (∀ y, f e = some y → selY y → ΦY (t.filterMap f)) ∧ Before selY ΦY (t.filterMap f) := by
  cases he : f e with
  | none => rw [List.filterMap_cons_none he]; exact ⟨fun h => ⟨nofun, h⟩, (·.2)⟩
  | some y => rw [List.filterMap_cons_some he]; exact and_congr_left' ⟨fun h _ hy => Option.some.inj hy ▸ h, (· y rfl)⟩

theorem view {f : X → Option Y} {v : List X → List Y} (hv : ∀ l, v l = l.filterMap f)
    (hsel : ∀ e y, f e = some y → selY y → sel e) (hΦ : ∀ t, Φ t → ΦY (v t)) {l : List X} (h : Before sel Φ l) :
    Before selY ΦY (v l) := by
  obtain rfl : v = List.filterMap f := funext hv
  induction l with
  | nil => trivial
  | cons e t ih => exact filterMap_cons.2 ⟨fun y he hy => hΦ t (h.1 (hsel e y he hy)), ih h.2⟩

theorem of_view {f : X → Option Y} {v : List X → List Y} (hv : ∀ l, v l = l.filterMap f)
    (hsel : ∀ e, sel e → ∃ y, f e = some y ∧ selY y) (hΦ : ∀ t, ΦY (v t) → Φ t) {l : List X} (h : Before selY ΦY (v l)) :
    Before sel Φ l := by
  obtain rfl : v = List.filterMap f := funext hv
  induction l with
  | nil => trivial
  | cons e t ih =>
    obtain ⟨h1, h2⟩ := filterMap_cons.1 h
    exact ⟨fun hs => let ⟨y, he, hy⟩ := hsel e hs; hΦ t (h1 y he hy), ih h2⟩

end Before

end ComposeFun

namespace PlugSafe
open ComposeFun

def srcIdx {α : Type} : SrcEv α → Nat
  | .greet i => i | .down i _ => i | .sub i => i | .up i _ => i

def srcEq {α : Type} (j : Nat) (l : List (SrcEv α)) : List (SrcEv α) := l.filter (fun e => srcIdx e == j)
def srcNe {α : Type} (j : Nat) (l : List (SrcEv α)) : List (SrcEv α) := l.filter (fun e => srcIdx e != j)

theorem mem_srcEq_down {α : Type} {i : Nat} {d : Down α} {l : List (SrcEv α)} (h : SrcEv.down i d ∈ l) :
    SrcEv.down i d ∈ srcEq i l := by
  simp [srcEq, srcIdx, h]

/-- a sink-side event of `M₁` (at its sink 0), seen from `M₂` as an event of upstream `j` -/
def dual1 {β : Type} (j : Nat) : SinkEv β → Option (SrcEv β)
  | .subscribe k => if k = 0 then some (.sub j) else none
  | .up k u => if k = 0 then some (.up j u) else none
  | .greet k => if k = 0 then some (.greet j) else none
  | .down k d => if k = 0 then some (.down j d) else none
  | .app _ => none

def dualJ {β : Type} (j : Nat) : List (SinkEv β) → List (SrcEv β)
  | [] => []
  | e :: t => consOpt (dual1 j e) (dualJ j t)

theorem dualJ_eq {β : Type} (j : Nat) (l : List (SinkEv β)) : dualJ j l = l.filterMap (dual1 j) :=
  eq_filterMap_of_rec rfl (fun _ _ => rfl) l

theorem dual1_down {β : Type} {j i : Nat} {e : SinkEv β} {d : Down β} (h : dual1 j e = some (.down i d)) : e = .down 0 d := by
  cases e with
  | app b => cases h
  | _ k => cases k <;> cases h <;> rfl

theorem srcEq_eq {α : Type} (j : Nat) (l : List (SrcEv α)) : srcEq j l = l.filterMap (Option.guard fun e => srcIdx e == j) :=
  (congrFun List.filterMap_eq_filter l).symm

theorem srcEq_cons_same {α : Type} {j : Nat} {x : SrcEv α} (l : List (SrcEv α)) (hx : srcIdx x = j) : srcEq j (x :: l) = x :: srcEq j l := by
  simp [srcEq, hx]

theorem srcEq_cons_ne {α : Type} {j : Nat} {x : SrcEv α} (l : List (SrcEv α)) (hx : srcIdx x ≠ j) : srcEq j (x :: l) = srcEq j l := by
  simp [srcEq, hx]

/-- the wire of `compose`, read at slot 0, is the wire of a join at slot 0: `dualEvs` keeps the events of every sink of `M₁`, `dualJ 0`
those of sink 0 -/
theorem srcEq_zero_dualEvs {β : Type} (l : List (SinkEv β)) : srcEq 0 (dualEvs l) = dualJ 0 l := by
  induction l with
  | nil => rfl
  | cons e t ih =>
    cases e with
    | app b => exact ih
    | _ k =>
      cases k with
      | zero => exact Eq.trans (srcEq_cons_same _ rfl) (congrArg (_ :: ·) ih)
      | succ k => exact Eq.trans (srcEq_cons_ne _ (Nat.succ_ne_zero k)) ih

theorem sentS_cons_ne {α : Type} {i : Nat} {x : SrcEv α} (l : List (SrcEv α)) (hx : srcIdx x ≠ i) : sentS i (x :: l) = sentS i l := by
  cases x with
  | down i' d => cases d <;> simp only [sentS]; exact if_neg hx
  | _ => rfl

theorem fold_filter {E R : Type} {idx : E → Nat} {F : List E → R} {i : Nat} (skip : ∀ e t, idx e ≠ i → F (e :: t) = F t)
    (cong : ∀ e t t', F t = F t' → F (e :: t) = F (e :: t')) (p : E → Bool) (hp : ∀ e, idx e = i → p e = true) (l : List E) :
    F (l.filter p) = F l := by
  induction l with
  | nil => rfl
  | cons e t ih =>
    cases hpe : p e with
    | true => rw [List.filter_cons_of_pos hpe]; exact cong e _ _ ih
    | false =>
      rw [List.filter_cons_of_neg (by rw [hpe]; decide), ih, skip e t (fun h => by rw [hp e h] at hpe; cases hpe)]

theorem sentS_filter {α : Type} (i : Nat) (p : SrcEv α → Bool) (hp : ∀ e, srcIdx e = i → p e = true) (l : List (SrcEv α)) :
    sentS i (l.filter p) = sentS i l := by
  refine fold_filter (fun e t h => sentS_cons_ne t h) (fun e t t' h => ?_) p hp l
  cases e with
  | down i' d => cases d <;> simp only [sentS, h]
  | _ => exact h

theorem sentS_srcNe {α : Type} (i j : Nat) (hij : i ≠ j) (l : List (SrcEv α)) : sentS i (srcNe j l) = sentS i l :=
  sentS_filter i _ (fun e he => by simp [he, hij]) l

theorem sentS_srcEq {α : Type} (j : Nat) (l : List (SrcEv α)) : sentS j (srcEq j l) = sentS j l :=
  sentS_filter j _ (fun e he => by simp [he]) l

theorem recvS_dualJ {β : Type} (j : Nat) (l : List (SinkEv β)) : recvS 0 l = sentS j (dualJ j l) := by
  induction l with
  | nil => rfl
  | cons e t ih =>
    cases e with
    | down k d =>
      by_cases h : k = 0
      · cases d <;> simp [recvS, dualJ, dual1, sentS, h, ih]
      · cases d <;> simp [recvS, dualJ, dual1, h, ih]
    | subscribe k => by_cases h : k = 0 <;> simp [recvS, dualJ, dual1, sentS, h, ih]
    | up k u => by_cases h : k = 0 <;> simp [recvS, dualJ, dual1, sentS, h, ih]
    | greet k => by_cases h : k = 0 <;> simp [recvS, dualJ, dual1, sentS, h, ih]
    | app b => simp [recvS, dualJ, dual1, ih]

end PlugSafe

namespace ComposeComplete
open ComposeFun

section Last
variable {α β γ : Type}

def relS (k : Nat) : SinkEv γ → Option Bool
  | .subscribe _ => none
  | .greet _ => none
  | .app _ => none
  | .up k' u => if u = .pull ∧ k' = k then some true else none
  | .down k' _ => if k' = k then some false else none

def relSrc (i : Nat) : SrcEv α → Option Bool
  | .sub _ => none
  | .greet _ => none
  | .up i' u => if u = .pull ∧ i' = i then some true else none
  | .down i' _ => if i' = i then some false else none

def lastPull (k : Nat) : List (SinkEv γ) → Bool
  | [] => false
  | e :: t => (relS k e).getD (lastPull k t)

def lastPullSrc (i : Nat) : List (SrcEv α) → Bool
  | [] => false
  | e :: t => (relSrc i e).getD (lastPullSrc i t)

theorem lastPull_view {f : SinkEv β → Option (SrcEv β)} {v : List (SinkEv β) → List (SrcEv β)} (hv : ∀ l, v l = l.filterMap f)
    {k i : Nat} (hf : ∀ e, relS k e = (f e).bind (relSrc i)) (l : List (SinkEv β)) : lastPull k l = lastPullSrc i (v l) := by
  rw [hv]
  induction l with
  | nil => rfl
  | cons e t ih =>
    rw [lastPull, hf, ih, List.filterMap_cons]
    cases f e <;> rfl

def aP (tr : List (Ev α γ)) : Bool := lastPull 0 (sinkEvs tr)
def bP (tr : List (Ev α γ)) : Bool := lastPullSrc 0 (srcEvs tr)

theorem lastPull_sinkEvs_cons (k : Nat) (ev : Ev α γ) (tr : List (Ev α γ)) :
    lastPull k (sinkEvs (ev :: tr)) = ((sinkEv ev).bind (relS k)).getD (lastPull k (sinkEvs tr)) := by
  cases h : sinkEv ev <;> simp [sinkEvs, lastPull, h]

theorem lastPullSrc_srcEvs_cons (i : Nat) (ev : Ev α γ) (tr : List (Ev α γ)) :
    lastPullSrc i (srcEvs (ev :: tr)) = ((srcEv ev).bind (relSrc i)).getD (lastPullSrc i (srcEvs tr)) := by
  cases h : srcEv ev <;> simp [srcEvs, lastPullSrc, h]

theorem aP_cons (ev : Ev α γ) (tr : List (Ev α γ)) : aP (ev :: tr) = ((sinkEv ev).bind (relS 0)).getD (aP tr) :=
  lastPull_sinkEvs_cons 0 ev tr

theorem ev_of_relS_true {k : Nat} {ev : Ev α γ} (h : (sinkEv ev).bind (relS k) = some true) : ev = .inp (.sinkUp k .pull) := by
  cases ev with
  | inp j =>
    cases j with
    | sinkUp k' u =>
      simp only [sinkEv, Option.bind_some, relS] at h
      split at h
      · next hc => rw [hc.1, hc.2]
      · cases h
    | _ => cases h
  | out o =>
    cases o with
    | down k' d => simp only [sinkEv, Option.bind_some, relS] at h; split at h <;> cases h
    | _ => cases h
  | _ => cases h

theorem ev_of_relSrc_true {i : Nat} {ev : Ev α γ} (h : (srcEv ev).bind (relSrc i) = some true) : ev = .out (.srcUp i .pull) := by
  cases ev with
  | inp j =>
    cases j with
    | srcDown i' d => simp only [srcEv, Option.bind_some, relSrc] at h; split at h <;> cases h
    | _ => cases h
  | out o =>
    cases o with
    | srcUp i' u =>
      simp only [srcEv, Option.bind_some, relSrc] at h
      split at h
      · next hc => rw [hc.1, hc.2]
      · cases h
    | _ => cases h
  | _ => cases h

theorem ev_of_relSrc_false {i : Nat} {ev : Ev α γ} (h : (srcEv ev).bind (relSrc i) = some false) : ∃ d, ev = .inp (.srcDown i d) := by
  cases ev with
  | inp j =>
    cases j with
    | srcDown i' d =>
      simp only [srcEv, Option.bind_some, relSrc] at h
      split at h
      · next hc => exact ⟨d, by rw [hc]⟩
      · cases h
    | _ => cases h
  | out o =>
    cases o with
    | srcUp i' u => simp only [srcEv, Option.bind_some, relSrc] at h; split at h <;> cases h
    | _ => cases h
  | _ => cases h

theorem lastPull_of_cons {k : Nat} {ev : Ev α γ} {tr : List (Ev α γ)} (hev : ev ≠ .inp (.sinkUp k .pull))
    (h : lastPull k (sinkEvs (ev :: tr)) = true) : lastPull k (sinkEvs tr) = true := by
  rw [lastPull_sinkEvs_cons] at h
  cases hb : (sinkEv ev).bind (relS k) with
  | none => rwa [hb] at h
  | some b => rw [hb] at h; cases h; exact absurd (ev_of_relS_true hb) hev

theorem lastPullSrc_of_cons {i : Nat} {ev : Ev α γ} {tr : List (Ev α γ)} (hev : ev ≠ .out (.srcUp i .pull))
    (h : lastPullSrc i (srcEvs (ev :: tr)) = true) : lastPullSrc i (srcEvs tr) = true := by
  rw [lastPullSrc_srcEvs_cons] at h
  cases hb : (srcEv ev).bind (relSrc i) with
  | none => rwa [hb] at h
  | some b => rw [hb] at h; cases h; exact absurd (ev_of_relSrc_true hb) hev

theorem lastPullSrc_cons {i : Nat} {ev : Ev α γ} {tr : List (Ev α γ)} (hev : ∀ d, ev ≠ .inp (.srcDown i d))
    (h : lastPullSrc i (srcEvs tr) = true) : lastPullSrc i (srcEvs (ev :: tr)) = true := by
  rw [lastPullSrc_srcEvs_cons]
  cases hb : (srcEv ev).bind (relSrc i) with
  | none => exact h
  | some b =>
    cases b with
    | true => rfl
    | false => obtain ⟨d, rfl⟩ := ev_of_relSrc_false hb; exact absurd rfl (hev d)

/-! Every event other than these leaves `aP (e :: tr)` and `bP (e :: tr)` definitionally equal to `aP tr` and `bP tr`. -/
theorem lastPullSrc_pull (i : Nat) (tr : List (Ev α γ)) : lastPullSrc i (srcEvs (.out (.srcUp i .pull) :: tr)) = true := by
  simp [lastPullSrc_srcEvs_cons, srcEv, relSrc]
theorem aP_sinkPull (tr : List (Ev α γ)) : aP (.inp (.sinkUp 0 .pull) :: tr) = true := rfl
theorem aP_down (d : Down γ) (tr : List (Ev α γ)) : aP (.out (.down 0 d) :: tr) = false := rfl
theorem bP_srcPull (tr : List (Ev α γ)) : bP (.out (.srcUp 0 .pull) :: tr) = true := rfl
theorem bP_srcDown (d : Down α) (tr : List (Ev α γ)) : bP (.inp (.srcDown 0 d) :: tr) = false := rfl

end Last

end ComposeComplete

namespace PlugConcat
open ComposeFun ComposeComplete PlugSafe

theorem lastPullSrc_filter {α : Type} (i : Nat) (p : SrcEv α → Bool) (hp : ∀ e, srcIdx e = i → p e = true) (l : List (SrcEv α)) :
    lastPullSrc i (l.filter p) = lastPullSrc i l := by
  refine fold_filter (fun e t h => ?_) (fun e t t' h => congrArg (relSrc i e).getD h) p hp l
  have : relSrc i e = none := by
    cases e with
    | up i' u => exact if_neg (fun hu => h hu.2)
    | down i' d => exact if_neg h
    | _ => rfl
  rw [lastPullSrc, this]; rfl

theorem lastPullSrc_srcNe {α : Type} (i j : Nat) (hij : i ≠ j) (l : List (SrcEv α)) :
    lastPullSrc i (srcNe j l) = lastPullSrc i l :=
  lastPullSrc_filter i _ (fun e he => by simp [he, hij]) l

theorem lastPullSrc_srcEq {α : Type} (j : Nat) (l : List (SrcEv α)) : lastPullSrc j (srcEq j l) = lastPullSrc j l :=
  lastPullSrc_filter j _ (fun e he => by simp [he]) l

theorem lastPull_dualJ {β : Type} (j : Nat) (l : List (SinkEv β)) : lastPull 0 l = lastPullSrc j (dualJ j l) :=
  lastPull_view (dualJ_eq j) (fun e => by
    cases e with
    | app b => rfl
    | _ k => cases k <;> simp [relS, dual1, relSrc]) l

theorem mem_dualEvs_down {β : Type} {i : Nat} {d : Down β} {l : List (SinkEv β)} (h : SrcEv.down i d ∈ dualEvs l) :
    SinkEv.down i d ∈ l :=
  mem_of_mem_view dualEvs_eq (fun e he => by cases e <;> cases he; rfl) h

theorem mem_dualJ_down {β : Type} {j i : Nat} {d : Down β} {l : List (SinkEv β)} (h : SrcEv.down i d ∈ dualJ j l) :
    SinkEv.down 0 d ∈ l :=
  mem_of_mem_view (dualJ_eq j) (fun _ => dual1_down) h

section Err
variable {α β : Type}

def ErrOut (tr : List (Ev α β)) : Prop := ∃ k e, SinkEv.down k (Down.err e) ∈ sinkEvs tr
def ErrIn (tr : List (Ev α β)) : Prop := ∃ i e, SrcEv.down i (Down.err e) ∈ srcEvs tr

theorem errIn_cons {tr : List (Ev α β)} (ev : Ev α β) (h : ErrIn tr) : ErrIn (ev :: tr) :=
  let ⟨i, e, hi⟩ := h
  ⟨i, e, mem_srcEvs_cons hi⟩

theorem errOut_cons {tr : List (Ev α β)} {ev : Ev α β} (h : ErrOut (ev :: tr)) :
    ErrOut tr ∨ ∃ k e, ev = .out (.down k (.err e)) := by
  obtain ⟨k, e, hk⟩ := h
  rcases mem_consOpt.1 hk with hs | hk
  · right
    cases ev with
    | inp i => cases i <;> cases hs
    | out o => cases o <;> cases hs; exact ⟨_, _, rfl⟩
    | _ => cases hs
  · exact .inl ⟨k, e, hk⟩

theorem errIn_srcDown {tr : List (Ev α β)} (i e : Nat) : ErrIn (Ev.inp (.srcDown i (.err e)) :: tr) :=
  ⟨i, e, by simp [srcEvs, srcEv]⟩

end Err

end PlugConcat

namespace ConcatN
open ComposeFun PlugSafe

/-- the source-side events at the upstreams outside `js` -/
def srcOut {β : Type} (js : List Nat) (l : List (SrcEv β)) : List (SrcEv β) := l.filter (fun e => !(js.contains (srcIdx e)))

theorem srcOut_nil {β : Type} (l : List (SrcEv β)) : srcOut [] l = l := by simp [srcOut]

theorem srcNe_srcOut {β : Type} (k : Nat) (js : List Nat) (l : List (SrcEv β)) : srcNe k (srcOut js l) = srcOut (k :: js) l := by
  simp only [srcNe, srcOut, List.filter_filter]
  congr 1
  funext e
  simp only [List.contains_cons]
  cases h1 : (srcIdx e == k) <;> cases h2 : js.contains (srcIdx e) <;> simp [bne, h1]

theorem srcEq_srcOut {β : Type} {k : Nat} {js : List Nat} (hk : k ∉ js) (l : List (SrcEv β)) : srcEq k (srcOut js l) = srcEq k l := by
  simp only [srcEq, srcOut, List.filter_filter]
  congr 1
  funext e
  by_cases h : srcIdx e = k
  · simp [h, hk]
  · simp [h]

end ConcatN

end Cb
