import CallbagModel.Inv.Ghost2
import CallbagModel.Inv.Runs
import CallbagModel.Env
import CallbagModel.Ops.Share
/-!
# share: the phase-level safety invariant, for any number of sinks, under `noNestedFanout`

Stated at environment turns only.  Mode `core` is the steady state (the stack may hold one open data fan-out frame), `waiting`
is between the subscription to the upstream and its greeting, `tfan` is a terminal fan-out in progress (nobody can call, only
return).  In `core` there is at most one fan-out frame: a second one needs an upstream delivery while the first is open, which
`noNestedFanout` forbids; `r ⊆ st.sinks` in it says that every sink still to be served is live when the frame resumes.

Which macro step a move of the environment starts is not decided here: the handlers are analysed once, for all environments, in
`Inv/ShareCS.lean`, and `Inv/ShareFull.lean` reads `Macro` off that analysis.  `Core`, `Waiting`, `Gen` and the run lemmas serve
the wider environments too.
-/
namespace Cb.Share

variable {α : Type}

abbrev Fr (α : Type) := Frame (Loc α) α
abbrev Cfg (α : Type) := Sys St (Loc α) α α

def TailF (f : Fr α) : Prop := ∃ o, f = .wait o .done
def UpF (f : Fr α) : Prop := ∃ i u, f = .wait (.srcUp i u) .done

def StackOK (sinks : List Nat) (stk : List (Fr α)) : Prop :=
  (∀ f ∈ stk, TailF f) ∨
  ∃ pre s a r post, stk = pre ++ .wait (.down s (.data a)) (.fLoop r (.data a)) :: post ∧
    (∀ f ∈ pre, UpF f) ∧ (∀ f ∈ post, TailF f) ∧ (s :: r).Nodup ∧ ∀ x ∈ r, x ∈ sinks

structure Core (st : St) (g : Ph) : Prop where
  mem : ∀ k, k ∈ st.sinks ↔ g.sinkPh k = .live
  nosub : ∀ k, g.sinkPh k ≠ .subscribed
  nodup : st.sinks.Nodup
  up : st.sinks ≠ [] → g.srcPh (st.gen - 1) = .live ∧ st.slot = some (st.gen - 1)
  live : ∀ i, g.srcPh i = .live → i = st.gen - 1 ∧ st.sinks ≠ []
  nosrcsub : ∀ i, g.srcPh i ≠ .subscribed

inductive Mode (st : St) (g : Ph) (stk : List (Fr α)) : Prop where
  | core : Core st g → StackOK st.sinks stk → Mode st g stk
  | waiting (k : Nat) : stk = [.wait (.subSrc (st.gen - 1)) .done] → st.sinks = [k] → phAt st.first (st.gen - 1) = k →
      g.sinkPh k = .subscribed → (∀ k', k' ≠ k → g.sinkPh k' ≠ .live ∧ g.sinkPh k' ≠ .subscribed) →
      g.srcPh (st.gen - 1) = .subscribed → (∀ i, i ≠ st.gen - 1 → g.srcPh i ≠ .live ∧ g.srcPh i ≠ .subscribed) →
      Mode st g stk
  | tfan (s : Nat) (d : Down α) (r : List Nat) (rest : List (Fr α)) :
      stk = .wait (.down s d) (.fLoop r d) :: rest → isEndD d = true → (∀ f ∈ rest, TailF f) → r.Nodup →
      (∀ k, g.sinkPh k = .live ↔ k ∈ r) → (∀ k, g.sinkPh k ≠ .subscribed) →
      (∀ i, g.srcPh i ≠ .live ∧ g.srcPh i ≠ .subscribed) → Mode st g stk

structure Waiting (st : St) (g : Ph) (k : Nat) : Prop where
  sinks : st.sinks = [k]
  first : phAt st.first (st.gen - 1) = k
  sub : g.sinkPh k = .subscribed
  others : ∀ k', k' ≠ k → g.sinkPh k' ≠ .live ∧ g.sinkPh k' ≠ .subscribed
  src : g.srcPh (st.gen - 1) = .subscribed
  srcs : ∀ i, i ≠ st.gen - 1 → g.srcPh i ≠ .live ∧ g.srcPh i ≠ .subscribed

theorem Waiting.mode {st : St} {g : Ph} {k : Nat} {stk : List (Fr α)} (w : Waiting st g k)
    (hs : stk = [.wait (.subSrc (st.gen - 1)) .done]) : Mode st g stk :=
  .waiting k hs w.sinks w.first w.sub w.others w.src w.srcs

def Gen (st : St) (g : Ph) : Prop := st.first.length = st.gen ∧ ∀ i, st.gen ≤ i → g.srcPh i = .idle

theorem Gen.congr {st : St} {g g' : Ph} (h : Gen st g) (hr : ∀ i, g'.srcPh i = g.srcPh i) : Gen st g' :=
  ⟨h.1, fun i hi => (hr i).trans (h.2 i hi)⟩

theorem Gen.setSink {st : St} {g : Ph} (h : Gen st g) (k : Nat) (p : SinkPh) : Gen st (g.setSink k p) := h

theorem Gen.setSrc {st : St} {g : Ph} (h : Gen st g) {i : Nat} (hi : g.srcPh i ≠ .idle) (p : SrcPh) : Gen st (g.setSrc i p) :=
  ⟨h.1, aboveIdle_setSrc h.2 (src_lt_of_ne_idle h.2 hi) p⟩

theorem Gen.sub_first {st : St} {g : Ph} (h : Gen st g) (ks : List Nat) (k : Nat) (p : SrcPh) :
    Gen { st with sinks := ks, gen := st.gen + 1, first := st.first ++ [k] } (g.setSrc st.gen p) := by
  refine ⟨by simp [h.1], fun j hj => ?_⟩
  have hj' : st.gen + 1 ≤ j := hj
  rw [Ph.srcPh_setSrc, if_neg (by omega)]; exact h.2 j (by omega)

def Inv' (st : St) (stk : List (Fr α)) (ph : Ph) : Prop := ph.viols = [] ∧ Gen st ph ∧ Mode st ph stk

def Inv (s : Cfg α) : Prop := s.panicked = none ∧ Inv' s.st s.stack s.g.ph

theorem Core.sub_first {st : St} {g : Ph} (hc : Core st g) (he : st.sinks = []) (hlen : st.first.length = st.gen) (k : Nat) :
    Waiting { st with sinks := [k], gen := st.gen + 1, first := st.first ++ [k] }
      ((g.setSink k .subscribed).setSrc st.gen .subscribed) k := by
  have hnl : ∀ k', g.sinkPh k' ≠ .live := fun k' h => by have := (hc.mem k').2 h; rw [he] at this; cases this
  refine ⟨rfl, by simp [phAt, ← hlen], by simp, fun k' hk' => ?_, by simp, fun i hi => ?_⟩
  · simp only [Ph.sinkPh_setSrc, Ph.sinkPh_setSink, if_neg hk']; exact ⟨hnl k', hc.nosub k'⟩
  · have hi' : i ≠ st.gen := by simpa using hi
    simp only [Ph.srcPh_setSrc, if_neg hi', Ph.srcPh_setSink]; exact ⟨fun h => (hc.live i h).2 he, hc.nosrcsub i⟩

theorem Core.sub_more {st : St} {g : Ph} (hc : Core st g) (he : st.sinks ≠ []) {k : Nat} (hk : g.sinkPh k = .idle) :
    Core { st with sinks := st.sinks ++ [k] } ((g.setSink k .subscribed).setSink k .live) := by
  have hkn : k ∉ st.sinks := fun h => by have := (hc.mem k).1 h; rw [hk] at this; cases this
  refine ⟨fun k' => ?_, fun k' => ?_, ?_, fun _ => hc.up he, fun i hi => ⟨(hc.live i hi).1, by simp⟩, hc.nosrcsub⟩
  · by_cases hk' : k' = k
    · simp [hk']
    · simp [hk']; exact hc.mem k'
  · by_cases hk' : k' = k
    · simp [hk']
    · simp [hk']; exact hc.nosub k'
  · exact List.nodup_append.2 ⟨hc.nodup, by simp, fun a ha b hb => by simp at hb; subst hb; rintro rfl; exact hkn ha⟩

theorem Waiting.greeted {st : St} {g : Ph} {k : Nat} (w : Waiting st g k) :
    Core { st with slot := some (st.gen - 1) } ((g.setSrc (st.gen - 1) .live).setSink k .live) := by
  refine ⟨fun k' => ?_, fun k' => ?_, by simp [w.sinks], fun _ => by simp, fun i hi => ⟨?_, by simp [w.sinks]⟩, fun i => ?_⟩
  · by_cases hk' : k' = k
    · simp [hk', w.sinks]
    · simp [hk', w.sinks]; exact (w.others k' hk').1
  · by_cases hk' : k' = k
    · simp [hk']
    · simp [hk']; exact (w.others k' hk').2
  · by_cases hi' : i = st.gen - 1
    · exact hi'
    · simp [hi'] at hi; exact absurd hi (w.srcs i hi').1
  · by_cases hi' : i = st.gen - 1
    · simp [hi']
    · simp [hi']; exact (w.srcs i hi').2

theorem Core.erase_mem {st : St} {g : Ph} (hc : Core st g) (k k' : Nat) :
    k' ∈ st.sinks.erase k ↔ (g.setSink k .doneBySelf).sinkPh k' = .live := by
  by_cases hk' : k' = k
  · subst hk'; simp [hc.nodup.mem_erase_iff]
  · simp [hk', List.mem_erase_of_ne hk']; exact hc.mem k'

theorem Core.erase_nosub {st : St} {g : Ph} (hc : Core st g) (k k' : Nat) : (g.setSink k .doneBySelf).sinkPh k' ≠ .subscribed := by
  by_cases hk' : k' = k
  · simp [hk']
  · simp [hk']; exact hc.nosub k'

theorem Core.dispose_some {st : St} {g : Ph} (hc : Core st g) (k : Nat) (he : st.sinks.erase k ≠ []) :
    Core { st with sinks := st.sinks.erase k } (g.setSink k .doneBySelf) :=
  ⟨hc.erase_mem k, hc.erase_nosub k, hc.nodup.erase k, fun _ => hc.up (fun h => he (by simp [h])),
    fun i hi => ⟨(hc.live i hi).1, he⟩, hc.nosrcsub⟩

theorem Core.dispose_last {st : St} {g : Ph} (hc : Core st g) (k : Nat) (he : st.sinks.erase k = []) :
    Core { st with sinks := [] } ((g.setSink k .doneBySelf).setSrc (st.gen - 1) .disposed) := by
  refine ⟨fun k' => ?_, hc.erase_nosub k, List.nodup_nil, fun h => absurd rfl h, fun i hi => ?_, fun i => ?_⟩
  · have := hc.erase_mem k k'; rw [he] at this; exact this
  · exfalso
    by_cases hi' : i = st.gen - 1
    · simp [hi'] at hi
    · simp [hi'] at hi; exact hi' (hc.live i hi).1
  · by_cases hi' : i = st.gen - 1
    · simp [hi']
    · simp [hi']; exact hc.nosrcsub i

theorem tfan_next {g : Ph} {s1 : Nat} {r1 : List Nat} (hnd : (s1 :: r1).Nodup) (hl : ∀ k, g.sinkPh k = .live ↔ k ∈ s1 :: r1)
    (hns : ∀ k, g.sinkPh k ≠ .subscribed) :
    (∀ k, (g.setSink s1 .doneBySrc).sinkPh k = .live ↔ k ∈ r1) ∧ ∀ k, (g.setSink s1 .doneBySrc).sinkPh k ≠ .subscribed := by
  refine ⟨fun k => ?_, fun k => ?_⟩
  · by_cases hk : k = s1
    · subst hk; simp; exact (List.nodup_cons.1 hnd).1
    · simp [hk, hl k]
  · by_cases hk : k = s1
    · simp [hk]
    · simp [hk]; exact hns k

theorem Core.ended {st : St} {g : Ph} (hc : Core st g) {i s : Nat} {r : List Nat} (hl : g.srcPh i = .live) (hsr : st.sinks = s :: r) :
    (∀ k, ((g.setSrc i .ended).setSink s .doneBySrc).sinkPh k = .live ↔ k ∈ r) ∧
    (∀ k, ((g.setSrc i .ended).setSink s .doneBySrc).sinkPh k ≠ .subscribed) ∧
    ∀ j, ((g.setSrc i .ended).setSink s .doneBySrc).srcPh j ≠ .live ∧ ((g.setSrc i .ended).setSink s .doneBySrc).srcPh j ≠ .subscribed := by
  obtain ⟨h1, h2⟩ := tfan_next (g := g.setSrc i .ended) (hsr ▸ hc.nodup) (fun k => hsr ▸ (hc.mem k).symm) hc.nosub
  refine ⟨h1, h2, fun j => ?_⟩
  by_cases hj : j = i
  · simp [hj]
  · simp [hj]; exact ⟨fun h => hj ((hc.live j h).1.trans (hc.live i hl).1.symm), hc.nosrcsub j⟩

theorem Core.up_of_live {st : St} {g : Ph} (hc : Core st g) {k : Nat} (hk : g.sinkPh k = .live) :
    g.srcPh (st.gen - 1) = .live ∧ st.slot = some (st.gen - 1) :=
  hc.up (List.ne_nil_of_mem ((hc.mem k).2 hk))

theorem core_of_quiet {st : St} {g : Ph} (h1 : ∀ k, g.sinkPh k ≠ .live) (h2 : ∀ k, g.sinkPh k ≠ .subscribed)
    (h3 : ∀ i, g.srcPh i ≠ .live ∧ g.srcPh i ≠ .subscribed) : Core { st with sinks := [] } g :=
  ⟨fun k => ⟨fun h => (List.not_mem_nil h).elim, fun h => absurd h (h1 k)⟩, h2, List.nodup_nil, fun h => absurd rfl h,
    fun i hi => absurd hi (h3 i).1, fun i => (h3 i).2⟩

section run
variable {st : St}

theorem run_s0_first (k : Nat) (he : st.sinks = []) :
    Runs (machine α) st (.s0 k) { st with sinks := [k], gen := st.gen + 1, first := st.first ++ [k] }
      (some (.subSrc st.gen, .done)) := by
  obtain ⟨sinks, slot, gen, first⟩ := st
  cases he
  exact .tau rfl (.tau rfl (.call rfl))

theorem run_s0_more (k : Nat) (he : st.sinks ≠ []) :
    Runs (machine α) st (.s0 k) { st with sinks := st.sinks ++ [k] } (some (.greet k, .done)) := by
  obtain ⟨x, xs, hx⟩ := List.exists_cons_of_ne_nil he
  exact .tau rfl (.call (by simp [machine, step, hx]))

theorem run_g0 (i : Nat) : Runs (machine α) st (.g0 i) { st with slot := some i } (some (.greet (phAt st.first i), .done)) :=
  .tau rfl (.call rfl)

theorem run_fLoop_cons (s : Nat) (r : List Nat) (d : Down α) :
    Runs (machine α) st (.fLoop (s :: r) d) st (some (.down s d, .fLoop r d)) := .call rfl

theorem run_f0 {s : Nat} {r : List Nat} (hs : st.sinks = s :: r) (d : Down α) :
    Runs (machine α) st (.f0 d) st (some (.down s d, .fLoop r d)) :=
  .tau rfl (hs ▸ run_fLoop_cons s r d)

theorem run_fLoop_nil_data (a : α) : Runs (machine α) st (.fLoop [] (.data a)) st none := .tau rfl (.ret rfl)

theorem run_fLoop_nil_end {d : Down α} (hd : isEndD d = true) :
    Runs (machine α) st (.fLoop [] d) { st with sinks := [] } none :=
  .tau rfl (.tau (st' := { st with sinks := [] }) (l' := .done) (by simp [machine, step, hd]) (.ret rfl))

theorem run_p0 {i : Nat} (hs : st.slot = some i) : Runs (machine α) st .p0 st (some (.srcUp i .pull, .done)) :=
  .call (by simp [machine, step, hs])

theorem run_x0_some (k : Nat) (he : st.sinks.erase k ≠ []) :
    Runs (machine α) st (.x0 k) { st with sinks := st.sinks.erase k } none :=
  .tau rfl (.ret (by simp [machine, step, he]))

theorem run_x0_last (k : Nat) {i : Nat} (he : st.sinks.erase k = []) (hs : st.slot = some i) :
    Runs (machine α) st (.x0 k) { st with sinks := [] } (some (.srcUp i .term, .done)) := by
  rw [← he]
  exact .tau rfl (.tau (st' := { st with sinks := st.sinks.erase k }) (l' := .x2) (by simp [machine, step, he])
    (.call (by simp [machine, step, hs])))

end run

theorem stk_nil_of_top {stk : List (Fr α)} {c : Ctx α} (hc : ctxOf stk = some c) (ht : isTop c = true) : stk = [] := by
  cases stk with
  | nil => rfl
  | cons f r => cases f with
    | run l => simp [ctxOf] at hc
    | wait o l => simp [ctxOf] at hc; subst hc; simp [isTop] at ht

theorem deliveryOpen_fan (pre : List (Fr α)) (s : Nat) (d : Down α) (l : Loc α) (post : List (Fr α)) :
    deliveryOpen (pre ++ .wait (.down s d) l :: post) = true := by
  induction pre with
  | nil => simp [deliveryOpen]
  | cons f pre ih => cases f with
    | run l' => simpa [deliveryOpen] using ih
    | wait o l' => cases o <;> simp [deliveryOpen, ih]

theorem fan_ctx {pre : List (Fr α)} {s : Nat} {d : Down α} {l : Loc α} {post : List (Fr α)} {c : Ctx α} {k : Nat}
    (hc : ctxOf (pre ++ .wait (.down s d) l :: post) = some c) (hpre : ∀ f ∈ pre, UpF f)
    (hctx : isTop c = true ∨ inGreet k c = true ∨ inData k c = true) : pre = [] ∧ k = s := by
  cases pre with
  | nil =>
    simp [ctxOf] at hc; subst hc
    cases d <;> simp [isTop, inGreet, inData] at hctx
    exact ⟨rfl, hctx⟩
  | cons f pre =>
    obtain ⟨i, u, rfl⟩ := hpre f (by simp)
    simp [ctxOf] at hc; subst hc
    simp [isTop, inGreet, inData] at hctx

theorem StackOK.push_up {sinks : List Nat} {stk : List (Fr α)} (hs : StackOK sinks stk) (i : Nat) (u : Up) :
    StackOK sinks (.wait (.srcUp i u) .done :: stk) := by
  rcases hs with ht | ⟨pre, s0, a, r, post, rfl, hpre, hpost, hnd, hr⟩
  · exact Or.inl (List.forall_mem_cons.2 ⟨⟨_, rfl⟩, ht⟩)
  · exact Or.inr ⟨_ :: pre, s0, a, r, post, rfl, List.forall_mem_cons.2 ⟨⟨_, _, rfl⟩, hpre⟩, hpost, hnd, hr⟩

theorem StackOK.top {sinks : List Nat} {o : Out α} {l : Loc α} {stk : List (Fr α)} (hs : StackOK sinks (.wait o l :: stk)) :
    (l = .done ∧ StackOK sinks stk) ∨
      ∃ s a r, o = .down s (.data a) ∧ l = .fLoop r (.data a) ∧ (∀ f ∈ stk, TailF f) ∧ (s :: r).Nodup ∧ ∀ x ∈ r, x ∈ sinks := by
  rcases hs with ht | ⟨pre, s, a, r, post, he, hpre, hpost, hnd, hr⟩
  · obtain ⟨o', ho'⟩ := ht _ List.mem_cons_self
    cases ho'
    exact Or.inl ⟨rfl, Or.inl (List.forall_mem_cons.1 ht).2⟩
  · cases pre with
    | nil => cases he; exact Or.inr ⟨s, a, r, rfl, rfl, hpost, hnd, hr⟩
    | cons f pre =>
      obtain ⟨i, u, rfl⟩ := hpre f (by simp)
      cases he
      exact Or.inl ⟨rfl, Or.inr ⟨pre, s, a, r, post, rfl, (List.forall_mem_cons.1 hpre).2, hpost, hnd, hr⟩⟩

/-- the sink served by the open fan-out frame disposes: it is not among the sinks still to be served -/
theorem StackOK.erase {sinks : List Nat} {stk : List (Fr α)} {c : Ctx α} {k : Nat} (hs : StackOK sinks stk) (hc : ctxOf stk = some c)
    (hctx : isTop c = true ∨ inGreet k c = true ∨ inData k c = true) : StackOK (sinks.erase k) stk := by
  rcases hs with ht | ⟨pre, s0, a, r, post, rfl, hpre, hpost, hnd, hr⟩
  · exact Or.inl ht
  · obtain ⟨rfl, rfl⟩ := fan_ctx hc hpre hctx
    refine Or.inr ⟨[], k, a, r, post, rfl, hpre, hpost, hnd, fun x hx => ?_⟩
    have hxk : x ≠ k := by rintro rfl; exact (List.nodup_cons.1 hnd).1 hx
    exact (List.mem_erase_of_ne hxk).2 (hr x hx)

theorem StackOK.tails_of_closed {sinks : List Nat} {stk : List (Fr α)} (hs : StackOK sinks stk)
    (hr : deliveryOpen stk = false) : ∀ f ∈ stk, TailF f := by
  rcases hs with ht | ⟨pre, s0, a0, r, post, rfl, _⟩
  · exact ht
  · rw [deliveryOpen_fan] at hr; cases hr

theorem stackOK_not_fan {sinks : List Nat} {s : Nat} {d : Down α} {r : List Nat} {rest : List (Fr α)}
    (hd : isEndD d = true) (hs : StackOK sinks (.wait (.down s d) (.fLoop r d) :: rest)) : False := by
  rcases hs.top with ⟨h, _⟩ | ⟨s0, a, r0, h, _⟩
  · cases h
  · cases h; cases hd

theorem Mode.tfan_inv {st : St} {g : Ph} {s : Nat} {d : Down α} {r : List Nat} {rest : List (Fr α)}
    (hm : Mode st g (.wait (.down s d) (.fLoop r d) :: rest)) (hd : isEndD d = true) :
    (∀ f ∈ rest, TailF f) ∧ r.Nodup ∧ (∀ k, g.sinkPh k = .live ↔ k ∈ r) ∧ (∀ k, g.sinkPh k ≠ .subscribed) ∧
      ∀ i, g.srcPh i ≠ .live ∧ g.srcPh i ≠ .subscribed := by
  rcases hm with ⟨_, h⟩ | ⟨k, h, _⟩ | ⟨s', d', r', rest', h, _, h1, h2, h3, h4, h5⟩
  · exact (stackOK_not_fan hd h).elim
  · cases h
  · cases h; exact ⟨h1, h2, h3, h4, h5⟩

theorem isFinal_of_isEndD {d : Down α} (h : isEndD d = true) : isFinal d = true := by cases d <;> first | rfl | cases h

theorem ctx_isSome_of_stackOK {sinks : List Nat} {stk : List (Fr α)} (hs : StackOK sinks stk) : (ctxOf stk).isSome := by
  rcases hs with ht | ⟨pre, s0, a, r, post, he, hpre, _⟩
  · exact ctx_isSome_of_waits (fun _ ⟨_, h⟩ => nomatch h) ht
  · rw [he]
    cases pre with
    | nil => rfl
    | cons f pre => obtain ⟨i, u, rfl⟩ := hpre f (by simp); rfl

theorem inv_turn (s : Cfg α) (h : Inv s) : EnvTurn s ∧ BasicSafe s := by
  obtain ⟨hp, hv, _, hm⟩ := h
  refine ⟨⟨hp, ?_⟩, hv, hp⟩
  cases hm with
  | core _ hs => exact ctx_isSome_of_stackOK hs
  | waiting k he => rw [he]; rfl
  | tfan s0 d r rest he => rw [he]; rfl

theorem inv_init : Inv (Sys.init (machine α)) :=
  ⟨rfl, rfl, ⟨rfl, fun i _ => Ph.srcPh_empty i⟩,
    .core (core_of_quiet (st := {}) (by simp [Sys.init]) (by simp [Sys.init]) (by simp [Sys.init])) (Or.inl (by simp [Sys.init]))⟩

/-- A fan-out loop never skips: its first delivery ends the macro step of the upstream's message, every later one is the macro
step of the return of the sink served before. -/
inductive Macro (s : Cfg α) : Move α → St → Option (Out α × Loc α) → Prop
  | subFirst (k : Nat) (h0 : s.stack = []) (hc : Core s.st s.g.ph) (he : s.st.sinks = []) :
      Macro s (.call (.subscribe k)) { s.st with sinks := [k], gen := s.st.gen + 1, first := s.st.first ++ [k] }
        (some (.subSrc s.st.gen, .done))
  | subMore (k : Nat) (h0 : s.stack = []) (hc : Core s.st s.g.ph) (he : s.st.sinks ≠ []) (hk : s.g.ph.sinkPh k = .idle) :
      Macro s (.call (.subscribe k)) { s.st with sinks := s.st.sinks ++ [k] } (some (.greet k, .done))
  | pull (k : Nat) (hc : Core s.st s.g.ph) (hs : StackOK s.st.sinks s.stack) (hk : s.g.ph.sinkPh k = .live) :
      Macro s (.call (.sinkUp k .pull)) s.st (some (.srcUp (s.st.gen - 1) .pull, .done))
  | disposeLast (k : Nat) (u : Up) (hu : u ≠ .pull) (hc : Core s.st s.g.ph) (hs : StackOK (s.st.sinks.erase k) s.stack)
      (hk : s.g.ph.sinkPh k = .live) (he : s.st.sinks.erase k = []) :
      Macro s (.call (.sinkUp k u)) { s.st with sinks := [] } (some (.srcUp (s.st.gen - 1) .term, .done))
  | disposeSome (k : Nat) (u : Up) (hu : u ≠ .pull) (hc : Core s.st s.g.ph) (hs : StackOK (s.st.sinks.erase k) s.stack)
      (he : s.st.sinks.erase k ≠ []) :
      Macro s (.call (.sinkUp k u)) { s.st with sinks := s.st.sinks.erase k } none
  | greet (k : Nat) (hstk : s.stack = [.wait (.subSrc (s.st.gen - 1)) .done]) (w : Waiting s.st s.g.ph k) :
      Macro s (.call (.srcGreet (s.st.gen - 1))) { s.st with slot := some (s.st.gen - 1) } (some (.greet k, .done))
  | downData (i : Nat) (a : α) {s0 : Nat} {r : List Nat} (hc : Core s.st s.g.ph) (ht : ∀ f ∈ s.stack, TailF f)
      (hsr : s.st.sinks = s0 :: r) :
      Macro s (.call (.srcDown i (.data a))) s.st (some (.down s0 (.data a), .fLoop r (.data a)))
  | downEnd (i : Nat) (d : Down α) (hd : isEndD d = true) {s0 : Nat} {r : List Nat} (hc : Core s.st s.g.ph)
      (ht : ∀ f ∈ s.stack, TailF f) (hi : s.g.ph.srcPh i = .live) (hsr : s.st.sinks = s0 :: r) :
      Macro s (.call (.srcDown i d)) s.st (some (.down s0 d, .fLoop r d))
  | ret {stk : List (Fr α)} (o : Out α) (hstk : s.stack = .wait o .done :: stk) (hc : Core s.st s.g.ph)
      (hs : StackOK s.st.sinks stk) : Macro s .ret s.st none
  | retDataNil {stk : List (Fr α)} (s0 : Nat) (a : α) (hstk : s.stack = .wait (.down s0 (.data a)) (.fLoop [] (.data a)) :: stk)
      (hc : Core s.st s.g.ph) (ht : ∀ f ∈ stk, TailF f) : Macro s .ret s.st none
  | retDataCons {stk : List (Fr α)} (s0 : Nat) (a : α) (s1 : Nat) (r1 : List Nat)
      (hstk : s.stack = .wait (.down s0 (.data a)) (.fLoop (s1 :: r1) (.data a)) :: stk) (hc : Core s.st s.g.ph)
      (ht : ∀ f ∈ stk, TailF f) (hnd : (s1 :: r1).Nodup) (hr : ∀ x ∈ s1 :: r1, x ∈ s.st.sinks) :
      Macro s .ret s.st (some (.down s1 (.data a), .fLoop r1 (.data a)))
  | retEndNil {stk : List (Fr α)} (s0 : Nat) (d : Down α) (hstk : s.stack = .wait (.down s0 d) (.fLoop [] d) :: stk)
      (hd : isEndD d = true) (ht : ∀ f ∈ stk, TailF f) (hl : ∀ k, s.g.ph.sinkPh k ≠ .live) (hns : ∀ k, s.g.ph.sinkPh k ≠ .subscribed)
      (hsrc : ∀ i, s.g.ph.srcPh i ≠ .live ∧ s.g.ph.srcPh i ≠ .subscribed) : Macro s .ret { s.st with sinks := [] } none
  | retEndCons {stk : List (Fr α)} (s0 : Nat) (d : Down α) (s1 : Nat) (r1 : List Nat)
      (hstk : s.stack = .wait (.down s0 d) (.fLoop (s1 :: r1) d) :: stk) (hd : isEndD d = true) (ht : ∀ f ∈ stk, TailF f)
      (hnd : (s1 :: r1).Nodup) (hl : ∀ k, s.g.ph.sinkPh k = .live ↔ k ∈ s1 :: r1) (hns : ∀ k, s.g.ph.sinkPh k ≠ .subscribed)
      (hsrc : ∀ i, s.g.ph.srcPh i ≠ .live ∧ s.g.ph.srcPh i ≠ .subscribed) :
      Macro s .ret s.st (some (.down s1 d, .fLoop r1 d))

theorem inv_call {st : St} {o : Out α} {l : Loc α} {stk : List (Fr α)} {g : G} {tr : List (Ev α α)}
    (h : Inv' st (.wait o l :: stk) (g.ph.onOut o)) : Inv (Sys.ends (machine α).shape st stk g tr (some (o, l))) :=
  ⟨rfl, by rw [Sys.ends_some_ph]; exact h⟩

theorem inv_ret {st : St} {stk : List (Fr α)} {g : G} {tr : List (Ev α α)} (h : Inv' st stk g.ph) :
    Inv (Sys.ends (machine α).shape st stk g tr none) :=
  ⟨rfl, by rw [Sys.ends_none_ph]; exact h⟩

theorem Macro.inv {s : Cfg α} {m : Move α} {st : St} {r : Option (Out α × Loc α)} (hm : Macro s m st r) (h : Inv s) :
    Inv (s.next (machine α).shape st m r) := by
  have hv : s.g.ph.viols = [] := h.2.1
  have hgen : Gen s.st s.g.ph := h.2.2.1
  cases hm with
  | subFirst k h0 hc he =>
    refine inv_call ?_
    rw [h0, onIn_ph, Ph.onIn_subscribe,
      Ph.onOut_subSrc (g := s.g.ph.setSink k .subscribed) (hgen.2 _ (Nat.le_refl _)) ((Ph.anySinkOpen_iff _).2 ⟨k, by simp⟩)]
    exact ⟨hv, (hgen.setSink k _).sub_first _ k _, (hc.sub_first he hgen.1 k).mode rfl⟩
  | subMore k h0 hc he hk =>
    refine inv_call ?_
    rw [h0, onIn_ph, Ph.onIn_subscribe, Ph.onOut_greet (by simp)]
    exact ⟨hv, hgen, .core (hc.sub_more he hk) (Or.inl (by simp [TailF]))⟩
  | pull k hc hs hk =>
    refine inv_call ?_
    rw [onIn_ph, Ph.onIn_pull, Ph.onOut_pull (hc.up_of_live hk).1]
    exact ⟨hv, hgen, .core hc (hs.push_up _ _)⟩
  | disposeLast k u hu hc hs hk he =>
    have hup := (hc.up_of_live hk).1
    refine inv_call ?_
    rw [onIn_ph, Ph.onIn_sinkEnd _ _ hu, Ph.onOut_srcEnd (u := .term) (by simpa using hup) (fun h => nomatch h)]
    exact ⟨hv, (hgen.setSink k _).setSrc (by simp [hup]) _, .core (hc.dispose_last k he) (he ▸ hs.push_up _ _)⟩
  | disposeSome k u hu hc hs he =>
    refine inv_ret ?_
    rw [onIn_ph, Ph.onIn_sinkEnd _ _ hu]
    exact ⟨hv, hgen, .core (hc.dispose_some k he) hs⟩
  | greet k hstk w =>
    refine inv_call ?_
    rw [hstk, onIn_ph, Ph.onIn_srcGreet, Ph.onOut_greet (by simpa using w.sub)]
    exact ⟨hv, hgen.setSrc (by rw [w.src]; simp) _, .core w.greeted (Or.inl (by simp [TailF]))⟩
  | @downData i a s0 r hc ht hsr =>
    refine inv_call ?_
    rw [onIn_ph, Ph.onIn_data, Ph.onOut_data ((hc.mem s0).1 (by simp [hsr])) a]
    exact ⟨hv, hgen, .core hc (Or.inr ⟨[], s0, a, r, _, rfl, by simp, ht, hsr ▸ hc.nodup, fun x hx => by simp [hsr, hx]⟩)⟩
  | @downEnd i d hd s0 r hc ht hi hsr =>
    refine inv_call ?_
    rw [onIn_ph, Ph.onIn_srcEnd _ _ (isFinal_of_isEndD hd), Ph.onOut_final (by simpa using (hc.mem s0).1 (by simp [hsr])) (isFinal_of_isEndD hd)]
    obtain ⟨h1, h2, h3⟩ := hc.ended hi hsr
    exact ⟨hv, hgen.setSrc (by rw [hi]; simp) _, .tfan s0 d r _ rfl hd ht (List.nodup_cons.1 (hsr ▸ hc.nodup)).2 h1 h2 h3⟩
  | ret o hstk hc hs => rw [Sys.next_ret hstk]; exact inv_ret ⟨hv, hgen, .core hc hs⟩
  | retDataNil s0 a hstk hc ht => rw [Sys.next_ret hstk]; exact inv_ret ⟨hv, hgen, .core hc (Or.inl ht)⟩
  | @retDataCons stk s0 a s1 r1 hstk hc ht hnd hr =>
    rw [Sys.next_ret hstk]
    refine inv_call ?_
    rw [Ph.onOut_data ((hc.mem s1).1 (hr s1 (by simp))) a]
    exact ⟨hv, hgen, .core hc (Or.inr ⟨[], s1, a, r1, stk, rfl, by simp, ht, hnd, fun x hx => hr x (by simp [hx])⟩)⟩
  | retEndNil s0 d hstk hd ht hl hns hsrc =>
    rw [Sys.next_ret hstk]; exact inv_ret ⟨hv, hgen, .core (core_of_quiet hl hns hsrc) (Or.inl ht)⟩
  | @retEndCons stk s0 d s1 r1 hstk hd ht hnd hl hns hsrc =>
    rw [Sys.next_ret hstk]
    refine inv_call ?_
    rw [Ph.onOut_final ((hl s1).2 (by simp)) (isFinal_of_isEndD hd)]
    obtain ⟨h1, h2⟩ := tfan_next hnd hl hns
    exact ⟨hv, hgen, .tfan s1 d r1 stk rfl hd ht (List.nodup_cons.1 hnd).2 h1 h2 hsrc⟩

end Cb.Share
