import CallbagModel.Inv.Ghost2
import CallbagModel.Inv.Runs
import CallbagModel.Inv.Merge
/-!
# merge: the FULL safety invariant (both ghost layers: C01–C05, C17)

Laid over `Merge.Inv` (`safe_of_layer`): a clause `Ext s.g s.stack` about the second ghost layer, selected by the continuation
in the top frame of the stack, and preserved along every control path of `Merge.Macro`:

* stable modes (`init`, `opn`, `compl`, `closed`, including open Pull-broadcast frames): `XS g` = `XOk g ∧ g.sinkErr = none`;
* `uloop j u` with `u = Terminate/Error` (the sink's own end is being broadcast): the sink has disposed and the members
  after `j` are still live, so `NoOrphan` is false — the mode carries `Quiet` (nothing recorded, nothing pending), and
  `sinkErr` is exactly what the `sinkUp` call recorded (`some (e, height)` for `Error e`, `none` for `Terminate`); `XOk` is
  re-established by the handler's final return (which also clears `sinkErr`: the recorded height is the height after the
  return);
* `eloop i j e` (member `i` failed, its siblings are being disposed): the pending check of C05 is not satisfiable yet — the
  mode carries `PendErr g e` (nothing recorded, `pend = some (e, _, ks)` with `∅ ≠ ks ⊆ {0}`) and `sinkErr = none`; `XOk` is
  re-established by the macro step that ends with `down 0 (err e)`.
-/
namespace Cb.MergeFull
open Cb.Merge

variable {α : Type}

structure XS (g : G) : Prop where
  xok : XOk g
  se : g.sinkErr = none

structure Same2 (g g' : G) : Prop where
  fin : g'.fin = g.fin
  se : g'.sinkErr = g.sinkErr
  pend : g'.pend = g.pend
  xv : g'.xviols = g.xviols

theorem Same2.refl (g : G) : Same2 g g := ⟨rfl, rfl, rfl, rfl⟩

theorem Same2.quiet {g g' : G} (hs : Same2 g g') (hq : Quiet g) : Quiet g' := ⟨hs.xv.trans hq.1, hs.pend.trans hq.2⟩

theorem Same2.trans {a b c : G} (h1 : Same2 a b) (h2 : Same2 b c) : Same2 a c :=
  ⟨h2.fin.trans h1.fin, h2.se.trans h1.se, h2.pend.trans h1.pend, h2.xv.trans h1.xv⟩

theorem same2_of_eq {g g' : G} {p : Ph} (h : g' = { g with ph := p }) : Same2 g g' := by
  subst h; exact ⟨rfl, rfl, rfl, rfl⟩

theorem same2_onIn_subscribe (g : G) (h k : Nat) : Same2 g (g.onIn h (.subscribe k : In α)) := ⟨rfl, rfl, rfl, rfl⟩
theorem same2_onIn_srcGreet (g : G) (h i : Nat) : Same2 g (g.onIn h (.srcGreet i : In α)) := ⟨rfl, rfl, rfl, rfl⟩
theorem same2_onIn_pull (g : G) (h k : Nat) : Same2 g (g.onIn h (.sinkUp k .pull : In α)) := ⟨rfl, rfl, rfl, rfl⟩
theorem same2_onIn_data (g : G) (h i : Nat) (a : α) : Same2 g (g.onIn h (.srcDown i (.data a) : In α)) := ⟨rfl, rfl, rfl, rfl⟩
theorem same2_onIn_srcTerm (g : G) (h i : Nat) : Same2 g (g.onIn h (.srcDown i .term : In α)) := ⟨rfl, rfl, rfl, rfl⟩

theorem same2_onOut_greet (sh : Shape) (g : G) (k : Nat) : Same2 g (g.onOut sh (.greet k : Out α)) := ⟨rfl, rfl, rfl, rfl⟩
theorem same2_onOut_subSrc (sh : Shape) (g : G) (i : Nat) : Same2 g (g.onOut sh (.subSrc i : Out α)) := ⟨rfl, rfl, rfl, rfl⟩
theorem same2_onOut_pull (sh : Shape) (g : G) (i : Nat) : Same2 g (g.onOut sh (.srcUp i .pull : Out α)) := ⟨rfl, rfl, rfl, rfl⟩
theorem same2_onOut_data (sh : Shape) (g : G) (k : Nat) (a : α) : Same2 g (g.onOut sh (.down k (.data a) : Out α)) :=
  same2_of_eq (onOut_data sh g k a)
theorem same2_onOut_term (sh : Shape) (g : G) (i : Nat) (h : g.sinkErr = none) : Same2 g (g.onOut sh (.srcUp i .term : Out α)) :=
  same2_of_eq (onOut_term_quiet sh g i (Or.inl h))

def seOf : Up → Nat → Option (Nat × Nat)
  | .err e, h => some (e, h)
  | _, _ => none

theorem same2_onOut_end (sh : Shape) (g : G) (i : Nat) (u : Up) (hu : isEnd u = true) (h : Nat) (hs : g.sinkErr = seOf u h) :
    Same2 g (g.onOut sh (.srcUp i u : Out α)) := by
  cases u with
  | pull => cases hu
  | term => exact same2_onOut_term sh g i hs
  | err e => exact same2_of_eq (onOut_err_relayed sh g i e h hs)

theorem XS.onRetO {g : G} (hx : XS g) (h : Nat) : XS (g.onRetO h) :=
  ⟨hx.xok.onRetO h, onRetO_sinkErr_none hx.se h⟩

theorem XS.transfer_noDone {g g' : G} (hx : XS g) (hs : Same2 g g') (hnd : ∀ k, g.ph.sinkPh k ≠ .doneBySrc)
    (ho : NoOrphan g'.ph) : XS g' :=
  ⟨(hs.quiet (hx.xok.quiet_of_noDone hnd)).xok ho, hs.se.trans hx.se⟩

theorem XS.transfer_noLive {g g' : G} (hx : XS g) (hs : Same2 g g') (hnl : ∀ i, g'.ph.srcPh i ≠ .live)
    (hd : ∀ k, g.ph.sinkPh k = .doneBySrc → g'.ph.sinkPh k = .doneBySrc) : XS g' :=
  ⟨hx.xok.of_fields hs.fin (Or.inl hs.pend) hs.xv (Or.inr ⟨hnl, hd⟩) (noOrphan_of_noLive hnl), hs.se.trans hx.se⟩

theorem xs_end_ret {g : G} {u : Up} {h : Nat} (hq : Quiet g) (hs : g.sinkErr = seOf u h) (hnl : ∀ i, g.ph.srcPh i ≠ .live) :
    XS (g.onRetO h) := by
  refine ⟨(hq.xok (noOrphan_of_noLive hnl)).onRetO h, ?_⟩
  obtain ⟨_, eq, -⟩ := onRetO_eq g h
  rw [eq]
  show g.sinkErr.filter _ = none
  rw [hs]; cases u <;> simp [seOf]

theorem xs_err_out (sh : Shape) {g : G} {e : Nat} (hp : PendErr g e) (hs : g.sinkErr = none) (hsink : g.ph.sinkPh 0 = .live)
    (hnl : ∀ i, g.ph.srcPh i ≠ .live) : XS (g.onOut sh (Out.down 0 (.err e) : Out α)) :=
  ⟨hp.deliver sh hsink fun i => by rw [Ph.srcPh_onOut_down]; exact hnl i, (onOut_sinkErr_pend sh g _).1.trans hs⟩

theorem openSink_noDone {n : Nat} {st : St} {g : Ph} (ho : OpenSink st g) (hb : Base n g) : ∀ k, g.sinkPh k ≠ .doneBySrc := by
  apply noDone_of hb.sinks
  rcases ho with ⟨h, _⟩ | ⟨h, _⟩ <;> (rw [h]; decide)

theorem openSink_noOrphan {st : St} {g : Ph} (ho : OpenSink st g) : NoOrphan g :=
  noOrphan_of_open 0 ho.sink

theorem XS.of_live {n : Nat} {g g' : G} (hx : XS g) (hs : Same2 g g') (hb : Base n g.ph) (hk : g.ph.sinkPh 0 = .live)
    (hk' : g'.ph.sinkPh 0 = .live) : XS g' :=
  hx.transfer_noDone hs (noDone_of hb.sinks (by rw [hk]; decide)) (noOrphan_of_open 0 (Or.inr hk'))

theorem XS.enter_up {n : Nat} {g : G} (hx : XS g) (hb : Base n g.ph) (hsink : g.ph.sinkPh 0 = .live) (u : Up)
    (hu : isEnd u = true) (h : Nat) :
    Quiet (g.onIn h (.sinkUp 0 u : In α)) ∧ (g.onIn h (.sinkUp 0 u : In α)).sinkErr = seOf u h := by
  refine ⟨(hx.xok.quiet_of_noDone (noDone_of hb.sinks (by rw [hsink]; decide))).onIn h, ?_⟩
  cases u with
  | pull => cases hu
  | term => exact hx.se
  | err e => rfl

theorem XS.enter_err {n : Nat} {g : G} (hx : XS g) (hb : Base n g.ph) (hsink : g.ph.sinkPh 0 = .live) (i e h : Nat) :
    PendErr (g.onIn h (.srcDown i (.err e) : In α)) e ∧ (g.onIn h (.srcDown i (.err e) : In α)).sinkErr = none :=
  ⟨(hx.xok.quiet_of_noDone (noDone_of hb.sinks (by rw [hsink]; decide))).srcErr hsink (fun _ => sink_zero_of_live hb.sinks) h i e,
    ((onIn_fields g h (.srcDown i (.err e) : In α)).2.2.1 fun _ _ h => nomatch h).trans hx.se⟩

theorem XS.out_term (sh : Shape) {g : G} (hx : XS g) (hnd : ∀ k, g.ph.sinkPh k ≠ .doneBySrc)
    (ho : NoOrphan (g.ph.onOut (Out.down 0 .term : Out α))) : XS (g.onOut sh (Out.down 0 .term : Out α)) :=
  ⟨((hx.xok.quiet_of_noDone hnd).onOut_down sh 0 .term).xok ((onOut_ph ..).symm ▸ ho),
    (onOut_sinkErr_pend sh g _).1.trans hx.se⟩

/-- the clause that goes with the continuation `l`, running or waiting above `h` frames -/
def ExtAt (g : G) (h : Nat) : Loc α → Prop
  | .uLoop _ u => if isEnd u = true then Quiet g ∧ g.sinkErr = seOf u h else XS g
  | .eLoop _ _ e => PendErr g e ∧ g.sinkErr = none
  | _ => XS g

def Ext (g : G) : List (Frame (Loc α) α) → Prop
  | .wait _ l :: rest => ExtAt g rest.length l
  | _ => XS g

theorem ext_wait {g : G} {o : Out α} {l : Loc α} {rest : List (Frame (Loc α) α)} :
    Ext g (.wait o l :: rest) ↔ ExtAt g rest.length l := Iff.rfl

theorem extAt_pull {g : G} {h j : Nat} : ExtAt g h (.uLoop j .pull : Loc α) ↔ XS g := by simp [ExtAt, isEnd]

theorem extAt_end {g : G} {h j : Nat} {u : Up} (hu : isEnd u = true) :
    ExtAt g h (.uLoop j u : Loc α) ↔ Quiet g ∧ g.sinkErr = seOf u h := by
  simp [ExtAt, hu]

theorem ExtAt.clean {g : G} {h : Nat} {l : Loc α} (hx : ExtAt g h l) : g.xviols = [] := by
  unfold ExtAt at hx
  split at hx
  · split at hx
    · exact hx.1.1
    · exact hx.xok.clean
  · exact hx.1.1
  · exact hx.xok.clean

theorem Ext.clean {g : G} {stk : List (Frame (Loc α) α)} (h : Ext g stk) : g.xviols = [] := by
  cases stk with
  | nil => exact h.xok.clean
  | cons f r =>
    cases f with
    | run l => exact h.xok.clean
    | wait o l => exact ExtAt.clean h

theorem ext_iff_of_stk {p : Ph} {g : G} {stk : List (Frame (Loc α) α)} (hstk : Stk p stk) : Ext g stk ↔ XS g := by
  cases stk with
  | nil => exact Iff.rfl
  | cons f r =>
    cases f with
    | run l => exact hstk.elim
    | wait o l =>
      cases l with
      | uLoop j u =>
        cases u with
        | pull => exact ext_wait.trans extAt_pull
        | _ => exact hstk.1.elim
      | eLoop i j e => exact hstk.1.elim
      | _ => exact Iff.rfl

theorem ext_entry {n : Nat} {s : Cfg α} {m : Move α} {st : St} {l : Loc α} (hent : Entry n s m st l) (hx : Ext s.g s.stack) :
    ExtAt (s.gIn m) (s.below m).length l := by
  cases hent with
  | subscribe hb hk h0 =>
    rw [h0] at hx
    exact XS.transfer_noDone hx (same2_onIn_subscribe s.g s.stack.length 0) (noDone_of hb.sinks (by rw [hk]; decide))
      (noOrphan_of_open 0 (Or.inl (by simp [Sys.gIn, Ph.onIn])))
  | pull hb hstk hk =>
    exact extAt_pull.2 (((ext_iff_of_stk hstk).1 hx).of_live (same2_onIn_pull s.g s.stack.length 0) hb hk hk)
  | sinkEnd u hu hb hstk hk => exact (extAt_end hu).2 (((ext_iff_of_stk hstk).1 hx).enter_up hb hk u hu _)
  | srcErr i e hb hstk hk => exact ((ext_iff_of_stk hstk).1 hx).enter_err hb hk i e _
  | ret h => rw [h] at hx; show ExtAt s.g s.stack.tail.length _; rw [h]; exact hx

theorem ext_tail {n : Nat} {g : G} {stk : List (Frame (Loc α) α)} {st : St} {l : Loc α} {r : Option (Out α × Loc α)}
    (ht : Tail n g.ph stk st l r) (hx : ExtAt g stk.length l) (tr : List (Ev α α)) :
    Ext (Sys.ends (machine α n).shape st stk g tr r).g (Sys.ends (machine α n).shape st stk g tr r).stack := by
  cases ht with
  | done hstk | subRet hstk => exact (ext_iff_of_stk hstk).2 (XS.onRetO hx _)
  | subCall hb ho hi =>
    exact XS.transfer_noDone hx (same2_onOut_subSrc (machine α n).shape _ _) (openSink_noDone ho hb)
      (by rw [onOut_ph, Ph.onOut_subSrc hi ((Ph.anySinkOpen_iff _).2 ⟨0, ho.sink⟩)]; exact noOrphan_of_open 0 (by simpa using ho.sink))
  | pullRet hstk => exact (ext_iff_of_stk hstk).2 ((extAt_pull.1 hx).onRetO _)
  | pullCall j' hb ho hlive =>
    exact ext_wait.2 <| extAt_pull.2 ((extAt_pull.1 hx).transfer_noDone
      (same2_onOut_pull (machine α n).shape _ _) (openSink_noDone ho hb)
      (by rw [onOut_ph, Ph.onOut_pull hlive]; exact openSink_noOrphan ho))
  | endRet hu hstk hnl =>
    obtain ⟨hq, hs⟩ := (extAt_end hu).1 hx
    exact (ext_iff_of_stk hstk).2 (xs_end_ret hq hs hnl)
  | endCall j' hu =>
    obtain ⟨hq, hs⟩ := (extAt_end hu).1 hx
    have h2 := same2_onOut_end (α := α) (machine α n).shape _ j' _ hu _ hs
    exact ext_wait.2 <| (extAt_end hu).2 ⟨h2.quiet hq, h2.se.trans hs⟩
  | errOut hk hnl =>
    obtain ⟨hp, hs⟩ : PendErr _ _ ∧ _ := hx
    exact xs_err_out (machine α n).shape hp hs hk hnl
  | errCall j' =>
    obtain ⟨hp, hs⟩ : PendErr _ _ ∧ _ := hx
    have h2 := same2_onOut_term (α := α) (machine α n).shape _ j' hs
    exact ⟨hp.congr h2.xv h2.pend, h2.se.trans hs⟩

theorem ext_macro {n : Nat} {s : Cfg α} {m : Move α} {st : St} {r : Option (Out α × Loc α)} (hm : Macro n s m st r)
    (hx : Ext s.g s.stack) :
    Ext (s.next (machine α n).shape st m r).g (s.next (machine α n).shape st m r).stack := by
  cases hm with
  | tail hent ht => rw [Sys.next_eq]; exact ext_tail ht (ext_entry hent hx) _
  | greetFirst i hb hstk he hsc hk =>
    refine ((ext_iff_of_stk hstk).1 hx).transfer_noDone ((same2_onIn_srcGreet _ _ i).trans (same2_onOut_greet (machine α n).shape _ _))
      (noDone_of hb.sinks (by rw [hk]; decide)) ?_
    rw [onOut_ph, onIn_ph, Ph.onOut_greet (by simpa using hk)]
    exact noOrphan_of_open 0 (Or.inr (by simp))
  | greetLater i hb hstk he hsc hk =>
    exact (ext_iff_of_stk hstk).2 ((((ext_iff_of_stk hstk).1 hx).of_live (same2_onIn_srcGreet _ _ i) hb hk hk).onRetO _)
  | greetLate i hb hstk he hk hnl =>
    have hxs := (ext_iff_of_stk hstk).1 hx
    have e : ((s.g.onIn s.stack.length (.srcGreet i : In α)).onOut (machine α n).shape (.srcUp i .term : Out α)).ph =
        (s.g.ph.setSrc i .live).setSrc i .disposed := by
      rw [onOut_ph, onIn_ph, Ph.onIn_srcGreet, Ph.onOut_srcEnd (Ph.srcPh_setSrc_self _ _ _) (ne_pull_of_isEnd rfl)]
    refine hxs.transfer_noLive ((same2_onIn_srcGreet _ _ i).trans (same2_onOut_term (machine α n).shape _ _ hxs.se))
      (fun j => ?_) (fun k hk' => ?_) <;> rw [e]
    · by_cases hj : j = i
      · subst hj; simp
      · simpa [hj] using hnl j
    · simpa using hk'
  | data i a hb hstk hk =>
    refine ((ext_iff_of_stk hstk).1 hx).of_live ((same2_onIn_data _ _ i a).trans (same2_onOut_data (machine α n).shape _ _ _))
      hb hk ?_
    rw [onOut_ph, onIn_ph, Ph.onIn_data, Ph.onOut_data hk]; exact hk
  | termLast i hb hstk he hk hall hnl =>
    have hnd := noDone_of hb.sinks (by rw [hk]; decide)
    have hx0 := ((ext_iff_of_stk hstk).1 hx).of_live (same2_onIn_srcTerm (α := α) s.g s.stack.length i) hb hk hk
    refine hx0.out_term (machine α n).shape (fun k => by simpa using hnd k) ?_
    rw [onIn_ph, Ph.onIn_srcEnd _ _ rfl, Ph.onOut_final (by simpa using hk) rfl]
    exact noOrphan_of_noLive (fun j => by simpa using hnl j)
  | termNotLast i hb hstk hk hcnt hlast =>
    exact (ext_iff_of_stk hstk).2 ((((ext_iff_of_stk hstk).1 hx).of_live (same2_onIn_srcTerm _ _ i) hb hk hk).onRetO _)

/-- merge, every member count, late greeters allowed: under every conformant environment the operator never violates any
clause of C01–C05 (both ghost layers: the sink's `Error(e)` is relayed to every live member as `Error(e)`; no member is left
live once the output is over and control is back at top level; a member's `Error(e)` reaches the sink exactly once,
unchanged, with every other member disposed, before the handler of that error returns) and never panics. -/
theorem merge_safe {α : Type} (n : Nat) : ∀ s, SReach (machine α n true true) s → Safe s :=
  safe_of_layer (fun s => Ext s.g s.stack) (Merge.inv_init n) ⟨XOk.init, rfl⟩ (Merge.inv_turn n) (fun _ h => h.clean)
    fun _ _ _ hi hx he => (Merge.macro_step n hi he).step (P := fun s => Ext s.g s.stack) fun _ _ hm _ => ext_macro hm hx

end Cb.MergeFull

#print axioms Cb.MergeFull.merge_safe
