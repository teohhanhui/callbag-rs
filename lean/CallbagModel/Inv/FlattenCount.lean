import CallbagModel.Inv.ComposeFun
import CallbagModel.Inv.Flatten
/-!
# `flatten` alone: the count of inner sources

About reachable configurations of `Flatten.machine Int` by itself, with no assumption on the environment.  `flatten_numbered`: when
flatten subscribes to inner source `j + 1`, it has received `j + 1` outer data — the fact about flatten that the trace part of the
projection of `flatPlug` rests on.  It is read off `CNT`, a layer over flatten's macro steps.
-/
namespace Cb

namespace FlatPlugSafe

abbrev FL := Flatten.Loc Int

def locOf {L β : Type} : Frame L β → L
  | .run l => l
  | .wait _ l => l

abbrev FSys := Sys Flatten.St FL Int Int

theorem flatten_lg : (Flatten.machine Int).shape.lateGreet = false := rfl

end FlatPlugSafe

namespace FlatPlugFun
open ComposeFun FlatPlugSafe

namespace FK

abbrev Fm := Frame FL Int

theorem callOk_turn {st : Flatten.St} {stk : List Fm} {g : G} {tr : List (Ev Int Int)} {c : Ctx Int} {i : In Int}
    (ha : SReach (Flatten.machine Int) ⟨st, stk, g, tr, none⟩) (hc : ctxOf stk = some c)
    (hl : legalIn (Flatten.machine Int).shape g.ph c i = true) : Flatten.CallOk st g.ph stk i := by
  obtain ⟨_, _, _, hidle, hoths, hm⟩ := Flatten.inv_of_turn ha ⟨rfl, by rw [hc]; rfl⟩
  exact Flatten.callOk_of_legal hidle hoths hm hc hl

theorem benign_done {o : Out Int} {l : FL} (h : Flatten.Benign (Frame.wait o l : Fm)) : l = .done := by
  cases l with
  | done => rfl
  | _ => exact h.elim

/-- 1 while the handler of an outer datum waits for the old inner source to be disposed (continuation `od1`) -/
def odT : List Fm → Nat
  | .wait _ .od1 :: _ => 1
  | _ => 0

theorem odT_benign {stk : List Fm} (h : ∀ f ∈ stk, Flatten.Benign f) : odT stk = 0 := by
  cases stk with
  | nil => rfl
  | cons f r =>
    cases f with
    | run l => rfl
    | wait o l => cases benign_done (h _ List.mem_cons_self); rfl

/-- at a turn the inner sources created, plus the outer datum whose handler is suspended, are the data of the outer source -/
def CNT (s : FSys) : Prop := s.st.nextId + odT s.stack = (sentData 0 s.tr).length + 1

theorem CNT.macro {s : FSys} {m : Move Int} {st : Flatten.St} {r : Option (Out Int × FL)} (h : CNT s)
    (hm : Flatten.Macro s m st r) : CNT (s.next (Flatten.machine Int).shape st m r) := by
  obtain ⟨⟨outer, inner, n⟩, stk, g, tr, p⟩ := s
  cases hm with
  | @ret o l stk' hstk hben hok =>
    cases hstk
    have h0 : n + 0 = (sentData 0 tr).length + 1 → n + odT stk' = (sentData 0 tr).length + 1 := by rw [odT_benign hben]; exact id
    cases l with
    | done => exact h0 h
    | od1 | oe1 e | ie1 e => exact h
    | x1 => cases outer <;> first | exact h | exact h0 h
    | _ => exact hok.elim
  | call i hok =>
    have h : n + odT stk = (sentData 0 tr).length + 1 := h
    have h0 : n + 0 = (sentData 0 tr).length + 1 := by rw [odT_benign hok.benign] at h; exact h
    cases i with
    | subscribe k => exact h0
    | srcGreet j => cases j <;> exact h0
    | sinkUp k u => cases u <;> cases inner <;> cases outer <;> first | exact h0 | exact h
    | srcDown j d =>
      cases j with
      | succ j => cases d <;> cases outer <;> exact h0
      | zero =>
        cases d with
        | err e => cases inner <;> exact h0
        | term => cases inner <;> first | exact h0 | exact h
        | data x =>
          have hl : (sentData 0 (.inp (.srcDown 0 (.data x)) :: tr)).length = (sentData 0 tr).length + 1 := List.length_append
          cases inner with
          | none => exact (hl ▸ congrArg (· + 1) h0 : n + 1 + 0 = (sentData 0 (.inp (.srcDown 0 (.data x)) :: tr)).length + 1)
          | some k => exact (hl ▸ congrArg (· + 1) h0 : n + 1 = (sentData 0 (.inp (.srcDown 0 (.data x)) :: tr)).length + 1)

theorem CNT_of_turn {s : FSys} (hs : SReach (Flatten.machine Int) s) (ht : EnvTurn s) : CNT s :=
  (Lands.at_turn anyEnv CNT Flatten.inv_init rfl (fun s h => (Flatten.inv_turn s h).1) Flatten.macro_step
    (fun _ _ _ _ _ _ h _ hm _ _ => h.macro hm) hs ht).2

/-- the configuration after the call that subscribes to the new inner source is a turn: `CNT` is read there -/
theorem od1_count {st : Flatten.St} {stk : List Fm} {g : G} {tr : List (Ev Int Int)}
    (h : SReach (Flatten.machine Int) ⟨st, .run .od1 :: stk, g, tr, none⟩) : (sentData 0 tr).length = st.nextId := by
  have := CNT_of_turn (h.step (.op (opStep_of_oStep (.call (o := .subSrc st.nextId) (s' := { st with nextId := st.nextId + 1 })
    (l' := .done) rfl)))) ⟨rfl, rfl⟩
  exact (Nat.succ.inj this).symm

end FK

theorem subI_od1 {st s' : Flatten.St} {l l' : FL} {j0 : Nat} (h : (Flatten.machine Int).step st l = .call (.subSrc (j0 + 1)) s' l') :
    l = .od1 ∧ st.nextId = j0 + 1 := by
  have : Flatten.Call st l (.subSrc (j0 + 1)) s' l' := Flatten.Edge.of h
  generalize ho : (Out.subSrc (j0 + 1) : Out Int) = o at this
  cases this
  all_goals first | (cases ho; done) | skip
  injection ho with h1
  exact ⟨rfl, h1.symm⟩

theorem flatten_numbered {st s' : Flatten.St} {l l' : FL} {stk : List FK.Fm} {g : G} {tr : List (Ev Int Int)} {j : Nat}
    (hr : SReach (Flatten.machine Int) ⟨st, .run l :: stk, g, tr, none⟩)
    (hst : (Flatten.machine Int).step st l = .call (.subSrc (j + 1)) s' l') : (sentS 0 (srcEvs tr)).length = j + 1 := by
  obtain ⟨rfl, hn⟩ := subI_od1 hst
  rw [← sentData_eq, FK.od1_count hr, hn]

end FlatPlugFun
end Cb

#print axioms Cb.FlatPlugFun.FK.CNT_of_turn
#print axioms Cb.FlatPlugFun.FK.od1_count
