import CallbagModel.Inv.PlugConcat
import CallbagModel.Closed.Exec
import CallbagModel.Closed.Linear
/-!
# n-ary `concat!`, the term the driver builds: `concatN_headOkT`

`Closed.concatM [A₀, …, Aₙ₋₁]` (Closed/Exec.lean) plugs the members into the n-ary `concat` machine one slot after the other, slot 0
first (innermost): after `k` steps the slots `downFrom k = [k-1, …, 0]` are plugged.  `concatM_fold` carries a property of the partly
plugged machine through these steps; with `PartC` of `Inv/PlugConcat.lean` this is `concatN_headOkT`.
-/
namespace Cb
namespace ConcatN
open PlugConcat

section Driver
open Closed ComposeFull

/-- `[k-1, …, 0]`: the slots plugged after `k` steps of `concatM` -/
def downFrom : Nat → List Nat
  | 0 => []
  | k + 1 => k :: downFrom k

theorem mem_downFrom {i : Nat} : ∀ {k : Nat}, i ∈ downFrom k ↔ i < k
  | 0 => by simp [downFrom]
  | k + 1 => by simp only [downFrom, List.mem_cons, mem_downFrom (k := k)]; omega

theorem not_mem_downFrom (k : Nat) : k ∉ downFrom k := fun h => Nat.lt_irrefl _ (mem_downFrom.1 h)

theorem concatM_fold {P Q : Nat → AnyM → Prop} (As : List AnyM)
    (base : P 0 { St := Concat.St, Loc := Concat.Loc Int, M := Concat.machine Int As.length, nexts := fun _ => 0 })
    (plug : ∀ k A acc, P k acc → Q k A → P (k + 1) (plugM k A acc)) (hAs : ∀ i (h : i < As.length), Q i As[i]) :
    P As.length (concatM As) := by
  have key : ∀ (l : List AnyM) (k : Nat) (acc : AnyM), P k acc → (∀ i (h : i < l.length), Q (k + i) l[i]) →
      P (k + l.length) ((l.zipIdx k).foldl (fun acc (p : AnyM × Nat) => plugM p.2 p.1 acc) acc) := by
    intro l
    induction l with
    | nil => intro k acc h _; exact h
    | cons A t ih =>
      intro k acc h hl
      rw [List.zipIdx_cons, List.foldl_cons, List.length_cons, ← Nat.add_assoc, Nat.add_right_comm]
      refine ih (k + 1) _ (plug k A acc h (hl 0 (Nat.zero_lt_succ _))) (fun i hi => ?_)
      have := hl (i + 1) (Nat.succ_lt_succ hi)
      rwa [List.getElem_cons_succ, ← Nat.add_assoc, Nat.add_right_comm] at this
  have := key As 0 _ base (fun i hi => by rw [Nat.zero_add]; exact hAs i hi)
  rwa [Nat.zero_add] at this

/-- **n-ary `concat!`, the term the driver builds**: `concatM [A₀, …, Aₙ₋₁]` of closed heads of `ys 0, …, ys (n-1)` is a closed head of
`ys 0 ++ … ++ ys (n-1)` -/
theorem concatN_headOkT (As : List AnyM) (hne : 0 < As.length) (ys : Nat → List Int)
    (h : ∀ i (hi : i < As.length), HeadOkT As[i].M (ys i) ∧ NoUpstream As[i].M) :
    HeadOkT (concatM As).M (catN ys As.length) ∧ NoUpstream (concatM As).M :=
  PartC.head hne (concatM_fold (P := fun k acc => PartC As.length (downFrom k) ys acc.M)
    (Q := fun k A => HeadOkT A.M (ys k) ∧ NoUpstream A.M) As (PartC.base As.length hne ys)
    (fun k _ _ hM hA => hM.plug (not_mem_downFrom k) hA.1 hA.2) h) (fun _ hi => mem_downFrom.2 hi)

theorem concatN_headOkT' (As : List AnyM) (hne : 0 < As.length) (yss : List (List Int)) (hlen : yss.length = As.length)
    (h : ∀ i (hi : i < As.length), HeadOkT As[i].M (yss.getD i []) ∧ NoUpstream As[i].M) :
    HeadOkT (concatM As).M yss.flatten ∧ NoUpstream (concatM As).M := by
  rw [← catN_getD, hlen]
  exact concatN_headOkT As hne _ h

/-- closed with `for_each(f)`: the machine the driver builds for `pipe!(concat!(A₀, …, Aₙ₋₁), for_each(f))` -/
theorem concatN_correct (As : List AnyM) (hne : 0 < As.length) (ys : Nat → List Int)
    (h : ∀ i (hi : i < As.length), HeadOkT As[i].M (ys i) ∧ NoUpstream As[i].M) :
    ∀ s, SReach (thenM (concatM As) forEachM).M s →
      BasicSafe s ∧ applied s.tr <+: catN ys As.length ∧ (s.stack = [] → s.tr ≠ [] → applied s.tr = catN ys As.length) :=
  head_forEach_correct (concatN_headOkT As hne ys h).1.head

theorem concatN_safe (As : List AnyM) (hne : 0 < As.length) (ys : Nat → List Int)
    (h : ∀ i (hi : i < As.length), HeadOkT As[i].M (ys i) ∧ NoUpstream As[i].M) :
    ∀ s, SReach (thenM (concatM As) forEachM).M s → Safe s ∧ SafeFor 4 s ∧ SafeFor 5 s :=
  closed_pipeline_full₀ (concatN_headOkT As hne ys h).1.head.up

end Driver

end ConcatN
end Cb

#print axioms Cb.ConcatN.concatN_headOkT
#print axioms Cb.ConcatN.concatN_headOkT'
#print axioms Cb.ConcatN.concatN_correct
#print axioms Cb.ConcatN.concatN_safe
