import CallbagModel.Inv.Ghost2
import CallbagModel.Inv.Take
/-!
# take: the FULL safety invariant (both ghost layers: C01–C05, C17)

The second layer is `XOkRelay`: its clause `sinkErr = none` unless the sink has disposed is needed where `take`
terminates its upstream by itself (a `Terminate` sent upstream while the sink's `Error` is being relayed would be flagged).
-/
namespace Cb.TakeFull
open Cb.Take

variable {α : Type}

/-- take: under every conformant environment the operator never violates any clause of C01–C05 and never panics. -/
theorem take_safe (max : Nat) : ∀ s, SReach (machine α max) s → Safe s :=
  Lands.safe (inv_init max) XOkRelay.init (inv_turn max) (fun _ h => h.1.clean) (macro_step max)

end Cb.TakeFull
