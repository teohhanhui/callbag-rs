import CallbagModel.Ops.FlatPlug
import CallbagModel.Inv.Conform
import CallbagModel.Inv.Edges
/-!
# The steps of the network `flatPlug Mo Mi initOf`

A step of the network is a step of the component frame on top: the outer source, flatten, or an inner source.  A call of the outer or of
an inner source to its sink 0 is internal and puts a frame of flatten on top; so is a call of flatten to its upstream 0 (the outer source)
or `j + 1` (inner source `j + 1`, which a subscription creates from the pending outer datum); flatten's calls to its sink are the calls
of the network (`FTau`: the internal steps).
-/
namespace Cb
open ComposeSafe

variable {So Lo Si Li αo αi : Type} {Mo : Machine So Lo αo Int} {Mi : Machine Si Li αi Int}

section Equations
variable {initOf : Int → Si} {st : FPSt So Si} (c : FFr Lo (Flatten.Loc Int) Li) (rest : List (FFr Lo (Flatten.Loc Int) Li))

theorem flatPlug_outer_tau {l : Lo} {s l'} (h : Mo.step st.outer l = .tau s l') :
    (flatPlug Mo Mi initOf).step st (.outer l :: rest) = .tau { st with outer := s } (.outer l' :: rest) := by
  dsimp only [flatPlug]; rw [h]

theorem flatPlug_outer_ret {l : Lo} (h : Mo.step st.outer l = .ret) :
    (flatPlug Mo Mi initOf).step st (.outer l :: c :: rest) = .tau st (c :: rest) := by
  dsimp only [flatPlug]; rw [h]; rfl

theorem flatPlug_outer_greet {l : Lo} {s l'} (h : Mo.step st.outer l = .call (.greet 0) s l') :
    (flatPlug Mo Mi initOf).step st (.outer l :: rest) =
      .tau { st with outer := s } (.flat ((Flatten.machine Int).enter (.srcGreet 0)) :: .outer l' :: rest) := by
  dsimp only [flatPlug]; rw [h]; rfl

theorem flatPlug_outer_down {l : Lo} {d s l'} (h : Mo.step st.outer l = .call (.down 0 d) s l') :
    (flatPlug Mo Mi initOf).step st (.outer l :: rest) =
      .tau { st with outer := s, pending := match (generalizing := false) d with | .data a => some a | _ => st.pending }
        (.flat ((Flatten.machine Int).enter (.srcDown 0 d)) :: .outer l' :: rest) := by
  dsimp only [flatPlug]; rw [h]; rfl

theorem flatPlug_inner_tau {j si} {l : Li} {s l'} (hj : st.innerSt j = some si) (h : Mi.step si l = .tau s l') :
    (flatPlug Mo Mi initOf).step st (.inner j l :: rest) = .tau (st.setInner j s) (.inner j l' :: rest) := by
  dsimp only [flatPlug]; rw [hj]; dsimp only; rw [h]

theorem flatPlug_inner_ret {j si} {l : Li} (hj : st.innerSt j = some si) (h : Mi.step si l = .ret) :
    (flatPlug Mo Mi initOf).step st (.inner j l :: c :: rest) = .tau st (c :: rest) := by
  dsimp only [flatPlug]; rw [hj]; dsimp only; rw [h]; rfl

theorem flatPlug_inner_call {j si} {l : Li} {o inp s l'} (hj : st.innerSt j = some si) (h : Mi.step si l = .call o s l')
    (ho : (o = .greet 0 ∧ inp = .srcGreet j) ∨ ∃ d, o = .down 0 d ∧ inp = .srcDown j d) :
    (flatPlug Mo Mi initOf).step st (.inner j l :: rest) =
      .tau (st.setInner j s) (.flat ((Flatten.machine Int).enter inp) :: .inner j l' :: rest) := by
  rcases ho with ⟨rfl, rfl⟩ | ⟨d, rfl, rfl⟩ <;> (dsimp only [flatPlug]; rw [hj]; dsimp only; rw [h]; rfl)

theorem flatPlug_flat_tau {l s l'} (h : (Flatten.machine Int).step st.flat l = .tau s l') :
    (flatPlug Mo Mi initOf).step st (.flat l :: rest) = .tau { st with flat := s } (.flat l' :: rest) := by
  dsimp only [flatPlug]; rw [h]

theorem flatPlug_flat_ret_nil {l} (h : (Flatten.machine Int).step st.flat l = .ret) :
    (flatPlug Mo Mi initOf).step st [.flat l] = .ret := by
  dsimp only [flatPlug]; rw [h]; rfl

theorem flatPlug_flat_ret {l} (h : (Flatten.machine Int).step st.flat l = .ret) :
    (flatPlug Mo Mi initOf).step st (.flat l :: c :: rest) = .tau st (c :: rest) := by
  dsimp only [flatPlug]; rw [h]; rfl

theorem flatPlug_flat_subO {l s l'} (h : (Flatten.machine Int).step st.flat l = .call (.subSrc 0) s l') :
    (flatPlug Mo Mi initOf).step st (.flat l :: rest) =
      .tau { st with flat := s } (.outer (Mo.enter (.subscribe 0)) :: .flat l' :: rest) := by
  dsimp only [flatPlug]; rw [h]

theorem flatPlug_flat_subI {l j a s l'} (h : (Flatten.machine Int).step st.flat l = .call (.subSrc (j + 1)) s l')
    (hp : st.pending = some a) :
    (flatPlug Mo Mi initOf).step st (.flat l :: rest) =
      .tau ({ st with flat := s }.setInner (j + 1) (initOf a)) (.inner (j + 1) (Mi.enter (.subscribe 0)) :: .flat l' :: rest) := by
  dsimp only [flatPlug]; rw [h]; dsimp only; rw [hp]

theorem flatPlug_flat_upO {l u s l'} (h : (Flatten.machine Int).step st.flat l = .call (.srcUp 0 u) s l') :
    (flatPlug Mo Mi initOf).step st (.flat l :: rest) =
      .tau { st with flat := s } (.outer (Mo.enter (.sinkUp 0 u)) :: .flat l' :: rest) := by
  dsimp only [flatPlug]; rw [h]

theorem flatPlug_flat_upI {l j u s l'} (h : (Flatten.machine Int).step st.flat l = .call (.srcUp (j + 1) u) s l') :
    (flatPlug Mo Mi initOf).step st (.flat l :: rest) =
      .tau { st with flat := s } (.inner (j + 1) (Mi.enter (.sinkUp 0 u)) :: .flat l' :: rest) := by
  dsimp only [flatPlug]; rw [h]

theorem flatPlug_flat_ext {l o s l'} (ho : SinkSide o) (h : (Flatten.machine Int).step st.flat l = .call o s l') :
    (flatPlug Mo Mi initOf).step st (.flat l :: rest) = .call o { st with flat := s } (.flat l' :: rest) := by
  cases o with
  | subSrc _ | srcUp _ _ => cases ho
  | _ => dsimp only [flatPlug]; rw [h]

theorem flatPlug_enter (i : In Int) : (flatPlug Mo Mi initOf).enter i = [.flat ((Flatten.machine Int).enter i)] := by
  cases i <;> rfl

end Equations

inductive FTau (Mo : Machine So Lo αo Int) (Mi : Machine Si Li αi Int) (initOf : Int → Si) (st : FPSt So Si) :
    List (FFr Lo (Flatten.Loc Int) Li) → FPSt So Si → List (FFr Lo (Flatten.Loc Int) Li) → Prop
  | outer {l rest s l'} : Mo.step st.outer l = .tau s l' → FTau Mo Mi initOf st (.outer l :: rest) { st with outer := s } (.outer l' :: rest)
  | flat {l rest s l'} : (Flatten.machine Int).step st.flat l = .tau s l' →
      FTau Mo Mi initOf st (.flat l :: rest) { st with flat := s } (.flat l' :: rest)
  | inner {j l rest si s l'} : st.innerSt j = some si → Mi.step si l = .tau s l' →
      FTau Mo Mi initOf st (.inner j l :: rest) (st.setInner j s) (.inner j l' :: rest)
  | pop {e e' rest} : FTau Mo Mi initOf st (e :: e' :: rest) st (e' :: rest)
  | greetO {l rest s l'} : Mo.step st.outer l = .call (.greet 0) s l' →
      FTau Mo Mi initOf st (.outer l :: rest) { st with outer := s }
        (.flat ((Flatten.machine Int).enter (.srcGreet 0)) :: .outer l' :: rest)
  | downO {l rest d s l'} : Mo.step st.outer l = .call (.down 0 d) s l' →
      FTau Mo Mi initOf st (.outer l :: rest) { st with outer := s, pending := match d with | .data a => some a | _ => st.pending }
        (.flat ((Flatten.machine Int).enter (.srcDown 0 d)) :: .outer l' :: rest)
  | greetI {j l rest si s l'} : st.innerSt j = some si → Mi.step si l = .call (.greet 0) s l' →
      FTau Mo Mi initOf st (.inner j l :: rest) (st.setInner j s)
        (.flat ((Flatten.machine Int).enter (.srcGreet j)) :: .inner j l' :: rest)
  | downI {j l rest d si s l'} : st.innerSt j = some si → Mi.step si l = .call (.down 0 d) s l' →
      FTau Mo Mi initOf st (.inner j l :: rest) (st.setInner j s)
        (.flat ((Flatten.machine Int).enter (.srcDown j d)) :: .inner j l' :: rest)
  | subO {l rest s l'} : (Flatten.machine Int).step st.flat l = .call (.subSrc 0) s l' →
      FTau Mo Mi initOf st (.flat l :: rest) { st with flat := s } (.outer (Mo.enter (.subscribe 0)) :: .flat l' :: rest)
  | subI {l rest j a s l'} : (Flatten.machine Int).step st.flat l = .call (.subSrc (j + 1)) s l' → st.pending = some a →
      FTau Mo Mi initOf st (.flat l :: rest) ({ st with flat := s }.setInner (j + 1) (initOf a))
        (.inner (j + 1) (Mi.enter (.subscribe 0)) :: .flat l' :: rest)
  | upO {l rest u s l'} : (Flatten.machine Int).step st.flat l = .call (.srcUp 0 u) s l' →
      FTau Mo Mi initOf st (.flat l :: rest) { st with flat := s } (.outer (Mo.enter (.sinkUp 0 u)) :: .flat l' :: rest)
  | upI {l rest j u s l'} : (Flatten.machine Int).step st.flat l = .call (.srcUp (j + 1) u) s l' →
      FTau Mo Mi initOf st (.flat l :: rest) { st with flat := s } (.inner (j + 1) (Mi.enter (.sinkUp 0 u)) :: .flat l' :: rest)

theorem flatPlug_step_inv (initOf : Int → Si) (st : FPSt So Si) (cfs : List (FFr Lo (Flatten.Loc Int) Li)) :
    ((flatPlug Mo Mi initOf).step st cfs).Sat (FTau Mo Mi initOf st cfs) (fun o s' cfs' =>
      ∃ l rest s l', cfs = .flat l :: rest ∧ (Flatten.machine Int).step st.flat l = .call o s l' ∧ s' = { st with flat := s } ∧
        cfs' = .flat l' :: rest) := by
  cases cfs with
  | nil => trivial
  | cons e rest =>
    cases e with
    | outer l =>
      dsimp only [flatPlug]
      cases hst : Mo.step st.outer l with
      | tau s l' => exact .outer hst
      | ret => cases rest with
        | nil => trivial
        | cons e' rest => exact .pop
      | panic m => trivial
      | call o s l' =>
        cases o with
        | greet k => cases k with
          | zero => exact .greetO hst
          | succ k => trivial
        | down k d => cases k with
          | zero => exact .downO hst
          | succ k => trivial
        | subSrc i => trivial
        | srcUp i u => trivial
        | app b => trivial
    | inner j l =>
      dsimp only [flatPlug]
      cases hin : st.innerSt j with
      | none => trivial
      | some si =>
        dsimp only
        cases hst : Mi.step si l with
        | tau s l' => exact .inner hin hst
        | ret => cases rest with
          | nil => trivial
          | cons e' rest => exact .pop
        | panic m => trivial
        | call o s l' =>
          cases o with
          | greet k => cases k with
            | zero => exact .greetI hin hst
            | succ k => trivial
          | down k d => cases k with
            | zero => exact .downI hin hst
            | succ k => trivial
          | subSrc i => trivial
          | srcUp i u => trivial
          | app b => trivial
    | flat l =>
      dsimp only [flatPlug]
      cases hst : (Flatten.machine Int).step st.flat l with
      | tau s l' => exact .flat hst
      | ret => cases rest with
        | nil => trivial
        | cons e' rest => exact .pop
      | panic m => trivial
      | call o s l' =>
        cases o with
        | subSrc i =>
          cases i with
          | zero => exact .subO hst
          | succ j =>
            cases hp : st.pending with
            | none => trivial
            | some a =>
              have h := FTau.subI (Mo := Mo) (Mi := Mi) (initOf := initOf) (rest := rest) hst hp
              rwa [hp] at h
        | srcUp i u =>
          cases i with
          | zero => exact .upO hst
          | succ j => exact .upI hst
        | greet k => exact ⟨_, _, _, _, rfl, hst, rfl, rfl⟩
        | down k d => exact ⟨_, _, _, _, rfl, hst, rfl, rfl⟩
        | app b => exact ⟨_, _, _, _, rfl, hst, rfl, rfl⟩

end Cb
