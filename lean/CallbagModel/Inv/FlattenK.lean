import CallbagModel.Inv.ConcatK
import CallbagModel.Inv.PullOnly
import CallbagModel.Inv.FlattenCount
/-!
# Invariants of `flatten` under an outer source that delivers only when pulled

About reachable configurations of `Flatten.machine Int` alone.  The assumption on its environment is a predicate on the trace, closed
under taking tails: `Cnd` — every datum of upstream 0 (the outer source) answers a `Pull`, and no upstream has sent an `Error`.

* `E1` (control): while an inner source is current (`st.inner`, the crate's `inner_talkback`), flatten has no unserved `Pull` at the
  outer source (`bp`); every inner source created before the last one has ended (`ended`); the live inner source is the last one
  created (`last`); no upstream is ever disposed unless the sink has terminated the stream (`nd`); the terminal is delivered only when
  the outer and every inner source have ended (`tc`); no `Error` is delivered (`eo`).
* `E2T` (data, at environment turns): `Core2T`, a layer over flatten's macro steps (`E2T.macro`).
* `D` (demand): an unserved `Pull` of the sink is an unserved `Pull` at the current inner source, or at the outer source if there is none.

`E1` and `D` speak of every reachable configuration, inside a handler too: hence the tables over the locations of the running handler
(`Fl1`, `Exc`, `FlD`).  Each is an instance of `FK.reach_ind`; `FlatDemand.KF` (`Inv/FlatDemand.lean`) is a third.
-/

namespace Cb
namespace FlatPlugFun
open ComposeSafe ComposeFun ComposeComplete PlugConcat FlatPlugSafe

namespace FK
open ConcatN (catN catN_congr)

/-- Small-step induction for `flatten`, from the explicit predecessor to the explicit successor.  Each case is handed what flatten's
safety proof knows at that step (`Flatten.flatten_basicSafe` at its own steps, `Flatten.Inv` at a turn). -/
theorem reach_ind (P : FSys → Prop) (init : P (Sys.init (Flatten.machine Int)))
    (tau : ∀ st l stk g tr st' l', SReach (Flatten.machine Int) ⟨st, .run l :: stk, g, tr, none⟩ →
      P ⟨st, .run l :: stk, g, tr, none⟩ → Flatten.Tau st l st' l' → P ⟨st', .run l' :: stk, g, tr, none⟩)
    (call : ∀ st l stk g tr o st' l', SReach (Flatten.machine Int) ⟨st, .run l :: stk, g, tr, none⟩ →
      P ⟨st, .run l :: stk, g, tr, none⟩ → Flatten.Call st l o st' l' → (g.ph.onOut o).viols = [] →
      P ⟨st', .wait o l' :: stk, g.onOut (Flatten.machine Int).shape o, .out o :: tr, none⟩)
    (ret : ∀ st l stk g tr, SReach (Flatten.machine Int) ⟨st, .run l :: stk, g, tr, none⟩ →
      P ⟨st, .run l :: stk, g, tr, none⟩ → Flatten.Ret st l → (∀ f ∈ stk, ∃ o l, f = Frame.wait o l) →
      P ⟨st, stk, g.onRetO stk.length, .retO :: tr, none⟩)
    (envCall : ∀ st stk g tr c i, SReach (Flatten.machine Int) ⟨st, stk, g, tr, none⟩ → P ⟨st, stk, g, tr, none⟩ →
      ctxOf stk = some c → legalIn (Flatten.machine Int).shape g.ph c i = true →
      (∀ k, st.nextId ≤ k → g.ph.srcPh k = .idle) → Flatten.CallOk st g.ph stk i →
      P ⟨st, .run (Flatten.enter i) :: stk, g.onIn stk.length i, .inp i :: tr, none⟩)
    (envRet : ∀ st stk g tr o l, SReach (Flatten.machine Int) ⟨st, .wait o l :: stk, g, tr, none⟩ →
      P ⟨st, .wait o l :: stk, g, tr, none⟩ → legalRet (Flatten.machine Int).shape g.ph (.inCall o : Ctx Int) = true →
      Flatten.RetOk st g.ph l → P ⟨st, .run l :: stk, g, .retE :: tr, none⟩) :
    ∀ s, SReach (Flatten.machine Int) s → P s := by
  apply Cb.reach_ind
  · exact init
  · intro a b ha ih h
    have hsafe := Flatten.flatten_basicSafe b (reach_op ha h)
    cases h with
    | tau hst => exact tau _ _ _ _ _ _ _ ha ih (Flatten.Edge.of hst)
    | call hst => exact call _ _ _ _ _ _ _ _ ha ih (Flatten.Edge.of hst) (by simpa [onOut_ph] using hsafe.1)
    | ret hst => exact ret _ _ _ _ _ ha ih (Flatten.Edge.of hst) (pop_turn _ ha)
    | panic _ => cases hsafe.2
  · intro a b m ha ih h
    cases h with
    | call i hc hl => exact envCall _ _ _ _ _ _ ha ih hc hl (Flatten.inv_of_turn ha ⟨rfl, by rw [hc]; rfl⟩).2.2.2.1 (callOk_turn ha hc hl)
    | ret hl => exact envRet _ _ _ _ _ _ ha ih hl (Flatten.retOk_of_legal (Flatten.inv_of_turn ha ⟨rfl, rfl⟩).2.2.2.2.2 hl).2

def Cnd (tr : List (Ev Int Int)) : Prop := POkSrc 0 (srcEvs tr) ∧ ¬ ErrIn tr

theorem Cnd.tail {e : Ev Int Int} {tr : List (Ev Int Int)} (h : Cnd (e :: tr)) : Cnd tr :=
  ⟨pOkSrc_tail_ev h.1, fun h' => h.2 (errIn_cons e h')⟩

theorem Cnd.nil : Cnd [] := ⟨trivial, by rintro ⟨i, e, h⟩; simp [srcEvs] at h⟩

theorem Cnd.pull {tr : List (Ev Int Int)} (k : Nat) (h : Cnd tr) : Cnd (.out (.srcUp k .pull) :: tr) :=
  ⟨⟨fun hd => (nomatch hd), h.1⟩, fun ⟨i, e, hm⟩ => h.2 ⟨i, e, (List.mem_cons.1 hm).resolve_left nofun⟩⟩

-- closes the goal in a mode `h` whose top frame waits in a call inside which the move of `hctx` is not legal
set_option hygiene false in
macro "noctx'" h:ident hc:ident hctx:ident : tactic =>
  `(tactic| (exfalso; obtain ⟨rest, rfl, _⟩ := $h; simp [ctxOf] at $hc:ident; subst $hc:ident
             simp [isTop, inGreet, inData, inSub, inPull] at $hctx:ident))

def AllEnded (n : Nat) (ph : Ph) : Prop := ∀ j, 1 ≤ j → j < n → ph.srcPh j = .ended

structure Core1 (inner : Option Nat) (n : Nat) (ph : Ph) (tr : List (Ev Int Int)) : Prop where
  nd : ph.sinkPh 0 = .doneBySelf ∨ ∀ i, ph.srcPh i ≠ .disposed
  ipos : ∀ k, inner = some k → 1 ≤ k
  last : ∀ k, inner = some k → ph.srcPh k = .live → k + 1 = n
  ended : ∀ j, 1 ≤ j → j + 1 < n → ph.srcPh j = .ended
  bp : bP tr = true → inner = none ∧ AllEnded n ph
  sb : ∀ j, ph.srcPh (j + 1) = .subscribed → bP tr = false
  tc : ph.sinkPh 0 = .doneBySrc → ph.srcPh 0 = .ended ∧ AllEnded n ph
  eo : ¬ ErrOut tr
  pos : 0 < n

def Fl1 (st : Flatten.St) (ph : Ph) (tr : List (Ev Int Int)) : List Fm → Prop
  | .run .od0 :: _ => st.inner = none ∧ AllEnded st.nextId ph ∧ bP tr = false ∧ ph.srcPh 0 = .live
  | .run .od1 :: _ => st.inner = none ∧ AllEnded st.nextId ph ∧ bP tr = false ∧ ph.srcPh 0 = .live
  | .run (.ig0 j) :: _ => j + 1 = st.nextId ∧ bP tr = false ∧ 1 ≤ j
  | .run .it0 :: _ => AllEnded st.nextId ph ∧ (st.outer = false → ph.srcPh 0 = .ended)
  | .run .it1 :: _ => AllEnded st.nextId ph
  | .run .it2 :: _ => AllEnded st.nextId ph ∧ st.inner = none
  | .run .ot0 :: _ => ph.srcPh 0 = .ended ∧ (st.inner = none → AllEnded st.nextId ph)
  | .run .p0 :: _ => st.inner = none → AllEnded st.nextId ph
  | .run .p1 :: _ => st.inner = none ∧ AllEnded st.nextId ph
  | .run .x0 :: _ => ph.sinkPh 0 = .doneBySelf
  | .run .x1 :: _ => ph.sinkPh 0 = .doneBySelf
  | .run (.oe0 _) :: _ => False
  | .run (.oe1 _) :: _ => False
  | .run (.ie0 _) :: _ => False
  | .run (.ie1 _) :: _ => False
  | _ => True

def NW (stk : List Fm) : Prop := ∀ o l, Frame.wait o l ∈ stk → l = .done ∨ l = .x1

theorem NW.tail {f : Fm} {stk : List Fm} (h : NW (f :: stk)) : NW stk := fun o l hm => h o l (List.mem_cons_of_mem _ hm)
theorem NW.run {l : FL} {stk : List Fm} (h : NW stk) : NW (.run l :: stk) := by
  intro o l' hm
  rcases List.mem_cons.1 hm with he | hm
  · cases he
  · exact h o l' hm
theorem NW.wait {o : Out Int} {l : FL} {stk : List Fm} (h : NW stk) (hl : l = .done ∨ l = .x1) : NW (.wait o l :: stk) := by
  intro o' l' hm
  rcases List.mem_cons.1 hm with he | hm
  · cases he; exact hl
  · exact h o' l' hm

theorem fl1_wait {st : Flatten.St} {ph : Ph} {tr : List (Ev Int Int)} {stk : List Fm}
    (h : ∀ f ∈ stk, ∃ o l, f = Frame.wait o l) : Fl1 st ph tr stk :=
  of_waits (Fl1 st ph tr) h trivial fun _ _ _ => trivial

theorem eo_cons {tr : List (Ev Int Int)} {ev : Ev Int Int} (h : ¬ ErrOut tr) (hev : ∀ k e, ev ≠ .out (.down k (.err e))) :
    ¬ ErrOut (ev :: tr) := by
  intro h'
  rcases errOut_cons h' with h' | ⟨k, e, h'⟩
  · exact h h'
  · exact hev k e h'

theorem Core1.congr {inner : Option Nat} {n : Nat} {ph ph' : Ph} {tr tr' : List (Ev Int Int)} (h : Core1 inner n ph tr)
    (hsrc : ∀ i, ph'.srcPh i = ph.srcPh i) (hsnk : ph'.sinkPh 0 = ph.sinkPh 0) (hb : bP tr' = bP tr)
    (he : ¬ ErrOut tr → ¬ ErrOut tr') : Core1 inner n ph' tr' := by
  have hae : AllEnded n ph → AllEnded n ph' := fun ha j h1 h2 => by rw [hsrc]; exact ha j h1 h2
  refine ⟨?_, h.ipos, ?_, ?_, ?_, ?_, ?_, he h.eo, h.pos⟩
  · rcases h.nd with h1 | h1
    · exact .inl (by rw [hsnk]; exact h1)
    · exact .inr (fun i => by rw [hsrc]; exact h1 i)
  · intro k hk hl; rw [hsrc] at hl; exact h.last k hk hl
  · intro j h1 h2; rw [hsrc]; exact h.ended j h1 h2
  · intro hbp; rw [hb] at hbp; exact ⟨(h.bp hbp).1, hae (h.bp hbp).2⟩
  · intro j hj; rw [hsrc] at hj; rw [hb]; exact h.sb j hj
  · intro hd; rw [hsnk] at hd; rw [hsrc]; exact ⟨(h.tc hd).1, hae (h.tc hd).2⟩

def E1 (s : FSys) : Prop := Cnd s.tr → Core1 s.st.inner s.st.nextId s.g.ph s.tr ∧ Fl1 s.st s.g.ph s.tr s.stack ∧ NW s.stack

theorem allEnded_congr {n : Nat} {ph ph' : Ph} (hsrc : ∀ i, 1 ≤ i → ph'.srcPh i = ph.srcPh i) (h : AllEnded n ph) : AllEnded n ph' :=
  fun j h1 h2 => by rw [hsrc j h1]; exact h j h1 h2

theorem bP_of_cons {ev : Ev Int Int} {tr : List (Ev Int Int)} (h : bP (ev :: tr) = true) (hev : ev ≠ .out (.srcUp 0 .pull)) :
    bP tr = true :=
  lastPullSrc_of_cons hev h

theorem Core1.upd {inner : Option Nat} {n : Nat} {ph ph' : Ph} {tr : List (Ev Int Int)} {ev : Ev Int Int} (h : Core1 inner n ph tr)
    (hsrc : ∀ i, 1 ≤ i → ph'.srcPh i = ph.srcPh i)
    (hnd : ph.sinkPh 0 = .doneBySelf → ph'.sinkPh 0 = .doneBySelf)
    (h0 : ph'.sinkPh 0 = .doneBySelf ∨ ph'.srcPh 0 ≠ .disposed)
    (hpull : ev ≠ .out (.srcUp 0 .pull))
    (htc : ph'.sinkPh 0 = .doneBySrc → ph'.srcPh 0 = .ended ∧ AllEnded n ph)
    (herr : ∀ k e, ev ≠ .out (.down k (.err e))) : Core1 inner n ph' (ev :: tr) := by
  have hb : bP (ev :: tr) = true → bP tr = true := fun hb => bP_of_cons hb hpull
  refine ⟨?_, h.ipos, ?_, ?_, ?_, ?_, ?_, eo_cons h.eo herr, h.pos⟩
  · rcases h.nd with h1 | h1
    · exact .inl (hnd h1)
    · rcases h0 with h0 | h0
      · exact .inl h0
      · refine .inr (fun i => ?_)
        cases i with
        | zero => exact h0
        | succ i => rw [hsrc _ (Nat.succ_pos i)]; exact h1 _
  · intro k hk hl; rw [hsrc k (h.ipos k hk)] at hl; exact h.last k hk hl
  · intro j h1 h2; rw [hsrc j h1]; exact h.ended j h1 h2
  · intro hbp; exact ⟨(h.bp (hb hbp)).1, allEnded_congr hsrc (h.bp (hb hbp)).2⟩
  · intro j hj
    rw [hsrc (j + 1) (Nat.succ_pos j)] at hj
    cases hb' : bP (ev :: tr) with
    | false => rfl
    | true => have := h.sb j hj; rw [hb hb'] at this; cases this
  · intro hd; exact ⟨(htc hd).1, allEnded_congr hsrc (htc hd).2⟩

theorem Core1.same {inner : Option Nat} {n : Nat} {ph : Ph} {tr : List (Ev Int Int)} {ev : Ev Int Int} (h : Core1 inner n ph tr)
    (hpull : ev ≠ .out (.srcUp 0 .pull)) (herr : ∀ k e, ev ≠ .out (.down k (.err e))) : Core1 inner n ph (ev :: tr) :=
  h.upd (fun _ _ => rfl) id (h.nd.elim .inl (fun h1 => .inr (h1 0))) hpull h.tc herr

theorem Core1.pull0 {inner : Option Nat} {n : Nat} {ph : Ph} {tr : List (Ev Int Int)} (h : Core1 inner n ph tr)
    (hbp : inner = none ∧ AllEnded n ph) (hsb : ∀ j, ph.srcPh (j + 1) ≠ .subscribed) :
    Core1 inner n ph (.out (.srcUp 0 .pull) :: tr) :=
  ⟨h.nd, h.ipos, h.last, h.ended, fun _ => hbp, fun j hj => absurd hj (hsb j), h.tc, eo_cons h.eo nofun, h.pos⟩

theorem dead_ended {ph : Ph} {i : Nat} (hnd : ph.sinkPh 0 = .doneBySelf ∨ ∀ i, ph.srcPh i ≠ .disposed) (hl : ph.sinkPh 0 = .live)
    (hd : Flatten.Dead ph i) : ph.srcPh i = .ended := by
  rcases hnd with h | h
  · rw [hl] at h; cases h
  · exact hd.resolve_right (h i)

theorem nd_setSrc {ph : Ph} {A : Prop} {k : Nat} {p : SrcPh} (hp : p ≠ .disposed) (h : A ∨ ∀ i, ph.srcPh i ≠ .disposed) :
    A ∨ ∀ i, (ph.setSrc k p).srcPh i ≠ .disposed :=
  h.imp id fun h i => by
    rw [Ph.srcPh_setSrc]; split
    · exact hp
    · exact h i

theorem pull_ne {k : Nat} (h : 1 ≤ k) : (Ev.out (.srcUp k .pull) : Ev Int Int) ≠ .out (.srcUp 0 .pull) := fun e => by cases e; cases h

theorem E1_reach : ∀ s, SReach (Flatten.machine Int) s → E1 s := by
  refine reach_ind E1 ?_ ?_ ?_ ?_ ?_ ?_
  · intro _
    refine ⟨⟨.inr (fun i => by simp [Sys.init]), nofun, nofun, fun j h1 h2 => absurd (Nat.lt_of_succ_lt_succ h2) (Nat.not_lt_zero j),
      nofun, fun j h => by simp [Sys.init] at h,
      fun h => by simp [Sys.init] at h, (by rintro ⟨k, e, h⟩; cases h), Nat.one_pos⟩, trivial, fun _ _ h => by cases h⟩
  · intro st l stk g tr s' l' _ ih h hC
    obtain ⟨hk, hfl, hnw⟩ := ih hC
    have hnw' : ∀ l0 : FL, NW (.run l0 :: stk) := fun l0 => hnw.tail.run
    cases h with
    | og0 => exact ⟨hk, trivial, hnw' _⟩
    | od0 h => exact ⟨hk, hfl, hnw' _⟩
    | oe0 _ | ie0 _ => exact hfl.elim
    | ot0 h => exact ⟨hk, trivial, hnw' _⟩
    | @ig0 j =>
      obtain ⟨h1, h2, h3⟩ := hfl
      refine ⟨⟨hk.nd, ?_, ?_, hk.ended, ?_, hk.sb, hk.tc, hk.eo, hk.pos⟩, trivial, hnw' _⟩
      · intro k hk'; cases hk'; exact h3
      · intro k hk' _; cases hk'; exact h1
      · intro hb; rw [h2] at hb; cases hb
    | it0 h => exact ⟨hk, hfl.1, hnw' _⟩
    | it1 => exact ⟨⟨hk.nd, nofun, nofun, hk.ended, fun _ => ⟨rfl, hfl⟩, hk.sb, hk.tc, hk.eo, hk.pos⟩, ⟨hfl, rfl⟩, hnw' _⟩
    | p0 h => exact ⟨hk, ⟨h, hfl h⟩, hnw' _⟩
    | x0 h => exact ⟨hk, hfl, hnw' _⟩
  · intro st l stk g tr o s' l' ha ih h hv hC
    obtain ⟨hk, hfl, hnw⟩ := ih hC.tail
    simp only [onOut_ph]
    rw [Ph.onOut_ok _ _ hv]
    have hdone : ∀ o' : Out Int, NW (.wait o' .done :: stk) := fun _ => hnw.tail.wait (.inl rfl)
    have hnsub : ∀ j, g.ph.srcPh (j + 1) ≠ .subscribed := by
      intro j hj
      obtain ⟨l0, r, h⟩ := subscribed_top _ flatten_lg ha (j + 1) hj
      cases h
    cases h with
    | sub0 =>
      exact ⟨hk.upd (fun i hi => Ph.srcPh_setSrc_ne _ _ (Nat.ne_of_gt hi)) id
        (.inr fun h => nomatch (Ph.srcPh_setSrc_self g.ph 0 .subscribed).symm.trans h) nofun
        (fun hd => nomatch (Ph.onOut_subSrc_ok _ _ hv).1.symm.trans (hk.tc hd).1) nofun, trivial, hdone _⟩
    | og1 =>
      have hsub := (Ph.onOut_greet_ok _ _ hv).1
      exact ⟨hk.upd (fun _ _ => rfl) (fun h => by rw [hsub] at h; cases h) (.inr (hk.nd.resolve_left (by rw [hsub]; nofun) 0)) nofun
        (fun hd => nomatch (Ph.sinkPh_setSink_self g.ph 0 .live).symm.trans hd) nofun, trivial, hdone _⟩
    | od0 hin => rw [hfl.1] at hin; cases hin
    | od1 =>
      simp only [Ph.after]
      obtain ⟨f1, f2, f3, f4⟩ := hfl
      have hb' : bP (Ev.out (Out.subSrc st.nextId) :: tr : List (Ev Int Int)) = false := f3
      refine ⟨⟨?_, ?_, ?_, ?_, ?_, fun _ _ => hb', ?_, eo_cons hk.eo nofun, Nat.succ_pos _⟩, trivial, hdone _⟩
      · exact nd_setSrc nofun hk.nd
      · intro k hk'; rw [f1] at hk'; cases hk'
      · intro k hk'; rw [f1] at hk'; cases hk'
      · intro j h1 h2
        have h2 : j < st.nextId := Nat.lt_of_succ_lt_succ h2
        rw [Ph.srcPh_setSrc_ne _ _ (Nat.ne_of_lt h2)]
        exact f2 j h1 h2
      · intro hb; rw [hb'] at hb; cases hb
      · intro hd
        have := (hk.tc hd).1
        rw [f4] at this; cases this
    | oe0 _ | oe1 | ie0 _ | ie1 => exact hfl.elim
    | ot0 hin =>
      have hlive := (Ph.onOut_down_ok _ _ _ hv).1
      exact ⟨hk.upd (fun _ _ => rfl) (fun h => by rw [hlive] at h; cases h) (.inr (hk.nd.resolve_left (by rw [hlive]; nofun) 0)) nofun
        (fun _ => ⟨hfl.1, hfl.2 hin⟩) nofun, trivial, hdone _⟩
    | ig1 hin | p0 hin =>
      exact ⟨hk.same (pull_ne (hk.ipos _ hin)) nofun, trivial, hdone _⟩
    | fwd =>
      exact ⟨hk.same nofun nofun, trivial, hdone _⟩
    | it0 hout =>
      have hlive := (Ph.onOut_down_ok _ _ _ hv).1
      exact ⟨hk.upd (fun _ _ => rfl) (fun h => by rw [hlive] at h; cases h) (.inr (hk.nd.resolve_left (by rw [hlive]; nofun) 0)) nofun
        (fun _ => ⟨hfl.2 hout, hfl.1⟩) nofun, trivial, hdone _⟩
    | it2 hout =>
      exact ⟨hk.pull0 ⟨hfl.2, hfl.1⟩ hnsub, trivial, hdone _⟩
    | p1 hout =>
      exact ⟨hk.pull0 hfl hnsub, trivial, hdone _⟩
    | @x0 k hin =>
      have hlive := (Ph.onOut_srcUp_ok _ _ _ hv).1
      simp only [Ph.after, Ph.afterUp]
      have hbf : bP (Ev.out (Out.srcUp k Up.term) :: tr : List (Ev Int Int)) = false := Bool.eq_false_iff.2 (fun hb => by
        have := (hk.bp (bP_of_cons hb nofun)).1
        rw [hin] at this; cases this)
      refine ⟨⟨.inl hfl, hk.ipos, ?_, ?_, ?_, fun _ _ => hbf, (fun hd => nomatch hfl.symm.trans hd), eo_cons hk.eo nofun, hk.pos⟩,
        trivial, hnw.tail.wait (.inr rfl)⟩
      · intro k' hk' hl
        rw [hin] at hk'; cases hk'
        rw [Ph.srcPh_setSrc_self] at hl; cases hl
      · intro j h1 h2
        have hj : j ≠ k := fun e => by have := hk.ended j h1 h2; rw [e, hlive] at this; cases this
        rw [Ph.srcPh_setSrc_ne _ _ hj]; exact hk.ended j h1 h2
      · intro hb; rw [hbf] at hb; cases hb
    | x1 hout =>
      exact ⟨hk.upd (fun i hi => Ph.srcPh_setSrc_ne _ _ (Nat.ne_of_gt hi)) id (.inl hfl) nofun
        (fun hd => nomatch hfl.symm.trans hd) nofun, trivial, hdone _⟩
  · intro st l stk g tr _ ih _ hw hC
    obtain ⟨hk, hfl, hnw⟩ := ih hC.tail
    simp only [onRetO_ph]
    exact ⟨hk.same nofun nofun, fl1_wait hw, hnw.tail⟩
  · intro st stk g tr c i _ ih _ _ _ hok hC
    obtain ⟨hk, hfl, hnw⟩ := ih hC.tail
    simp only [onIn_ph] at hk ⊢
    cases i with
    | subscribe k =>
      obtain ⟨rfl, hidle0, _⟩ := hok
      exact ⟨hk.upd (fun _ _ => rfl) (fun h => by rw [hidle0] at h; cases h) (.inr (hk.nd.resolve_left (by rw [hidle0]; nofun) 0)) nofun
        (fun hd => by rw [Ph.onIn, Ph.sinkPh_setSink_self] at hd; cases hd) nofun, trivial, hnw.run⟩
    | sinkUp k u =>
      obtain ⟨rfl, H⟩ := hok
      cases u with
      | pull =>
        exact ⟨hk.same nofun nofun, fun hinn j h1 h2 => dead_ended hk.nd H.sink (H.old j h1 h2 (by rw [hinn]; nofun)), hnw.run⟩
      | term | err _ =>
        exact ⟨hk.upd (fun _ _ => rfl) (fun _ => Ph.sinkPh_setSink_self ..) (.inl (Ph.sinkPh_setSink_self ..)) nofun
          (fun hd => by rw [Ph.onIn, Ph.sinkPh_setSink_self] at hd; cases hd) nofun, Ph.sinkPh_setSink_self .., hnw.run⟩
    | srcGreet i =>
      cases i with
      | zero =>
        have hsub := hok.2.1
        exact ⟨hk.upd (fun i hi => Ph.srcPh_setSrc_ne _ _ (Nat.ne_of_gt hi)) id (.inr (by rw [Ph.onIn, Ph.srcPh_setSrc_self]; nofun)) nofun
          (fun hd => by have := (hk.tc hd).1; rw [hsub] at this; cases this) nofun, trivial, hnw.run⟩
      | succ j =>
        have hn : j + 1 + 1 = st.nextId := hok.2.2.1.symm
        have hsub := hok.2.2.2.1
        have hb' : bP (Ev.inp (In.srcGreet (j + 1)) :: tr : List (Ev Int Int)) = false := hk.sb j hsub
        refine ⟨⟨?_, hk.ipos, ?_, ?_, ?_, fun _ _ => hb', ?_, eo_cons hk.eo nofun, hk.pos⟩, ⟨hn, hb', Nat.succ_pos j⟩, hnw.run⟩
        · exact nd_setSrc nofun hk.nd
        · intro k hk' hl'
          by_cases hkj : k = j + 1
          · rw [hkj]; exact hn
          · rw [Ph.onIn, Ph.srcPh_setSrc_ne _ _ hkj] at hl'; exact hk.last k hk' hl'
        · intro j' h1 h2
          rw [Ph.onIn, Ph.srcPh_setSrc_ne _ _ (Nat.ne_of_lt (Nat.lt_of_succ_lt_succ (Nat.lt_of_lt_of_eq h2 hn.symm)))]
          exact hk.ended j' h1 h2
        · intro hb; rw [hb'] at hb; cases hb
        · intro hd
          have := (hk.tc hd).2 (j + 1) (Nat.succ_pos j) (Nat.lt_of_lt_of_eq (Nat.lt_succ_self _) hn)
          rw [hsub] at this; cases this
    | srcDown i d =>
      cases i with
      | zero =>
        obtain ⟨hout, H⟩ := hok
        cases d with
        | data x =>
          obtain ⟨hinn, hae⟩ := hk.bp (hC.1.1 rfl)
          exact ⟨hk.same nofun nofun, ⟨hinn, hae, rfl, H.outer.1 hout⟩, hnw.run⟩
        | term =>
          have hsrc : ∀ i, 1 ≤ i → (g.ph.onIn (In.srcDown 0 Down.term : In Int)).srcPh i = g.ph.srcPh i :=
            fun i hi => Ph.srcPh_setSrc_ne _ _ (Nat.ne_of_gt hi)
          exact ⟨hk.upd hsrc id (.inr (by rw [Ph.onIn, Ph.srcPh_setSrc_self]; nofun)) nofun
            (fun hd => by rw [show (g.ph.onIn (In.srcDown 0 Down.term : In Int)).sinkPh 0 = g.ph.sinkPh 0 from rfl, H.sink] at hd; cases hd) nofun,
            ⟨Ph.srcPh_setSrc_self .., fun hinn => allEnded_congr hsrc
              (fun j h1 h2 => dead_ended hk.nd H.sink (H.old j h1 h2 (by rw [hinn]; nofun)))⟩, hnw.run⟩
        | err e => exact absurd (errIn_srcDown 0 e) hC.2
      | succ j =>
        obtain ⟨hinn, H⟩ := hok
        cases d with
        | data x => exact ⟨hk.same nofun nofun, trivial, hnw.run⟩
        | term =>
          have hn : j + 1 + 1 = st.nextId := hk.last _ hinn (H.cur _ hinn).2.2
          have hbf : bP (Ev.inp (In.srcDown (j + 1) Down.term) :: tr : List (Ev Int Int)) = false := Bool.eq_false_iff.2 (fun hb => by
            have := (hk.bp (bP_of_cons hb nofun)).1
            rw [hinn] at this; cases this)
          refine ⟨⟨?_, hk.ipos, ?_, ?_, ?_, fun _ _ => hbf, ?_, eo_cons hk.eo nofun, hk.pos⟩, ⟨fun j' h1 h2 => ?_, fun hout => ?_⟩, hnw.run⟩
          · exact nd_setSrc nofun hk.nd
          · intro k hk' hl'
            rw [hinn] at hk'; cases hk'
            rw [Ph.onIn, Ph.srcPh_setSrc_self] at hl'; cases hl'
          · intro j' h1 h2
            rw [Ph.onIn, Ph.srcPh_setSrc_ne _ _ (Nat.ne_of_lt (Nat.lt_of_succ_lt_succ (Nat.lt_of_lt_of_eq h2 hn.symm)))]
            exact hk.ended j' h1 h2
          · intro hb; rw [hbf] at hb; cases hb
          · intro hd; rw [show (g.ph.onIn (In.srcDown (j + 1) Down.term : In Int)).sinkPh 0 = g.ph.sinkPh 0 from rfl, H.sink] at hd; cases hd
          · rw [Ph.onIn, Ph.srcPh_setSrc]; split
            · rfl
            · exact hk.ended j' h1 (by omega)
          · rw [Ph.onIn, Ph.srcPh_setSrc_ne _ _ (Nat.succ_ne_zero j).symm]
            exact dead_ended hk.nd H.sink (H.outer.2 hout)
        | err e => exact absurd (errIn_srcDown (j + 1) e) hC.2
  · intro st stk g tr o l _ ih _ hok hC
    obtain ⟨hk, hfl, hnw⟩ := ih hC.tail
    refine ⟨hk.same nofun nofun, ?_, hnw.tail.run⟩
    rcases hnw o l List.mem_cons_self with rfl | rfl
    · trivial
    · exact hok.1

/-- **The data equation at a turn**: `m` inner sources have been created, one per datum of the outer source; the sink has received
the concatenation, in creation order, of what they have sent. -/
def Core2T (st : Flatten.St) (tr : List (Ev Int Int)) : Prop :=
  ∃ m, st.nextId = m + 1 ∧ recvData 0 tr = catN (fun j => sentData (j + 1) tr) m ∧ (sentData 0 tr).length = m

def E2T (s : FSys) : Prop := Cnd s.tr → Core2T s.st s.tr

theorem Cnd.of_next1 {s : FSys} {sh : Shape} {st : Flatten.St} {i : In Int} {r : Option (Out Int × FL)}
    (h : Cnd (s.next sh st (.call i) r).tr) : Cnd (.inp i :: s.tr) := by
  rcases r with _ | ⟨o, l⟩ <;> exact h.tail

theorem Cnd.of_next {s : FSys} {sh : Shape} {st : Flatten.St} {m : Move Int} {r : Option (Out Int × FL)}
    (h : Cnd (s.next sh st m r).tr) : Cnd s.tr := by
  rcases r with _ | ⟨o, l⟩ <;> cases m <;> exact h.tail.tail

/-- a macro step without a datum; the `++ []` is how `Sys.next_recvData` and `Sys.next_sentData` state it once `dataOut` / `dataIn` are `[]` -/
theorem Core2T.congr {st st' : Flatten.St} {tr tr' : List (Ev Int Int)} (h : Core2T st tr)
    (hn : st'.nextId = st.nextId) (hr : recvData 0 tr' = recvData 0 tr ++ []) (hs : ∀ j, sentData j tr' = sentData j tr ++ []) :
    Core2T st' tr' := by
  simp only [List.append_nil] at hr hs
  obtain ⟨m, hm, hd, hc⟩ := h
  refine ⟨m, hn.trans hm, ?_, (congrArg List.length (hs 0)).trans hc⟩
  rw [hr, hd]; exact catN_congr fun j _ => (hs (j + 1)).symm

/-- By cases on the move, not on the paths of the handler it enters: what the sink has received and what the sources have sent
change by `Sys.next_recvData`, `Sys.next_sentData`.  A datum of the outer source creates an inner source (now, or when `od1` is
resumed: under `Cnd` there is no current inner source, `Core1.bp`), which has sent nothing yet (`sentData_of_idle`); a datum of an inner
source is passed on, and that source is the last one created (`Core1.last`). -/
theorem E2T.macro {s : FSys} {m : Move Int} {st : Flatten.St} {r : Option (Out Int × FL)}
    (hr : SReach (Flatten.machine Int) s) (hI : Flatten.Inv s) (h : E2T s) (hm : Flatten.Macro s m st r) :
    E2T (s.next (Flatten.machine Int).shape st m r) := by
  intro hC
  have hC0 : Cnd s.tr := hC.of_next
  obtain ⟨hk, _, hnw⟩ := E1_reach _ hr hC0
  have h2 := h hC0
  rw [Sys.next_st]
  have hrv := Sys.next_recvData (Flatten.machine Int).shape s st m r 0
  have hsn := Sys.next_sentData (Flatten.machine Int).shape s st m r
  have plain : st.nextId = s.st.nextId → dataOut 0 r = [] → (∀ j, dataIn j m = []) → _ := fun hn ho hin =>
    h2.congr hn (ho ▸ hrv) fun j => hin j ▸ hsn j
  cases hm with
  | @ret o l stk' hstk _ _ =>
    refine plain ?_ (Flatten.dataOut_respR ..) fun _ => rfl
    rcases hnw o l (hstk ▸ List.mem_cons_self) with rfl | rfl <;> rfl
  | call i hok =>
    have nodata : (∀ j a, i ≠ .srcDown j (.data a)) → _ := fun hne =>
      plain ((Flatten.stC_nextId_cases s.st i).resolve_right fun ⟨_, _, a, e⟩ => hne 0 a e) (Flatten.dataOut_respC hne _ 0)
        (dataIn_nil hne)
    cases i with
    | subscribe k => exact nodata nofun
    | srcGreet j => exact nodata nofun
    | sinkUp k u => exact nodata nofun
    | srcDown j d =>
      cases d with
      | term => exact nodata nofun
      | err e => exact absurd (errIn_srcDown j e) hC.of_next1.2
      | data x =>
        obtain ⟨m, hmm, hd, hc⟩ := h2
        cases j with
        | zero =>
          have hC1 : Cnd (.inp (.srcDown 0 (.data x)) :: s.tr) := hC.of_next1
          have hin : s.st.inner = none := (hk.bp (((pOkSrc_cons _ _).1 hC1.1).1 x rfl)).1
          have hn : (Flatten.stC s.st (.srcDown 0 (.data x) : In Int)).nextId = s.st.nextId + 1 := by simp only [Flatten.stC, hin]
          have ho : dataOut 0 ((Flatten.respC s.st (.srcDown 0 (.data x) : In Int)).map
              (·, Flatten.contC s.st (.srcDown 0 (.data x)))) = [] := by simp only [Flatten.respC, hin]; rfl
          rw [ho, List.append_nil] at hrv
          have hs : ∀ j, 1 ≤ j → sentData j (s.next (Flatten.machine Int).shape _ _ _).tr = sentData j s.tr :=
            fun j hj => (hsn j).trans ((congrArg (_ ++ ·) (if_neg (Nat.ne_of_lt hj))).trans (List.append_nil _))
          refine ⟨m + 1, hn.trans (congrArg (· + 1) hmm), ?_, ?_⟩
          · rw [hrv, catN, hs (m + 1) (Nat.succ_pos m), sentData_of_idle hr (hI.2.2.2.1 (m + 1) (Nat.le_of_eq hmm)), List.append_nil, hd]
            exact catN_congr fun j _ => (hs (j + 1) (Nat.succ_pos j)).symm
          · rw [hsn 0]; show (sentData 0 s.tr ++ [x]).length = m + 1
            rw [List.length_append, hc]; rfl
        | succ j =>
          have hn : j + 1 + 1 = s.st.nextId := hk.last _ hok.1 (hok.2.cur _ hok.1).2.2
          obtain rfl : m = j + 1 := by omega
          have hs : ∀ j', j' ≠ j + 1 → sentData j' (s.next (Flatten.machine Int).shape _ _ _).tr = sentData j' s.tr :=
            fun j' hj => (hsn j').trans ((congrArg (_ ++ ·) (if_neg (Ne.symm hj))).trans (List.append_nil _))
          refine ⟨j + 1, hmm, ?_, (congrArg List.length (hs 0 (Nat.succ_ne_zero j).symm)).trans hc⟩
          rw [hrv, catN, hsn (j + 1), catN_congr (f' := fun j' => sentData (j' + 1) s.tr) fun j' h2' => hs (j' + 1) (by omega)]
          show recvData 0 s.tr ++ [x] = catN _ j ++ (sentData (j + 1) s.tr ++ (if j + 1 = j + 1 then [x] else []))
          rw [if_pos rfl, ← List.append_assoc]
          exact congrArg (· ++ [x]) hd

theorem E2T_of_turn {s : FSys} (hs : SReach (Flatten.machine Int) s) (ht : EnvTurn s) : E2T s :=
  (Lands.at_turn anyEnv E2T Flatten.inv_init (fun _ => ⟨0, rfl, rfl, rfl⟩) (fun s h => (Flatten.inv_turn s h).1)
    Flatten.macro_step (fun _ _ _ _ hr hi h _ hm _ _ => h.macro hr hi hm) hs ht).2

/-- The data equation just before flatten pulls an upstream: the configuration after that call is a turn, and the `Pull` is in neither
view. -/
theorem Core2T.at_pull {st : Flatten.St} {l l' : FL} {stk : List Fm} {g : G} {tr : List (Ev Int Int)} {k : Nat}
    (ha : SReach (Flatten.machine Int) ⟨st, .run l :: stk, g, tr, none⟩)
    (hst : (Flatten.machine Int).step st l = .call (.srcUp k .pull) st l') (hC : Cnd tr) : Core2T st tr :=
  E2T_of_turn (ha.step (.op (opStep_of_oStep (.call hst)))) ⟨rfl, rfl⟩ (hC.pull k)

theorem pulled_last {st s' : Flatten.St} {l l' : FL} {stk : List Fm} {g : G} {tr : List (Ev Int Int)} {k : Nat}
    (ha : SReach (Flatten.machine Int) ⟨st, .run l :: stk, g, tr, none⟩)
    (hst : (Flatten.machine Int).step st l = .call (.srcUp k .pull) s' l') (hC : Cnd tr) (hin : st.inner = some k) :
    k + 1 = st.nextId := by
  have hv := (Flatten.flatten_basicSafe _ (reach_op ha (.call hst))).1
  simp only [onOut_ph] at hv
  exact (E1_reach _ ha hC).1.last k hin (Ph.onOut_srcUp_ok _ _ _ hv).1

def Q (st : Flatten.St) (tr : List (Ev Int Int)) : Prop :=
  aP tr = true → (∀ k, st.inner = some k → lastPullSrc k (srcEvs tr) = true) ∧ (st.inner = none → st.outer = true → bP tr = true)

/-- a handler that has consumed a `Pull` or a delivery and has not yet passed it on -/
def Exc (st : Flatten.St) (ph : Ph) : List Fm → Prop
  | .run .p0 :: _ => True
  | .run .p1 :: _ => True
  | .run (.fwd _) :: _ => True
  | .run .it0 :: _ => True
  | .run .it1 :: _ => True
  | .run .it2 :: _ => True
  | .run .od0 :: _ => True
  | .run .od1 :: _ => True
  | .run (.ig0 _) :: _ => True
  | .run .ig1 :: _ => True
  | .run .og0 :: _ => True
  | .run .og1 :: _ => True
  | .run .ot0 :: _ => st.inner = none
  | .wait (.subSrc (j + 1)) _ :: _ => ph.srcPh (j + 1) = .subscribed
  | _ => False

def FlD (st : Flatten.St) : List Fm → Prop
  | .run .og1 :: _ => st.outer = true
  | .run .it1 :: _ => st.outer = true
  | _ => True

structure CoreD (st : Flatten.St) (ph : Ph) (tr : List (Ev Int Int)) (stk : List Fm) : Prop where
  q : Exc st ph stk ∨ Q st tr
  io : ph.sinkPh 0 = .live → st.outer = true ∨ st.inner.isSome = true
  fl : FlD st stk

def D (s : FSys) : Prop := Cnd s.tr → CoreD s.st s.g.ph s.tr s.stack

theorem aP_of_cons {ev : Ev Int Int} {tr : List (Ev Int Int)} (h : aP (ev :: tr) = true) (hev : ev ≠ .inp (.sinkUp 0 .pull)) :
    aP tr = true :=
  lastPull_of_cons hev h

theorem Q.evt {st : Flatten.St} {tr : List (Ev Int Int)} {ev : Ev Int Int} (h : Q st tr) (hev : ev ≠ .inp (.sinkUp 0 .pull))
    (hd : ∀ k d, ev ≠ .inp (.srcDown k d)) : Q st (ev :: tr) := by
  intro hap
  obtain ⟨h1, h2⟩ := h (aP_of_cons hap hev)
  exact ⟨fun k hk => lastPullSrc_cons (hd k) (h1 k hk), fun hi ho => lastPullSrc_cons (hd 0) (h2 hi ho)⟩

theorem io_of {ph : Ph} {p : SinkPh} {X : Prop} (hp : ph.sinkPh 0 = p) (h1 : p ≠ .live) : ph.sinkPh 0 = .live → X := by
  rw [hp]; exact fun h => (h1 h).elim

theorem Q.pulled_inner {st : Flatten.St} {tr : List (Ev Int Int)} {k : Nat} (hin : st.inner = some k) :
    Q st (.out (.srcUp k .pull) :: tr) :=
  fun _ => ⟨fun _ hk' => (Option.some.inj (hin.symm.trans hk')) ▸ lastPullSrc_pull k tr, fun hi => nomatch hin.symm.trans hi⟩

theorem Q.pulled_outer {st : Flatten.St} {tr : List (Ev Int Int)} (hin : st.inner = none) : Q st (.out (.srcUp 0 .pull) :: tr) :=
  fun _ => ⟨fun _ hk' => (nomatch hin.symm.trans hk'), fun _ _ => lastPullSrc_pull 0 tr⟩

theorem fld_wait {st : Flatten.St} {stk : List Fm} (h : ∀ f ∈ stk, ∃ o l, f = Frame.wait o l) : FlD st stk :=
  of_waits (FlD st) h trivial fun _ _ _ => trivial

/-- at an environment turn inside the subscription of an inner source that has not greeted yet, the environment can only greet -/
theorem exc_turn {st : Flatten.St} {ph : Ph} {stk : List Fm} {c : Ctx Int} {i : In Int} (he : Exc st ph stk) (hc : ctxOf stk = some c)
    (hl : legalIn (Flatten.machine Int).shape ph c i = true) : ∃ i', i = .srcGreet i' := by
  cases stk with
  | nil => simp [Exc] at he
  | cons f r =>
    cases f with
    | run l => simp [ctxOf] at hc
    | wait o l =>
      cases o with
      | subSrc n =>
        cases n with
        | zero => simp [Exc] at he
        | succ j =>
          simp only [Exc] at he
          simp [ctxOf] at hc; subst hc
          cases i with
          | subscribe k => simp [legalIn, isTop] at hl
          | sinkUp k u => simp [legalIn, isTop, inGreet, inData] at hl
          | srcGreet i' => exact ⟨i', rfl⟩
          | srcDown i' d =>
            simp [legalIn, isTop, inSub, inPull] at hl
            obtain ⟨h1, h2⟩ := hl
            subst h2; rw [he] at h1; cases h1
      | greet k => simp [Exc] at he
      | down k d => simp [Exc] at he
      | srcUp k u => simp [Exc] at he
      | app b => simp [Exc] at he

theorem D_reach : ∀ s, SReach (Flatten.machine Int) s → D s := by
  refine reach_ind D ?_ ?_ ?_ ?_ ?_ ?_
  · intro _
    exact ⟨.inr nofun, fun h => by simp [Sys.init] at h, trivial⟩
  · intro st l stk g tr s' l' ha ih h hC
    obtain ⟨hq, hio, hfd⟩ := ih hC
    obtain ⟨hk, hfl, hnw⟩ := E1_reach _ ha hC
    cases h with
    | og0 => exact ⟨.inl trivial, fun _ => .inl rfl, rfl⟩
    | od0 _ | p0 _ => exact ⟨.inl trivial, hio, trivial⟩
    | oe0 _ | ie0 _ => exact hfl.elim
    | ot0 h =>
      have hQ : Q st tr := hq.resolve_left h
      exact ⟨.inr (fun hap => ⟨(hQ hap).1, fun hi => absurd hi h⟩), fun _ => .inr (Option.isSome_iff_ne_none.2 h), trivial⟩
    | ig0 => exact ⟨.inl trivial, fun _ => .inr rfl, trivial⟩
    | it0 h => exact ⟨.inl trivial, hio, h⟩
    | it1 => exact ⟨.inl trivial, fun _ => .inl hfd, trivial⟩
    | x0 h => exact ⟨.inr (hq.resolve_left id), hio, trivial⟩
  · intro st l stk g tr o s' l' ha ih h hv hC
    obtain ⟨hq, hio, hfd⟩ := ih hC.tail
    obtain ⟨hk, hfl, hnw⟩ := E1_reach _ ha hC.tail
    simp only [onOut_ph]
    rw [Ph.onOut_ok _ _ hv]
    cases h with
    | sub0 | x0 _ | x1 _ =>
      exact ⟨.inr ((hq.resolve_left id).evt nofun nofun), hio, trivial⟩
    | og1 =>
      have haf : aP tr = false := aP_false_of_unsub ha (.inr (Ph.onOut_greet_ok _ _ hv).1)
      exact ⟨.inr (fun h => nomatch haf.symm.trans h), fun _ => .inl hfd, trivial⟩
    | od0 hin => rw [hfl.1] at hin; cases hin
    | od1 =>
      obtain ⟨m, hm⟩ := Nat.exists_eq_succ_of_ne_zero (Nat.ne_of_gt hk.pos)
      refine ⟨.inl ?_, hio, trivial⟩
      rw [hm]; exact Ph.srcPh_setSrc_self ..
    | oe0 _ | oe1 | ie0 _ | ie1 => exact hfl.elim
    | ot0 _ | it0 _ =>
      exact ⟨.inr nofun, io_of (Ph.sinkPh_setSink_self ..) nofun, trivial⟩
    | ig1 hin | p0 hin =>
      exact ⟨.inr (Q.pulled_inner hin), hio, trivial⟩
    | fwd =>
      exact ⟨.inr nofun, hio, trivial⟩
    | it2 hout =>
      exact ⟨.inr (Q.pulled_outer hfl.2), hio, trivial⟩
    | p1 hout =>
      exact ⟨.inr (Q.pulled_outer hfl.1), hio, trivial⟩
  · intro st l stk g tr ha ih h hw hC
    obtain ⟨hq, hio, hfd⟩ := ih hC.tail
    obtain ⟨hk, hfl, hnw⟩ := E1_reach _ ha hC.tail
    simp only [onRetO_ph]
    have hQ : Q st tr := by
      cases h with
      | done => exact hq.resolve_left id
      | p1 hout => exact fun _ => ⟨fun _ hk' => (nomatch hfl.1.symm.trans hk'), fun _ ho => nomatch hout.symm.trans ho⟩
      | x1 hout => exact hq.resolve_left id
    exact ⟨.inr (hQ.evt nofun nofun), hio, fld_wait hw⟩
  · intro st stk g tr c i ha ih hc hl _ hok hC
    obtain ⟨hq, hio, hfd⟩ := ih hC.tail
    obtain ⟨hk, hfl, hnw⟩ := E1_reach _ ha hC.tail
    simp only [onIn_ph]
    have hQ : (∀ i', i ≠ .srcGreet i') → Q st tr := by
      intro hne
      rcases hq with he | hQ
      · obtain ⟨i', rfl⟩ := exc_turn he hc hl
        exact absurd rfl (hne i')
      · exact hQ
    cases i with
    | subscribe k =>
      obtain ⟨rfl, _⟩ := hok
      exact ⟨.inr ((hQ nofun).evt nofun nofun), io_of (Ph.sinkPh_setSink_self ..) nofun, trivial⟩
    | sinkUp k u =>
      obtain ⟨rfl, H⟩ := hok
      cases u with
      | pull => exact ⟨.inl trivial, hio, trivial⟩
      | term | err _ =>
        exact ⟨.inr ((hQ nofun).evt nofun nofun), io_of (Ph.sinkPh_setSink_self ..) nofun, trivial⟩
    | srcGreet i' => cases i' <;> exact ⟨.inl trivial, hio, trivial⟩
    | srcDown i' d =>
      cases d with
      | err e => exact absurd (errIn_srcDown i' e) hC.2
      | data x => cases i' <;> exact ⟨.inl trivial, hio, trivial⟩
      | term =>
        cases i' with
        | succ j => exact ⟨.inl trivial, hio, trivial⟩
        | zero =>
          refine ⟨?_, hio, trivial⟩
          by_cases hin : st.inner = none
          · exact .inl hin
          · have hQ' := hQ nofun
            refine .inr (fun hap => ⟨fun k hk' => ?_, fun hi => absurd hi hin⟩)
            exact lastPullSrc_cons (fun d h => by cases h; exact absurd (hk.ipos 0 hk') (Nat.not_succ_le_zero 0))
              ((hQ' (aP_of_cons hap nofun)).1 k hk')
  · intro st stk g tr o l ha ih hl _ hC
    obtain ⟨hq, hio, hfd⟩ := ih hC.tail
    obtain ⟨hk, hfl, hnw⟩ := E1_reach _ ha hC.tail
    have hQ : Q st tr := by
      rcases hq with he | hQ
      · exfalso
        cases o with
        | subSrc n =>
          cases n with
          | zero => exact he
          | succ j => simp [legalRet, Flatten.machine, show g.ph.srcPh (j + 1) = .subscribed from he] at hl
        | _ => exact he
      · exact hQ
    refine ⟨.inr (hQ.evt nofun nofun), hio, ?_⟩
    rcases hnw o l List.mem_cons_self with rfl | rfl <;> trivial

end FK

end FlatPlugFun
end Cb

#print axioms Cb.FlatPlugFun.FK.E1_reach
#print axioms Cb.FlatPlugFun.FK.E2T_of_turn
#print axioms Cb.FlatPlugFun.FK.D_reach
