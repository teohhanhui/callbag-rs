import CallbagModel.Inv.Ghost2
import CallbagModel.Inv.Runs
import CallbagModel.Inv.Flatten
/-!
# flatten (switch): the FULL safety invariant (both ghost layers: C01–C05, C17)

Laid over `Flatten.Inv` (`safe_of_layer`): `X s.g s.stack`, which is `XOk s.g` in every mode except the three transient
ones, where the operator has sent the first `Terminate` of a two-call sequence and the environment can only return:

* `oe1 e` / `ie1 e` (an upstream `Error e` arrived, the other level has just been disposed, the error has not been delivered
  yet): the check recorded by `onIn` is pending but not yet satisfiable — `TransErr`: nothing flagged, the pending check is for
  `e` and for sink 0 only.  `XOk` is re-established by the macro step that performs `down 0 (err e)`.
* `x1` (the sink disposed, the inner has just been disposed, the outer is still live): `NoOrphan` is false here —
  `TransX`: nothing flagged, nothing pending.  `XOk` is re-established by the macro step that runs `x1`.

`flatten` has `relayErr = false`, so `errNotRelayed` is never flagged and nothing needs to be known about `sinkErr`.

The step (`X.macro`) never looks at the old mode: a legal call finds tail frames only and the output open (`CallOk`), so
`X` is `XOk` with nothing pending; at the landing, `NoOrphan` is read off the phase invariant there.
-/
namespace Cb.FlattenFull
open Cb.Flatten

variable {α : Type}

/-- an upstream `Error e` has arrived and is about to be delivered to sink 0 (this is `PendErr g e` of `Inv/Ghost2.lean`) -/
def TransErr (g : G) (e : Nat) : Prop :=
  g.xviols = [] ∧ ∃ h ks, g.pend = some (e, h, ks) ∧ ks ≠ [] ∧ ∀ k ∈ ks, k = 0

/-- the sink has disposed, the outer source is about to be disposed (this is `Quiet g` of `Inv/Ghost2.lean`) -/
def TransX (g : G) : Prop := g.xviols = [] ∧ g.pend = none

/-- the second-layer invariant, by the continuation on top of the stack -/
def X (g : G) : List (Frame (Loc α) α) → Prop
  | .wait _ (.oe1 e) :: _ => TransErr g e
  | .wait _ (.ie1 e) :: _ => TransErr g e
  | .wait _ .x1 :: _ => TransX g
  | _ => XOk g

@[simp] theorem X_nil (g : G) : X g ([] : List (Frame (Loc α) α)) = XOk g := rfl
@[simp] theorem X_done (g : G) (o : Out α) (r : List (Frame (Loc α) α)) : X g (.wait o .done :: r) = XOk g := rfl
@[simp] theorem X_od1 (g : G) (o : Out α) (r : List (Frame (Loc α) α)) : X g (.wait o .od1 :: r) = XOk g := rfl
@[simp] theorem X_oe1 (g : G) (o : Out α) (e : Nat) (r : List (Frame (Loc α) α)) : X g (.wait o (.oe1 e) :: r) = TransErr g e := rfl
@[simp] theorem X_ie1 (g : G) (o : Out α) (e : Nat) (r : List (Frame (Loc α) α)) : X g (.wait o (.ie1 e) :: r) = TransErr g e := rfl
@[simp] theorem X_x1 (g : G) (o : Out α) (r : List (Frame (Loc α) α)) : X g (.wait o .x1 :: r) = TransX g := rfl

theorem X_benign {g : G} {stk : List (Frame (Loc α) α)} (h : ∀ f ∈ stk, Benign f) : X g stk ↔ XOk g := by
  cases stk with
  | nil => exact Iff.rfl
  | cons f r =>
    have := h f (by simp)
    cases f with
    | run l => simp [Benign] at this
    | wait o l => cases l <;> first | exact Iff.rfl | simp [Benign] at this

theorem X_clean {g : G} {stk : List (Frame (Loc α) α)} (h : X g stk) : g.xviols = [] := by
  cases stk with
  | nil => exact h.clean
  | cons f r =>
    cases f with
    | run l => exact h.clean
    | wait o l => cases l <;> first | exact XOk.clean h | exact h.1

theorem pend_none_of_sink0 {g : G} (hx : XOk g) (hoths : ∀ k, k ≠ 0 → g.ph.sinkPh k = .idle) (h0 : g.ph.sinkPh 0 ≠ .doneBySrc) :
    g.pend = none :=
  hx.pend_none_of_noDone (noDone_of hoths h0)

theorem transErr_arrival {g : G} {e : Nat} (hx : XOk g) (hoths : ∀ k, k ≠ 0 → g.ph.sinkPh k = .idle) (h1 : g.ph.sinkPh 0 = .live)
    (h j : Nat) : TransErr (g.onIn h (.srcDown j (.err e) : In α)) e :=
  (hx.quiet_of_noDone (noDone_of hoths (by rw [h1]; nofun))).srcErr h1 (fun _ => sink_zero_of_live hoths) h j e

theorem TransErr.onOut {g : G} {e : Nat} (ht : TransErr g e) (o : Out α) : TransErr (g.onOut (machine α).shape o) e :=
  PendErr.congr ht (onOut_noRelay _ rfl g o).1 (onOut_noRelay _ rfl g o).2

theorem noOrphan_of_inv {s : Sys St (Loc α) α α} (hI : Flatten.Inv s) (hx1 : ∀ o r, s.stack ≠ .wait o .x1 :: r) :
    NoOrphan s.g.ph := by
  obtain ⟨_, _, hpos, hidle, _, hm⟩ := hI
  cases hm with
  | init _ h2 _ _ _ h6 =>
    refine noOrphan_of_noLive fun i => ?_
    by_cases hi : i = 0
    · rw [hi, h2]; exact SrcPh.noConfusion
    · rw [hidle i (by omega)]; exact SrcPh.noConfusion
  | sub h1 => exact noOrphan_of_open 0 (.inl h1)
  | live h1 | wgreet _ h1 | od1 _ h1 | oe1 _ _ h1 | ie1 _ h1 => exact noOrphan_of_open 0 (.inr h1)
  | x1 k _ _ _ h => obtain ⟨rest, e, _⟩ := h; exact (hx1 _ _ e).elim
  | fin _ h2 => exact noOrphan_of_noLive fun i => (h2 i).1

theorem noLive_of_closed {s : Sys St (Loc α) α α} (hI : Flatten.Inv s) (hx1 : ∀ o r, s.stack ≠ .wait o .x1 :: r)
    (hc : s.g.ph.sinkPh 0 = .doneBySrc ∨ s.g.ph.sinkPh 0 = .doneBySelf) : ∀ i, s.g.ph.srcPh i ≠ .live := by
  refine noOrphan_of_inv hI hx1 ((Ph.anySinkOpen_false_iff _).2 fun k => ?_)
  by_cases hk : k = 0
  · rcases hc with hc | hc <;> rw [hk, hc] <;> exact ⟨SinkPh.noConfusion, SinkPh.noConfusion⟩
  · rw [hI.2.2.2.2.1 k hk]; exact ⟨SinkPh.noConfusion, SinkPh.noConfusion⟩

theorem land_stack_ne_x1 {st : St} {r : Option (Out α)} {l : Loc α} {stk : List (Frame (Loc α) α)} {g : G} {tr : List (Ev α α)}
    (hl : l ≠ .x1) (hstk : ∀ f ∈ stk, Benign f) : ∀ o r', (land st r l stk g tr).stack ≠ .wait o .x1 :: r' := by
  intro o r' h
  cases r with
  | some o' => cases h; exact hl rfl
  | none => subst h; exact hstk _ List.mem_cons_self

theorem x_land_plain {st : St} {r : Option (Out α)} {l : Loc α} {stk : List (Frame (Loc α) α)} {g : G} {tr : List (Ev α α)}
    (hI : Flatten.Inv (land st r l stk g tr)) (hl : l = .done ∨ l = .od1) (hstk : ∀ f ∈ stk, Benign f)
    (hxv : g.xviols = []) (hpn : g.pend = none) : X (land st r l stk g tr).g (land st r l stk g tr).stack := by
  have hno := noOrphan_of_inv hI (land_stack_ne_x1 (by rcases hl with rfl | rfl <;> nofun) hstk)
  cases r with
  | some o =>
    obtain ⟨h1, h2⟩ := onOut_noRelay (machine α).shape rfl g o
    have hx : XOk (g.onOut (machine α).shape o) := ⟨h1.trans hxv, fun e h ks hp => (by rw [h2, hpn] at hp; cases hp), hno⟩
    rcases hl with rfl | rfl <;> exact hx
  | none =>
    rw [land_none_ph] at hno
    exact (X_benign hstk).2 (XOk.onRetO ⟨hxv, fun e h ks hp => (by rw [hpn] at hp; cases hp), hno⟩ _)

theorem x_deliver {st : St} {stk : List (Frame (Loc α) α)} {g : G} {tr : List (Ev α α)} {e : Nat}
    (hI : Flatten.Inv (land st (some (.down 0 (.err e))) .done stk g tr)) (ht : TransErr g e) (h0 : g.ph.sinkPh 0 = .live)
    (hstk : ∀ f ∈ stk, Benign f) : XOk (g.onOut (machine α).shape (.down 0 (.err e) : Out α)) :=
  PendErr.deliver ht _ h0 ((land_some_ph ..) ▸ noLive_of_closed hI (land_stack_ne_x1 nofun hstk)
    (.inl (by rw [land_some_ph, Ph.onOut_final h0 rfl, Ph.sinkPh_setSink_self])))

/-- an upstream error arrives: it stays pending while the other level is being disposed, or is delivered at once -/
theorem x_land_err {st : St} {r : Option (Out α)} {l : Loc α} {stk : List (Frame (Loc α) α)} {g : G} {tr : List (Ev α α)}
    {e j h : Nat} (hI : Flatten.Inv (land st r l stk (g.onIn h (.srcDown j (.err e) : In α)) tr)) (hx : XOk g)
    (hoths : ∀ k, k ≠ 0 → g.ph.sinkPh k = .idle) (h1 : g.ph.sinkPh 0 = .live) (hstk : ∀ f ∈ stk, Benign f)
    (hl : (∃ o, r = some o ∧ (l = .oe1 e ∨ l = .ie1 e)) ∨ (r = some (.down 0 (.err e)) ∧ l = .done)) :
    X (land st r l stk (g.onIn h (.srcDown j (.err e) : In α)) tr).g (land st r l stk (g.onIn h (.srcDown j (.err e) : In α)) tr).stack := by
  have ht := transErr_arrival (α := α) (e := e) hx hoths h1 h j
  rcases hl with ⟨o, rfl, hl⟩ | ⟨rfl, rfl⟩
  · rcases hl with rfl | rfl <;> exact ht.onOut o
  · exact x_deliver hI ht (by rw [onIn_ph]; exact h1) hstk

theorem X.macro {s : Sys St (Loc α) α α} {m : Move α} {st : St} {r : Option (Out α × Loc α)} (hI : Flatten.Inv s)
    (hX : X s.g s.stack) (hm : Macro s m st r) (hI' : Flatten.Inv (s.next (machine α).shape st m r)) :
    X (s.next (machine α).shape st m r).g (s.next (machine α).shape st m r).stack := by
  have hoths := hI.2.2.2.2.1
  obtain ⟨st, stk, g, tr, _⟩ := s
  simp only at hoths hX
  cases hm with
  | call i hok =>
    rw [next_call] at hI' ⊢
    simp only at hok hI' ⊢
    have hben := hok.benign
    have hx : XOk g := (X_benign hben).1 hX
    have hpn : g.pend = none :=
      pend_none_of_sink0 hx hoths (by rcases hok.sink0 with h | h | h <;> rw [h] <;> exact SinkPh.noConfusion)
    have hxv := (onIn_xviols g stk.length i).trans hx.clean
    -- every move but the sink's disposal and an upstream error lands in `XOk`
    have plain : (∀ k u, i = .sinkUp k u → u = .pull) → (∀ j e, i ≠ .srcDown j (.err e)) → _ := fun h1 h2 =>
      x_land_plain hI' (contC_plain st h1 h2) hben hxv (((onIn_fields g _ _).2.2.2 h2).trans hpn)
    cases i with
    | subscribe k => exact plain nofun nofun
    | srcGreet j => exact plain nofun nofun
    | sinkUp k u =>
      have hp' : (g.onIn stk.length (.sinkUp k u : In α)).pend = none := ((onIn_fields g _ _).2.2.2 fun _ _ h => by cases h).trans hpn
      cases u with
      | pull => exact plain (fun _ _ h => by cases h; rfl) nofun
      | term | err _ =>
        cases hin : st.inner with
        | none => exact x_land_plain hI' (.inl (by simp only [contC, hin])) hben hxv hp'
        | some k' =>
          simp only [respC, contC, hin]
          exact ⟨(onOut_noRelay _ rfl _ _).1.trans hxv, (onOut_noRelay _ rfl _ _).2.trans hp'⟩
    | srcDown j d =>
      cases d with
      | data a => exact plain nofun nofun
      | term => exact plain nofun nofun
      | err e =>
        cases j with
        | zero =>
          refine x_land_err hI' hx hoths hok.2.sink hben ?_
          cases hin : st.inner with
          | some k => exact .inl ⟨.srcUp k .term, by simp only [respC, hin], .inl (by simp only [contC, hin])⟩
          | none => exact .inr ⟨by simp only [respC, hin], by simp only [contC, hin]⟩
        | succ j =>
          refine x_land_err hI' hx hoths hok.2.sink hben ?_
          cases hout : st.outer with
          | true => exact .inl ⟨.srcUp 0 .term, by simp only [respC, hout, if_true], .inr (by simp only [contC, hout, if_true])⟩
          | false =>
            exact .inr ⟨by simp only [respC, hout, Bool.false_eq_true, if_false], by simp only [contC, hout, Bool.false_eq_true, if_false]⟩
  | @ret o l stk hstk hrest hok =>
    cases hstk
    rw [next_ret] at hI' ⊢
    simp only at hok hI' ⊢
    cases l with
    | done => exact (X_benign hrest).2 (XOk.onRetO hX _)
    | od1 =>
      have hx : XOk g := hX
      exact x_land_plain hI' (.inl rfl) hrest hx.clean (pend_none_of_sink0 hx hoths (by rw [hok.1]; exact SinkPh.noConfusion))
    | oe1 e | ie1 e => exact x_deliver hI' hX hok.1 hrest
    | x1 =>
      have ht : TransX g := hX
      exact x_land_plain hI' (.inl rfl) hrest ht.1 ht.2
    | _ => exact hok.elim

/-- flatten: under every conformant environment (re-entrant sink, synchronous or deferred outer and inner sources) the
operator never violates any clause of C01–C05 and never panics. -/
theorem flatten_safe {α : Type} : ∀ s, SReach (machine α) s → Safe s :=
  safe_of_layer (fun s => X s.g s.stack) Flatten.inv_init XOk.init Flatten.inv_turn (fun _ h => X_clean h)
    fun _ _ _ hi hx he => (macro_step hi he).step (P := fun s => X s.g s.stack) fun _ _ hm hi' => X.macro hi hx hm hi'

end Cb.FlattenFull

#print axioms Cb.FlattenFull.flatten_safe
