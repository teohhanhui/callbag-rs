import CallbagModel.Inv.ComposeFun
import CallbagModel.Fun.FromIter
import CallbagModel.Closed.RelayPipe
/-!
# Closed pull pipelines of any length: the SAFETY half of "iterable programming"

`pipe!(from_iter(it), stage₁, …, stageₙ, for_each(f))` applies `f` only ever to a PREFIX of `F xs`, in order, where `xs` are the
iterator's items and `F = Fₙ ∘ … ∘ F₁` — under EVERY conformant environment of the pipeline (the user who applies it, the closure `f`
that may take its time), at every reachable configuration.
-/
namespace Cb
open ComposeFun

/-- what `M` has delivered to its sink 0 so far satisfies `P`, whenever the environment has control -/
def SrcGen {St Loc α β : Type} (M : Machine St Loc α β) (P : List β → Prop) : Prop :=
  ∀ s, SReach M s → EnvTurn s → P (recvData 0 s.tr)

def SrcSpec {St Loc α β : Type} (M : Machine St Loc α β) (xs : List β) : Prop := SrcGen M (· <+: xs)

/-- a list function that maps prefixes to prefixes: an incremental (online) computation -/
def PrefixMono {α β : Type} (F : List α → List β) : Prop := ∀ l l', l <+: l' → F l <+: F l'

theorem SrcGen.compose {S1 L1 S2 L2 α β γ : Type} {M1 : Machine S1 L1 α β} {M2 : Machine S2 L2 β γ}
    {P : List β → Prop} {F : List β → List γ} (U1 : UpSide M1) (h1 : SrcGen M1 P) (h2 : Stage M2 F) :
    SrcGen (Cb.compose M1 M2) (fun ys => ∃ l, P l ∧ ys = F l) := by
  intro s hs ht
  obtain ⟨s1, s2, hr1, hr2, hp⟩ := compose_proj (hyp_of_roles U1 h2.pipe.downSide) s hs
  obtain ⟨ht1, ht2⟩ := hp.turn ht
  exact ⟨recvData 0 s1.tr, h1 s1 hr1 ht1, by rw [hp.recv 0, h2.io s2 hr2 ht2, hp.ifc 0]⟩

theorem SrcSpec.compose {S1 L1 S2 L2 α β γ : Type} {M1 : Machine S1 L1 α β} {M2 : Machine S2 L2 β γ}
    {xs : List β} {F : List β → List γ} (U1 : UpSide M1) (h1 : SrcSpec M1 xs) (h2 : Stage M2 F) (hmono : PrefixMono F) :
    SrcSpec (Cb.compose M1 M2) (F xs) := by
  intro s hs ht
  obtain ⟨l, hl, he⟩ := SrcGen.compose U1 h1 h2 s hs ht
  rw [he]; exact hmono _ _ hl

theorem PrefixMono.xferOut {σ α β : Type} (xfer : σ → α → σ × Option β) (s : σ) : PrefixMono (xferOut xfer s) := by
  rintro l _ ⟨t, rfl⟩
  exact ⟨_, (RelayFun.xferOut_append_lists xfer s l t).symm⟩

theorem PrefixMono.congr {α β : Type} {F G : List α → List β} (h : PrefixMono F) (hFG : ∀ l, F l = G l) : PrefixMono G := by
  intro l l' hl; rw [← hFG, ← hFG]; exact h l l' hl

theorem PrefixMono.comp {α β γ : Type} {F : List α → List β} {G : List β → List γ} (hF : PrefixMono F) (hG : PrefixMono G) :
    PrefixMono (G ∘ F) := fun l l' hl => hG _ _ (hF l l' hl)

theorem PrefixMono.map {α β : Type} (f : α → β) : PrefixMono (List.map f) :=
  (PrefixMono.xferOut (Relay.map f).xfer ()).congr (fun l => RelayFun.xferOut_map f _ l)

theorem PrefixMono.filter {α : Type} (p : α → Bool) : PrefixMono (List.filter p) :=
  (PrefixMono.xferOut (Relay.filter p).xfer ()).congr (fun l => RelayFun.xferOut_filter p _ l)

theorem PrefixMono.scan {α β : Type} (r : β → α → β) (seed : β) : PrefixMono (scanF r seed) :=
  (PrefixMono.xferOut (Relay.scan r seed).xfer seed).congr (fun l => RelayFun.xferOut_scan r seed _ l)

theorem PrefixMono.drop {α : Type} (n : Nat) : PrefixMono (List.drop (α := α) n) :=
  (PrefixMono.xferOut (Relay.skip (α := α) n).xfer 0).congr (RelayFun.xferOut_skip_seed n)

theorem PrefixMono.take {α : Type} (n : Nat) : PrefixMono (List.take (α := α) n) := by
  rintro l _ ⟨t, rfl⟩
  exact ⟨t.take (n - l.length), by rw [List.take_append]⟩

structure MonoStage {St Loc α β : Type} (M : Machine St Loc α β) (F : List α → List β) : Prop where
  stage : Stage M F
  mono : PrefixMono F

theorem MonoStage.compose {S1 L1 S2 L2 α β γ : Type} {M1 : Machine S1 L1 α β} {M2 : Machine S2 L2 β γ}
    {F1 : List α → List β} {F2 : List β → List γ} (h1 : MonoStage M1 F1) (h2 : MonoStage M2 F2) :
    MonoStage (Cb.compose M1 M2) (F2 ∘ F1) :=
  ⟨h1.stage.compose h2.stage, h1.mono.comp h2.mono⟩

theorem Relay.monoStage {σ α β : Type} (k : Relay.Kind σ α β) (hk : k.slotted = false → ∀ s a, (k.xfer s a).2 ≠ none) :
    MonoStage (Relay.machine k) (xferOut k.xfer k.seed) := ⟨Relay.stage k hk, .xferOut _ _⟩
theorem Relay.map_monoStage {α β : Type} (f : α → β) : MonoStage (Relay.machine (Relay.map f)) (List.map f) :=
  ⟨Relay.map_stage f, .map f⟩
theorem Relay.filter_monoStage {α : Type} (p : α → Bool) : MonoStage (Relay.machine (Relay.filter p)) (List.filter p) :=
  ⟨Relay.filter_stage p, .filter p⟩
theorem Relay.scan_monoStage {α β : Type} (r : β → α → β) (seed : β) :
    MonoStage (Relay.machine (Relay.scan r seed)) (scanF r seed) := ⟨Relay.scan_stage r seed, .scan r seed⟩
theorem Relay.skip_monoStage {α : Type} (n : Nat) : MonoStage (Relay.machine (Relay.skip (α := α) n)) (List.drop n) :=
  ⟨Relay.skip_stage n, .drop n⟩
theorem Take.monoStage {α : Type} (max : Nat) : MonoStage (Take.machine α max) (List.take max) :=
  ⟨Take.stage max, .take max⟩

/-- finite or infinite iterators: what `from_iter` has delivered is an initial segment of the iterator's stream -/
theorem FromIter.srcGen {ι α α' : Type} (next : ι → Option (α × ι)) (it0 : ι) :
    SrcGen (FromIter.machine α' next it0) (fun l => ∃ n, l = iterList next n it0) :=
  fun _ hs ht => ⟨_, (FromIterFun.t_at_turn next it0 hs ht).2.items⟩

theorem FromIter.srcSpec {ι α α' : Type} (next : ι → Option (α × ι)) (it0 : ι) (xs : List α)
    (hx : Closed.Unfolds next it0 xs) : SrcSpec (FromIter.machine α' next it0) xs := by
  intro s hs ht
  obtain ⟨n, hn⟩ := FromIter.srcGen next it0 s hs ht
  simp only [hn]; exact Closed.iterList_prefix hx n

section Closed
variable {S1 L1 S2 L2 α β γ : Type} {Msrc : Machine S1 L1 α β} {Mmid : Machine S2 L2 β γ}

/-- a head closed with `for_each`: whenever the environment has control, the closure has been applied to exactly what the head has
delivered -/
theorem head_forEach_gen {P : List β → Prop} (U : UpSide Msrc) (h : SrcGen Msrc P) :
    ∀ s, SReach (compose Msrc (ForEach.machine β)) s → EnvTurn s → P (applied s.tr) := by
  intro s hs ht
  obtain ⟨s1, s2, hr1, hr2, hp⟩ := compose_proj (hyp_of_roles U ForEach.downSide) s hs
  obtain ⟨ht1, ht2⟩ := hp.turn ht
  rw [hp.app, ForEach.applied_eq_sent s2 hr2 ht2, ← hp.ifc 0]
  exact h s1 hr1 ht1

/-- `applied` only changes at a closure call, and a closure call is an environment turn -/
theorem applied_at_turn {St Loc α β : Type} (M : Machine St Loc α β) :
    ∀ s, SReach M s → ∃ t, SReach M t ∧ EnvTurn t ∧ applied s.tr = applied t.tr :=
  at_turn_of_calls M applied fun e tr he => by
    cases e with
    | out o => exact absurd rfl (he o)
    | _ => rfl

/-- … and therefore, for a head of `xs`, at EVERY reachable configuration, whoever has control -/
theorem head_forEach_prefix_all {xs : List β} (U : UpSide Msrc) (h : SrcSpec Msrc xs) :
    ∀ s, SReach (compose Msrc (ForEach.machine β)) s → BasicSafe s ∧ applied s.tr <+: xs := by
  intro s hs
  refine ⟨closed_pipeline_safe₀ U s hs, ?_⟩
  obtain ⟨t, hrt, htt, he⟩ := applied_at_turn _ s hs
  rw [he]; exact head_forEach_gen U h t hrt htt

/-- general form (finite or infinite sources, any stage function): whenever the environment has control, the closure has been
applied to exactly `F l`, where `l` is what the head has delivered so far (and satisfies the head's specification `P`) -/
theorem closed_pipeline_gen {P : List β → Prop} {F : List β → List γ}
    (hsrc : UpSide Msrc) (hgen : SrcGen Msrc P) (hmid : Stage Mmid F) :
    ∀ s, SReach (compose (compose Msrc Mmid) (ForEach.machine γ)) s → EnvTurn s → ∃ l, P l ∧ applied s.tr = F l :=
  head_forEach_gen (hsrc.compose' hmid.pipe) (SrcGen.compose hsrc hgen hmid)

/-- **the safety half of iterable programming**: `pipe!(head, stage₁, …, stageₙ, for_each(f))` has applied `f`, in order, to a
prefix of `F xs`, whenever the environment has control -/
theorem closed_pipeline_prefix {xs : List β} {F : List β → List γ}
    (hsrc : UpSide Msrc) (hspec : SrcSpec Msrc xs) (hmid : MonoStage Mmid F) :
    ∀ s, SReach (compose (compose Msrc Mmid) (ForEach.machine γ)) s → EnvTurn s → applied s.tr <+: F xs :=
  head_forEach_gen (hsrc.compose' hmid.stage.pipe) (SrcSpec.compose hsrc hspec hmid.stage hmid.mono)

/-- … and at EVERY reachable configuration, whoever has control -/
theorem closed_pipeline_prefix_all {xs : List β} {F : List β → List γ}
    (hsrc : UpSide Msrc) (hspec : SrcSpec Msrc xs) (hmid : MonoStage Mmid F) :
    ∀ s, SReach (compose (compose Msrc Mmid) (ForEach.machine γ)) s → BasicSafe s ∧ applied s.tr <+: F xs :=
  head_forEach_prefix_all (hsrc.compose' hmid.stage.pipe) (SrcSpec.compose hsrc hspec hmid.stage hmid.mono)

end Closed

/-- `pipe!(from_iter(it), filter(p), map(f), take(n), for_each(g))`: `g` is applied, in order, to a prefix of
`((xs.filter p).map f).take n`, where `xs` are the iterator's items; the pipeline never violates the protocol and never panics -/
theorem fromIter_filter_map_take_forEach {ι α β : Type} (next : ι → Option (α × ι)) (it0 : ι) (xs : List α)
    (hx : Closed.Unfolds next it0 xs) (p : α → Bool) (f : α → β) (n : Nat) :
    ∀ s, SReach (compose (compose (FromIter.machine Unit next it0)
        (compose (compose (Relay.machine (Relay.filter p)) (Relay.machine (Relay.map f))) (Take.machine β n)))
        (ForEach.machine β)) s → BasicSafe s ∧ applied s.tr <+: ((xs.filter p).map f).take n :=
  closed_pipeline_prefix_all (FromIter.upSide next it0) (FromIter.srcSpec next it0 xs hx)
    (((Relay.filter_monoStage p).compose (Relay.map_monoStage f)).compose (Take.monoStage n))

/-- an infinite iterator: `pipe!(from_iter(it), scan(r, seed), for_each(g))` has applied `g` to `scanF r seed` of the first `m` items
of the stream, for some `m` -/
example {ι α β : Type} (next : ι → Option (α × ι)) (it0 : ι) (r : β → α → β) (seed : β) :
    ∀ s, SReach (compose (compose (FromIter.machine Unit next it0) (Relay.machine (Relay.scan r seed))) (ForEach.machine β)) s →
      EnvTurn s → ∃ m, applied s.tr = scanF r seed (iterList next m it0) := by
  intro s hs ht
  obtain ⟨l, ⟨m, hm⟩, he⟩ := closed_pipeline_gen (FromIter.upSide next it0) (FromIter.srcGen next it0)
    (Relay.scan_stage r seed) s hs ht
  exact ⟨m, by rw [he, hm]⟩

/-- a list as the iterator -/
example {α β : Type} (xs : List α) (p : α → Bool) (f : α → β) (n : Nat) :
    ∀ s, SReach (compose (compose (FromIter.machine Unit Closed.listNext xs)
        (compose (compose (Relay.machine (Relay.filter p)) (Relay.machine (Relay.map f))) (Take.machine β n)))
        (ForEach.machine β)) s → BasicSafe s ∧ applied s.tr <+: ((xs.filter p).map f).take n :=
  fromIter_filter_map_take_forEach Closed.listNext xs xs (Closed.unfolds_list xs) p f n

end Cb

#print axioms Cb.SrcSpec.compose
#print axioms Cb.FromIter.srcSpec
#print axioms Cb.closed_pipeline_gen
#print axioms Cb.closed_pipeline_prefix
#print axioms Cb.closed_pipeline_prefix_all
#print axioms Cb.fromIter_filter_map_take_forEach
