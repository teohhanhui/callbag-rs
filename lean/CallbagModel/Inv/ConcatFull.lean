import CallbagModel.Inv.Ghost2
import CallbagModel.Inv.Concat
/-!
# concat: the FULL safety invariant (both ghost layers: C01–C05, C17), every member count `n ≥ 1`

The second layer is `XOkRelay`; its arguments, made case by case in `Concat.macro_step`, are:

* relay (C04): `u1 u` hands the sink's `Terminate` / `Error(e)` to the current member only; at `u1 (err e)` the ghost has
  just recorded `sinkErr = some (e, height)`; at `u1 term` the sink was live, hence `sinkErr = none`.
* orphans (C04): when the sink disposes, the current member is disposed and it was the only live one; when the output
  completes every member has ended.
* C05: an upstream `Error(e)` comes from the current member, the only live upstream; `fwd (err e)` hands it to sink 0
  (the only sink) in one step.
-/
namespace Cb.ConcatFull
open Cb.Concat

/-- concat: for every member count `n ≥ 1`, under every conformant environment the operator never violates any clause of
C01–C05 and never panics. -/
theorem concat_safe {α : Type} (n : Nat) (hn : 0 < n) : ∀ s, SReach (machine α n) s → Safe s :=
  Lands.safe (inv_init n) XOkRelay.init (inv_turn n) (fun _ h => h.1.clean) (macro_inv hn)

end Cb.ConcatFull

#print axioms Cb.ConcatFull.concat_safe
