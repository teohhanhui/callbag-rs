import CallbagModel.Inv.ComposeTerm
import CallbagModel.Inv.ConcatN
/-!
# Termination: a potential for the n-ary `concat!` the driver builds (`Closed.concatM`)

`HeadPot.concatM`: if every member is a closed head with a potential, so is `concatM As`.  The members' cost functions are first replaced
by common bounds (`headPot_common`), the costs of the `concat` machine are resolved from them exactly as for two members
(`HeadPot.concat2`), and `ConcatPot` (`Inv/ComposeTerm.lean`) is carried through the plugging of the slots by `ConcatN.concatM_fold`.
-/
namespace Cb
namespace ComposeTerm
open Closed

theorem headPot_common (As : List AnyM) (h : ∀ A ∈ As, HeadPot A.M) :
    ∃ (fs : Nat → Nat → Nat) (fp : Nat → Nat) (fu : Nat), ∀ A ∈ As, ∀ g d f : Nat,
      ∃ P : Pot A.M ((⟨0, 0, 0, g, d, f, 0⟩ : Costs).of (β := Int)), P.good A.M.init ∧ P.UpLe (fs g f) (fp f) fu := by
  induction As with
  | nil => exact ⟨fun _ _ => 0, fun _ => 0, 0, fun A hA => by cases hA⟩
  | cons B t ih =>
    obtain ⟨fs, fp, fu, ht⟩ := ih (fun A hA => h A (List.mem_cons_of_mem _ hA))
    obtain ⟨fsB, fpB, fuB, hB⟩ := h B List.mem_cons_self
    refine ⟨fun g f => max (fsB g f) (fs g f), fun f => max (fpB f) (fp f), max fuB fu, fun A hA g d f => ?_⟩
    rcases List.mem_cons.1 hA with rfl | hA
    · obtain ⟨P, hg, hu⟩ := hB g d f
      exact ⟨P, hg, hu.mono (Nat.le_max_left _ _) (Nat.le_max_left _ _) (Nat.le_max_left _ _)⟩
    · obtain ⟨P, hg, hu⟩ := ht A hA g d f
      exact ⟨P, hg, hu.mono (Nat.le_max_right _ _) (Nat.le_max_right _ _) (Nat.le_max_right _ _)⟩

/-- **`concatM As`** of closed heads with potentials is a closed head with a potential -/
theorem HeadPot.concatM (As : List AnyM) (h : ∀ A ∈ As, HeadPot A.M) : HeadPot (Closed.concatM As).M := by
  obtain ⟨fs, fp, fu, hAs⟩ := headPot_common As h
  refine ⟨fun g f => f + fs (g + fp (f + 4) + 7) (f + 4) + 3, fun f => fp (f + 4) + 4, fu + 3, fun g d f => ?_⟩
  exact (ConcatN.concatM_fold (P := fun _ acc => ConcatPot As.length ⟨fs (g + fp (f + 4) + 7) (f + 4), fp (f + 4), fu, g, d, f, 0⟩ acc.M)
    (Q := fun k A => k < As.length ∧ ∃ PA : Pot A.M ((⟨0, 0, 0, g + fp (f + 4) + 7, d + 3, f + 4, 0⟩ : Costs).of (β := Int)),
      PA.good A.M.init ∧ PA.UpLe (fs (g + fp (f + 4) + 7) (f + 4)) (fp (f + 4)) fu)
    As (ConcatPot.base _ _) (fun _ _ _ hM hA => hM.plug hA.1 hA.2)
    (fun i hi => ⟨hi, hAs _ (List.getElem_mem hi) (g + fp (f + 4) + 7) (d + 3) (f + 4)⟩)).head

end ComposeTerm
end Cb

#print axioms Cb.ComposeTerm.HeadPot.concatM
