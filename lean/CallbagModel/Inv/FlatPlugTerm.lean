import CallbagModel.Inv.ComposeTerm
import CallbagModel.Inv.FlatPlugSafe
/-!
# Termination: potentials for `flatten` and for the network `flatPlug Mo Mi initOf`

`Flatten.pot`: flatten's handlers are loop-free.  The costs of its calls depend on the upstream: index 0 is the outer source (`cO`),
the indices `≥ 1` are the inner sources (`cI`) — where the program text leaves the index open (`inner_talkback`) the maximum is charged.

`Pot.flatPlug`: the state part of the network is the sum over the outer source, flatten and the inner sources created so far; the
creation of an inner source (its initial potential, at most `W`) is paid for by the subscribing call of flatten (`od1`), hence by the
delivery of the outer datum, hence by the outer source's item.  The condition `good` (inner sources are numbered from 1) is needed here:
an inner source numbered 0 would deliver as the outer source, and the cost of an outer datum contains `W`, which contains the cost of an
inner datum.

`HeadPot.flat`: the parameters are resolved in the order:
terminal of the outer source, `Pull` of the outer source, terminal of the inner sources (their `Terminate` makes flatten re-pull the
outer source), `Pull` of the inner sources, greetings, inner datum, subscriptions, outer datum.
-/
namespace Cb
namespace ComposeTerm
open FlatPlugSafe

section FlattenPot

/-- the costs of flatten's calls: upstream 0 is the outer source, the others are inner sources -/
def costF (cO cI c : Costs) : Out Int → Nat
  | .subSrc 0 => cO.sub
  | .subSrc (_ + 1) => cI.sub
  | .srcUp 0 u => cO.of (Out.srcUp 0 u : Out Int)
  | .srcUp (_ + 1) u => cI.of (Out.srcUp 0 u : Out Int)
  | o => c.of o

theorem costF_sub_le (cO cI c : Costs) (i : Nat) : costF cO cI c (.subSrc i) ≤ cO.sub + cI.sub := by
  cases i <;> simp [costF]

theorem costF_pull_le (cO cI c : Costs) (i : Nat) : costF cO cI c (.srcUp i .pull) ≤ cO.pull + cI.pull := by
  cases i <;> simp [costF, Costs.of]

theorem costF_term_le (cO cI c : Costs) (i : Nat) : costF cO cI c (.srcUp i .term) ≤ cO.ufin + cI.ufin := by
  cases i <;> simp [costF, Costs.of]

def Flatten.ρ (cO cI c : Costs) : Flatten.Loc Int → Nat
  | .done => 0
  | .sub0 => cO.sub + 2
  | .og0 => c.greet + 3
  | .og1 => c.greet + 2
  | .od0 => cO.sub + cI.sub + cO.ufin + cI.ufin + 4
  | .od1 => cO.sub + cI.sub + 2
  | .oe0 _ => c.fin + cO.ufin + cI.ufin + 4
  | .oe1 _ => c.fin + 2
  | .ot0 => c.fin + 2
  | .ig0 _ => cO.pull + cI.pull + 3
  | .ig1 => cO.pull + cI.pull + 2
  | .fwd _ => c.data + 2
  | .ie0 _ => c.fin + cO.ufin + 4
  | .ie1 _ => c.fin + 2
  | .it0 => c.fin + cO.pull + 4
  | .it1 => cO.pull + 3
  | .it2 => cO.pull + 2
  | .p0 => cO.pull + cI.pull + 3
  | .p1 => cO.pull + 2
  | .x0 => cO.ufin + cO.ufin + cI.ufin + 5
  | .x1 => cO.ufin + 2

def Flatten.pot (cO cI c : Costs) : Pot (Flatten.machine Int) (costF cO cI c) :=
  .ofEdges (fun st l => (Flatten.edge st l).sat) (fun _ => 0) (fun _ => Flatten.ρ cO cI c) (fun l => Flatten.ρ cO cI c l + 1) (fun _ _ => Nat.lt_succ_self _)
    (fun h => by cases h <;> simp only [Flatten.ρ] <;> omega)
    (fun {st} _ _ _ _ h => by
      cases h with
      | @od0 k _ | @oe0 _ k _ | @x0 k _ => have := costF_term_le cO cI c k; simp only [Flatten.ρ]; omega
      | @ig1 k _ | @p0 k _ => have := costF_pull_le cO cI c k; simp only [Flatten.ρ]; omega
      | od1 => have := costF_sub_le cO cI c st.nextId; simp only [Flatten.ρ]; omega
      | _ => simp only [Flatten.ρ, costF, Costs.of] <;> omega)

theorem Flatten.pot_upLe (cO cI c : Costs) :
    (Flatten.pot cO cI c).UpLe (cO.sub + 3) (cO.pull + cI.pull + 4) (cO.ufin + cO.ufin + cI.ufin + 6) :=
  ⟨Nat.le_refl _, Nat.le_refl _, Nat.le_refl _, fun _ => Nat.le_refl _⟩

theorem Flatten.pot_downLeAt0 (cO cI c : Costs) :
    (Flatten.pot cO cI c).DownLeAt 0 (c.greet + 4) (cO.sub + cI.sub + cO.ufin + cI.ufin + 5) (c.fin + cO.ufin + cI.ufin + 5) :=
  ⟨Nat.le_refl _, fun _ => Nat.le_refl _, by show c.fin + 3 ≤ _; omega, fun _ => Nat.le_refl _⟩

theorem Flatten.pot_downLeAtS (cO cI c : Costs) (j : Nat) :
    (Flatten.pot cO cI c).DownLeAt (j + 1) (cO.pull + cI.pull + 4) (c.data + 3) (c.fin + cO.pull + cO.ufin + 5) :=
  ⟨Nat.le_refl _, fun _ => Nat.le_refl _, by show c.fin + cO.pull + 5 ≤ _; omega, fun _ => by show c.fin + cO.ufin + 5 ≤ _; omega⟩

end FlattenPot

section Network
variable {So Lo Si Li αo αi : Type} {Mo : Machine So Lo αo Int} {Mi : Machine Si Li αi Int}

/-- the state potentials of the inner sources created so far -/
def sumI {cI : Costs} (PI : Pot Mi (cI.of (β := Int))) : List (Nat × Si) → Nat
  | [] => 0
  | p :: t => PI.Ψ p.2 + sumI PI t

theorem sumI_filter_le {cI : Costs} (PI : Pot Mi (cI.of (β := Int))) (q : Nat × Si → Bool) (l : List (Nat × Si)) :
    sumI PI (l.filter q) ≤ sumI PI l := by
  induction l with
  | nil => exact Nat.le_refl _
  | cons p t ih =>
    simp only [List.filter_cons]
    split
    · simp only [sumI]; omega
    · simp only [sumI]; omega

theorem sumI_filter_find {cI : Costs} (PI : Pot Mi (cI.of (β := Int))) (j : Nat) (l : List (Nat × Si)) (si : Si)
    (h : (l.find? (fun p => p.1 == j)).map (fun p => p.2) = some si) :
    sumI PI (l.filter (fun p => p.1 != j)) + PI.Ψ si ≤ sumI PI l := by
  induction l with
  | nil => simp at h
  | cons p t ih =>
    simp only [List.find?_cons, List.filter_cons] at h ⊢
    by_cases hp : p.1 = j
    · have b1 : (p.1 == j) = true := by simp [hp]
      have b2 : (p.1 != j) = false := by simp [hp]
      simp only [b1, Option.map_some, Option.some.injEq] at h
      simp only [b2, Bool.false_eq_true, if_false, sumI]
      have := sumI_filter_le PI (fun p => p.1 != j) t
      rw [← h]; omega
    · have b1 : (p.1 == j) = false := by simp [hp]
      have b2 : (p.1 != j) = true := by simp [hp]
      simp only [b1] at h
      simp only [b2, if_true, sumI]
      have := ih h
      omega

theorem sumI_setInner_le {cI : Costs} (PI : Pot Mi (cI.of (β := Int))) (st : FPSt So Si) (j : Nat) (x : Si) :
    sumI PI (st.setInner j x).inners ≤ PI.Ψ x + sumI PI st.inners :=
  Nat.add_le_add_left (sumI_filter_le PI _ st.inners) _

theorem sumI_setInner {cI : Costs} (PI : Pot Mi (cI.of (β := Int))) {st : FPSt So Si} {j : Nat} {si : Si}
    (h : st.innerSt j = some si) (x : Si) : sumI PI (st.setInner j x).inners + PI.Ψ si ≤ PI.Ψ x + sumI PI st.inners := by
  have := sumI_filter_find PI j st.inners si h
  simp only [FPSt.setInner, sumI]; omega

theorem mem_of_innerSt {st : FPSt So Si} {j : Nat} {si : Si} (h : st.innerSt j = some si) : (j, si) ∈ st.inners := by
  simp only [FPSt.innerSt, Option.map_eq_some_iff] at h
  obtain ⟨p, hp, rfl⟩ := h
  have h1 := List.find?_some hp
  have h2 := List.mem_of_find?_eq_some hp
  simp only [beq_iff_eq] at h1
  obtain ⟨a, b⟩ := p
  simp only at h1; subst h1
  exact h2

theorem setInner_outer (st : FPSt So Si) (j : Nat) (x : Si) : (st.setInner j x).outer = st.outer := rfl
theorem setInner_flat (st : FPSt So Si) (j : Nat) (x : Si) : (st.setInner j x).flat = st.flat := rfl

def goodI {cI : Costs} (PI : Pot Mi (cI.of (β := Int))) (l : List (Nat × Si)) : Prop := ∀ p ∈ l, 1 ≤ p.1 ∧ PI.good p.2

theorem goodI_set {cI : Costs} {PI : Pot Mi (cI.of (β := Int))} {l : List (Nat × Si)} (h : goodI PI l) (j : Nat) (x : Si)
    (hj : 1 ≤ j) (hx : PI.good x) : goodI PI ((j, x) :: l.filter (fun p => p.1 != j)) := by
  intro p hp
  rcases List.mem_cons.1 hp with rfl | hp
  · exact ⟨hj, hx⟩
  · exact h p (List.mem_filter.1 hp).1

section Potential
variable {cO cI : Costs} {costFl : Out Int → Nat} (initOf : Int → Si) (PO : Pot Mo (cO.of (β := Int)))
  (PI : Pot Mi (cI.of (β := Int))) (PF : Pot (Flatten.machine Int) costFl) (W : Nat)

def fρ (st : FPSt So Si) : FFr Lo FL Li → Nat
  | .outer l => PO.ρ st.outer l
  | .flat l => PF.ρ st.flat l
  | .inner j l => match st.innerSt j with
    | some si => PI.ρ si l
    | none => 0

def fω : FFr Lo FL Li → Nat
  | .outer l => PO.ω l
  | .flat l => PF.ω l
  | .inner _ l => PI.ω l

def fsum : List (FFr Lo FL Li) → Nat
  | [] => 0
  | e :: t => fω PO PI PF e + fsum t

theorem fρ_lt (st : FPSt So Si) (e : FFr Lo FL Li) : fρ PO PI PF st e < fω PO PI PF e := by
  cases e with
  | outer l => exact PO.le _ _
  | flat l => exact PF.le _ _
  | inner j l =>
    simp only [fρ, fω]
    split
    · exact PI.le _ _
    · exact Nat.lt_of_le_of_lt (Nat.zero_le _) (PI.le (Mi.init) l)

theorem fstack_lt (st : FPSt So Si) (cfs : List (FFr Lo FL Li)) :
    (match cfs with | [] => 0 | e :: t => fρ PO PI PF st e + fsum PO PI PF t) <
      (match cfs with | [] => 1 | e :: t => fω PO PI PF e + fsum PO PI PF t) := by
  cases cfs with
  | nil => exact Nat.one_pos
  | cons e t => exact Nat.add_lt_add_right (fρ_lt PO PI PF st e) _

variable (hdO : PF.DownLeAt 0 cO.greet cO.data cO.fin) (hdI : ∀ j, PF.DownLeAt (j + 1) cI.greet cI.data cI.fin)
  (hsO : PO.ω (Mo.enter (.subscribe 0)) ≤ costFl (.subSrc 0)) (huO : ∀ u, PO.ω (Mo.enter (.sinkUp 0 u)) ≤ costFl (.srcUp 0 u))
  (hsI : ∀ j, PI.ω (Mi.enter (.subscribe 0)) + W ≤ costFl (.subSrc (j + 1)))
  (huI : ∀ j u, PI.ω (Mi.enter (.sinkUp 0 u)) ≤ costFl (.srcUp (j + 1) u))
  (hW : ∀ a, PI.Ψ (initOf a) ≤ W) (hgI : ∀ a, PI.good (initOf a))
  {st s' : FPSt So Si} {cfs cfs' : List (FFr Lo FL Li)}

include hdO hdI hsO huO hsI huI hW in
theorem FTau.lt : FTau Mo Mi initOf st cfs s' cfs' → PO.good st.outer ∧ PF.good st.flat ∧ goodI PI st.inners →
    PO.Ψ s'.outer + PF.Ψ s'.flat + sumI PI s'.inners + (match cfs' with | [] => 0 | e :: t => fρ PO PI PF s' e + fsum PO PI PF t) <
      PO.Ψ st.outer + PF.Ψ st.flat + sumI PI st.inners + (match cfs with | [] => 0 | e :: t => fρ PO PI PF st e + fsum PO PI PF t) := by
  intro h ⟨hgO, hgF, hgi⟩
  cases h with
  | outer hst => have := PO.tau _ _ _ _ hst hgO; simp only [fρ]; omega
  | flat hst => have := PF.tau _ _ _ _ hst hgF; simp only [fρ]; omega
  | @inner j l rest si s l' hin hst =>
    have := PI.tau _ _ _ _ hst (hgi _ (mem_of_innerSt hin)).2
    have := sumI_setInner PI hin s
    simp only [fρ, FlatPlugSafe.innerSt_setInner_same, hin, setInner_outer, setInner_flat]; omega
  | @pop e e' rest => have := fρ_lt PO PI PF st e'; simp only [fsum]; omega
  | greetO hst =>
    have hc := PO.call _ _ _ _ _ hst hgO
    have := PF.le st.flat ((Flatten.machine Int).enter (.srcGreet 0))
    have := hdO.greet
    simp only [fρ, fω, fsum, Costs.of] at hc ⊢; omega
  | @downO l rest d s l' hst =>
    have hc := PO.call _ _ _ _ _ hst hgO
    have := PF.le st.flat ((Flatten.machine Int).enter (.srcDown 0 d))
    have := hdO.down d
    simp only [fρ, fω, fsum] at hc ⊢; omega
  | @greetI j l rest si s l' hin hst =>
    obtain ⟨hj, hgsi⟩ := hgi _ (mem_of_innerSt hin)
    obtain ⟨j, rfl⟩ := Nat.exists_eq_add_one.2 hj
    have hc := PI.call _ _ _ _ _ hst hgsi
    have := sumI_setInner PI hin s
    have := PF.le st.flat ((Flatten.machine Int).enter (.srcGreet (j + 1)))
    have := (hdI j).greet
    simp only [fρ, fω, fsum, Costs.of, hin, setInner_outer, setInner_flat] at hc ⊢; omega
  | @downI j l rest d si s l' hin hst =>
    obtain ⟨hj, hgsi⟩ := hgi _ (mem_of_innerSt hin)
    obtain ⟨j, rfl⟩ := Nat.exists_eq_add_one.2 hj
    have hc := PI.call _ _ _ _ _ hst hgsi
    have := sumI_setInner PI hin s
    have := PF.le st.flat ((Flatten.machine Int).enter (.srcDown (j + 1) d))
    have := (hdI j).down d
    simp only [fρ, fω, fsum, hin, setInner_outer, setInner_flat] at hc ⊢; omega
  | subO hst =>
    have hc := PF.call _ _ _ _ _ hst hgF
    have := PO.le st.outer (Mo.enter (.subscribe 0))
    simp only [fρ, fω, fsum] at hc ⊢; omega
  | @subI l rest j a s l' hst hp =>
    have hc := PF.call _ _ _ _ _ hst hgF
    have := PI.le (initOf a) (Mi.enter (.subscribe 0))
    have := hsI j
    have := hW a
    have : sumI PI ({ st with flat := s }.setInner (j + 1) (initOf a)).inners ≤ PI.Ψ (initOf a) + sumI PI st.inners :=
      sumI_setInner_le PI _ _ _
    simp only [fρ, fω, fsum, FlatPlugSafe.innerSt_setInner_same, setInner_outer, setInner_flat] at hc ⊢; omega
  | @upO l rest u s l' hst =>
    have hc := PF.call _ _ _ _ _ hst hgF
    have := PO.le st.outer (Mo.enter (.sinkUp 0 u))
    have := huO u
    simp only [fρ, fω, fsum] at hc ⊢; omega
  | @upI l rest j u s l' hst =>
    have hc := PF.call _ _ _ _ _ hst hgF
    have hlt := fρ_lt PO PI PF { st with flat := s } (.inner (j + 1) (Mi.enter (.sinkUp 0 u)))
    have := huI j u
    simp only [fρ, fω, fsum] at hc hlt ⊢; omega

include hgI in
theorem FTau.good : FTau Mo Mi initOf st cfs s' cfs' → PO.good st.outer ∧ PF.good st.flat ∧ goodI PI st.inners →
    PO.good s'.outer ∧ PF.good s'.flat ∧ goodI PI s'.inners := by
  intro h ⟨hgO, hgF, hgi⟩
  cases h with
  | outer hst => exact ⟨PO.good_tau _ _ _ _ hst hgO, hgF, hgi⟩
  | flat hst => exact ⟨hgO, PF.good_tau _ _ _ _ hst hgF, hgi⟩
  | inner hin hst =>
    obtain ⟨hj, hgsi⟩ := hgi _ (mem_of_innerSt hin)
    exact ⟨hgO, hgF, goodI_set hgi _ _ hj (PI.good_tau _ _ _ _ hst hgsi)⟩
  | pop => exact ⟨hgO, hgF, hgi⟩
  | greetO hst => exact ⟨PO.good_call _ _ _ _ _ hst hgO, hgF, hgi⟩
  | downO hst => exact ⟨PO.good_call _ _ _ _ _ hst hgO, hgF, hgi⟩
  | greetI hin hst =>
    obtain ⟨hj, hgsi⟩ := hgi _ (mem_of_innerSt hin)
    exact ⟨hgO, hgF, goodI_set hgi _ _ hj (PI.good_call _ _ _ _ _ hst hgsi)⟩
  | downI hin hst =>
    obtain ⟨hj, hgsi⟩ := hgi _ (mem_of_innerSt hin)
    exact ⟨hgO, hgF, goodI_set hgi _ _ hj (PI.good_call _ _ _ _ _ hst hgsi)⟩
  | subO hst => exact ⟨hgO, PF.good_call _ _ _ _ _ hst hgF, hgi⟩
  | subI hst hp => exact ⟨hgO, PF.good_call _ _ _ _ _ hst hgF, goodI_set hgi _ _ (Nat.le_add_left 1 _) (hgI _)⟩
  | upO hst => exact ⟨hgO, PF.good_call _ _ _ _ _ hst hgF, hgi⟩
  | upI hst => exact ⟨hgO, PF.good_call _ _ _ _ _ hst hgF, hgi⟩

def Pot.flatPlug : Pot (Cb.flatPlug Mo Mi initOf) costFl :=
  .ofSat (flatPlug_step_inv initOf) (fun st => PO.Ψ st.outer + PF.Ψ st.flat + sumI PI st.inners)
    (fun st cfs => match cfs with
      | [] => 0
      | e :: t => fρ PO PI PF st e + fsum PO PI PF t)
    (fun cfs => match cfs with
      | [] => 1
      | e :: t => fω PO PI PF e + fsum PO PI PF t)
    (fstack_lt PO PI PF) (fun st => PO.good st.outer ∧ PF.good st.flat ∧ goodI PI st.inners)
    (fun h hg => ⟨FTau.good initOf PO PI PF hgI h hg, FTau.lt initOf PO PI PF W hdO hdI hsO huO hsI huI hW h hg⟩)
    (fun h hg => by
      obtain ⟨l, rest, s, l', rfl, hst, rfl, rfl⟩ := h
      have := PF.call _ _ _ _ _ hst hg.2.1
      exact ⟨⟨hg.1, PF.good_call _ _ _ _ _ hst hg.2.1, hg.2.2⟩, by simp only [fω, fρ]; omega⟩)

theorem Pot.flatPlug_enter (i : In Int) :
    (Pot.flatPlug initOf PO PI PF W hdO hdI hsO huO hsI huI hW hgI).ω ((Cb.flatPlug Mo Mi initOf).enter i) =
      PF.ω ((Flatten.machine Int).enter i) := by
  cases i <;> rfl

end Potential

end Network

section FlatHead
variable {So Lo Si Li αo αi : Type} {Mo : Machine So Lo αo Int} {Mi : Machine Si Li αi Int}

/-- the inner sources: a potential (for every cost of the sink) that works from every initial state `initOf a`, whose state part is
bounded there by `w g d f` -/
def HeadPotW (M : Machine Si Li αi Int) (initOf : Int → Si) : Prop :=
  ∃ (fs : Nat → Nat → Nat) (fp : Nat → Nat) (fu : Nat) (w : Nat → Nat → Nat → Nat), ∀ g d f : Nat,
    ∃ P : Pot M ((⟨0, 0, 0, g, d, f, 0⟩ : Costs).of (β := Int)),
      (∀ a, P.good (initOf a)) ∧ P.UpLe (fs g f) (fp f) fu ∧ ∀ a, P.Ψ (initOf a) ≤ w g d f

theorem HeadPot.flat (initOf : Int → Si) (hO : HeadPot Mo) (hI : HeadPotW Mi initOf) : HeadPot (Cb.flatPlug Mo Mi initOf) := by
  obtain ⟨fsO, fpO, fuO, hO⟩ := hO
  obtain ⟨fsI, fpI, fuI, wI, hI⟩ := hI
  refine ⟨fun g f => fsO (g + 4) (f + fuO + fuI + 5) + 3,
    fun f => fpO (f + fuO + fuI + 5) + fpI (f + fpO (f + fuO + fuI + 5) + fuO + 5) + 4, fuO + fuO + fuI + 6, fun g d f => ?_⟩
  obtain ⟨fO, hfO⟩ : ∃ fO, fO = f + fuO + fuI + 5 := ⟨_, rfl⟩
  obtain ⟨pullO, hpullO⟩ : ∃ x, x = fpO fO := ⟨_, rfl⟩
  obtain ⟨fI, hfI⟩ : ∃ x, x = f + pullO + fuO + 5 := ⟨_, rfl⟩
  obtain ⟨pullI, hpullI⟩ : ∃ x, x = fpI fI := ⟨_, rfl⟩
  obtain ⟨gI, hgI'⟩ : ∃ x, x = pullO + pullI + 4 := ⟨_, rfl⟩
  obtain ⟨W, hW'⟩ : ∃ x, x = wI gI (d + 3) fI := ⟨_, rfl⟩
  obtain ⟨subI, hsubI⟩ : ∃ x, x = fsI gI fI + W := ⟨_, rfl⟩
  obtain ⟨subO, hsubO⟩ : ∃ x, x = fsO (g + 4) fO := ⟨_, rfl⟩
  obtain ⟨PO, gPO, uO⟩ := hO (g + 4) (subO + subI + fuO + fuI + 5) fO
  obtain ⟨PI, gPI, uI, wPI⟩ := hI gI (d + 3) fI
  let cO : Costs := ⟨subO, pullO, fuO, 0, 0, 0, 0⟩
  let cI : Costs := ⟨subI, pullI, fuI, 0, 0, 0, 0⟩
  let c : Costs := ⟨0, 0, 0, g, d, f, 0⟩
  have hdO : (Flatten.pot cO cI c).DownLeAt 0 (g + 4) (subO + subI + fuO + fuI + 5) fO := by
    have h0 := Flatten.pot_downLeAt0 cO cI c
    exact ⟨h0.greet, h0.data, Nat.le_trans h0.term (Nat.le_of_eq hfO.symm), fun x => Nat.le_trans (h0.err x) (Nat.le_of_eq hfO.symm)⟩
  have hdI : ∀ j, (Flatten.pot cO cI c).DownLeAt (j + 1) gI (d + 3) fI := by
    intro j
    have h0 := Flatten.pot_downLeAtS cO cI c j
    exact ⟨Nat.le_trans h0.greet (Nat.le_of_eq hgI'.symm), h0.data, Nat.le_trans h0.term (Nat.le_of_eq hfI.symm),
      fun x => Nat.le_trans (h0.err x) (Nat.le_of_eq hfI.symm)⟩
  have huO : ∀ u, PO.ω (Mo.enter (.sinkUp 0 u)) ≤ costF cO cI c (.srcUp 0 u) := by
    intro u
    cases u with
    | pull => exact Nat.le_trans uO.pull (Nat.le_of_eq hpullO.symm)
    | term => exact uO.uterm
    | err x => exact uO.uerr x
  have huI : ∀ j u, PI.ω (Mi.enter (.sinkUp 0 u)) ≤ costF cO cI c (.srcUp (j + 1) u) := by
    intro j u
    cases u with
    | pull => exact Nat.le_trans uI.pull (Nat.le_of_eq hpullI.symm)
    | term => exact uI.uterm
    | err x => exact uI.uerr x
  have hsO : PO.ω (Mo.enter (.subscribe 0)) ≤ costF cO cI c (.subSrc 0) := by
    exact Nat.le_trans uO.sub (Nat.le_of_eq hsubO.symm)
  have hsI : ∀ j, PI.ω (Mi.enter (.subscribe 0)) + W ≤ costF cO cI c (.subSrc (j + 1)) := by
    intro j; exact Nat.le_trans (Nat.add_le_add_right uI.sub _) (Nat.le_of_eq hsubI.symm)
  have hWa : ∀ a, PI.Ψ (initOf a) ≤ W := fun a => Nat.le_trans (wPI a) (Nat.le_of_eq hW'.symm)
  obtain ⟨P, hP, gP⟩ : ∃ P : Pot (Cb.flatPlug Mo Mi initOf) (costF cO cI c),
      (∀ i, P.ω ((Cb.flatPlug Mo Mi initOf).enter i) = (Flatten.pot cO cI c).ω ((Flatten.machine Int).enter i)) ∧
      P.good (Cb.flatPlug Mo Mi initOf).init :=
    ⟨Pot.flatPlug initOf PO PI (Flatten.pot cO cI c) W hdO hdI hsO huO hsI huI hWa gPI,
      fun i => Pot.flatPlug_enter initOf PO PI _ W hdO hdI hsO huO hsI huI hWa gPI i,
      ⟨gPO, trivial, fun p hp => by cases hp⟩⟩
  have hle : ∀ o : Out Int, c.of o ≤ costF cO cI c o := by
    intro o
    cases o with
    | subSrc i => simp [Costs.of, c]
    | srcUp i u => cases u <;> simp [Costs.of, c]
    | greet k => simp [costF]
    | down k d' => simp [costF]
    | app b => simp [costF]
  exact ⟨_, gP, (((Flatten.pot_upLe cO cI c).congr hP).mono (Nat.le_of_eq (by simp only [cO, hsubO, hfO]))
    (Nat.le_of_eq (by simp only [cO, cI, hpullO, hpullI, hfI, hfO])) (Nat.le_refl _)).weaken hle⟩

theorem HeadPotW.fromIter {ι : Type} (α' : Type) (next : ι → Option (Int × ι)) (it0 : ι) (len : ι → Nat)
    (hlen : ∀ it a it', next it = some (a, it') → len it' < len it) (initOf : Int → FromIter.St ι Int) (k : Nat)
    (hk : ∀ a, len (initOf a).it ≤ k) : HeadPotW (FromIter.machine α' next it0) initOf :=
  ⟨fun g _ => g + 3, fun f => f + 13, 3, fun _ d _ => (d + 6) * k, fun g d f =>
    ⟨FromIter.pot α' next it0 len hlen ⟨0, 0, 0, g, d, f, 0⟩, fun _ => trivial,
      FromIter.pot_upLe α' next it0 len hlen ⟨0, 0, 0, g, d, f, 0⟩, fun a => Nat.mul_le_mul_left _ (hk a)⟩⟩

end FlatHead

end ComposeTerm
end Cb

#print axioms Cb.ComposeTerm.Flatten.pot
#print axioms Cb.ComposeTerm.Pot.flatPlug
#print axioms Cb.ComposeTerm.HeadPot.flat
#print axioms Cb.ComposeTerm.HeadPotW.fromIter
