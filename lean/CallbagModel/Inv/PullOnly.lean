import CallbagModel.Inv.ComposeComplete
/-!
# `PullOnly`: sources that deliver data only in answer to a `Pull`

`PullOnly M`: at every reachable configuration of `M`, every datum delivered to sink 0 was preceded by an unserved `Pull` of sink 0
(`POk (sinkEvs s.tr)`).  This is what `flatten(map(g)(outer))` needs of its OUTER source (`Inv/FlatPlugFun.lean`): flatten switches on
every outer datum, so an outer datum that answers no `Pull` of flatten cuts the current inner source short (the execution in the header
of `Inv/FlatPlugFun.lean`).
`POk` and its source-side twin `POkSrc j` are instances of `Before` (`Inv/Views.lean`; `pOk_iff`, `pOkSrc_iff`): that is how they pass along
the views `dualJ j` and `srcEq j`, hence across a wire (`Ifc.pOk`; `ConcatN.Ifc` of `Inv/ComposeSafe.lean`).

`from_iter` is `PullOnly`; the relays and `take` pass it on (`StagePull`).  A delivery of data is the last step of a macro step
(`pOk_reach`, then `Lands.call_cases`), and the turn before that step knows through the demand flags that the sink's `Pull`
is unserved (`FromIter.Dm`, `Relay.pull_back`, `Take.Dm`).

NOT `PullOnly` in general: `concat!` (its second member is pulled when the first ends, whether or not a `Pull` is outstanding), and
`flatten` itself (see `Inv/FlatPlugFun.lean`).
-/
namespace Cb
namespace FlatPlugFun
open ComposeSafe ComposeFun ComposeComplete PlugSafe PlugConcat

section PullOnlyDefs
variable {St Loc α β : Type}

def isData0 {β : Type} : SinkEv β → Bool
  | .down k (.data _) => k == 0
  | _ => false

def isDataJ {α : Type} (j : Nat) : SrcEv α → Bool
  | .down i (.data _) => i == j
  | _ => false

/-- every datum delivered to sink 0 was preceded by an unserved `Pull` of sink 0 (events newest first) -/
def POk {β : Type} : List (SinkEv β) → Prop
  | [] => True
  | e :: t => (isData0 e = true → lastPull 0 t = true) ∧ POk t

def POkSrc {α : Type} (j : Nat) : List (SrcEv α) → Prop
  | [] => True
  | e :: t => (isDataJ j e = true → lastPullSrc j t = true) ∧ POkSrc j t

def PullOnly (M : Machine St Loc α β) : Prop := ∀ s, SReach M s → POk (sinkEvs s.tr)

def StagePull (M : Machine St Loc α β) : Prop := ∀ s, SReach M s → POkSrc 0 (srcEvs s.tr) → POk (sinkEvs s.tr)

theorem POkSrc.tail {α : Type} {j : Nat} {e : SrcEv α} {t : List (SrcEv α)} (h : POkSrc j (e :: t)) : POkSrc j t := h.2

theorem pOk_cons {α β : Type} (e : Ev α β) (tr : List (Ev α β)) :
    POk (sinkEvs (e :: tr)) ↔ (∀ x, e = .out (.down 0 (.data x)) → aP tr = true) ∧ POk (sinkEvs tr) := by
  cases e with
  | inp i => cases i <;> simp [POk, sinkEvs, sinkEv, isData0]
  | out o =>
    cases o with
    | down k d => cases d <;> simp [POk, sinkEvs, sinkEv, isData0, aP]
    | _ => simp [POk, sinkEvs, sinkEv, isData0]
  | _ => simp [sinkEvs, sinkEv]

theorem pOkSrc_cons {α β : Type} (e : Ev α β) (tr : List (Ev α β)) :
    POkSrc 0 (srcEvs (e :: tr)) ↔ (∀ x, e = .inp (.srcDown 0 (.data x)) → bP tr = true) ∧ POkSrc 0 (srcEvs tr) := by
  cases e with
  | inp i =>
    cases i with
    | srcDown k d => cases d <;> simp [POkSrc, srcEvs, srcEv, isDataJ, bP]
    | _ => simp [POkSrc, srcEvs, srcEv, isDataJ]
  | out o => cases o <;> simp [POkSrc, srcEvs, srcEv, isDataJ]
  | _ => simp [srcEvs, srcEv]

theorem of_consOpt {X : Type} {P : List X → Prop} (hP : ∀ x t, P (x :: t) → P t) {o : Option X} {t : List X} (h : P (consOpt o t)) :
    P t := by
  cases o with
  | none => exact h
  | some x => exact hP x t h

theorem pOkSrc_tail_ev {α β : Type} {j : Nat} {e : Ev α β} {tr : List (Ev α β)} (h : POkSrc j (srcEvs (e :: tr))) :
    POkSrc j (srcEvs tr) :=
  of_consOpt (P := POkSrc j) (o := srcEv e) (fun _ _ h => h.2) h

/-- small-step scheme: data is sent to sink 0 only from configurations with an unserved `Pull` -/
theorem pOk_reach (M : Machine St Loc α β) (A : List (Ev α β) → Prop) (hA : ∀ e tr, A (e :: tr) → A tr)
    (h : ∀ st l stk g tr x s' l', SReach M ⟨st, .run l :: stk, g, tr, none⟩ → M.step st l = .call (.down 0 (.data x)) s' l' →
      A tr → aP tr = true) :
    ∀ s, SReach M s → A s.tr → POk (sinkEvs s.tr) :=
  reach_calls M A (fun tr => POk (sinkEvs tr)) hA trivial
    (fun e tr he ih => (pOk_cons e tr).2 ⟨fun x hx => absurd hx (he _), ih⟩)
    (fun st l stk g tr o s' l' ha hst hC ih => (pOk_cons _ tr).2 ⟨fun x ho => by cases ho; exact h st l stk g tr x s' l' ha hst hC, ih⟩)

theorem pOk_iff {β : Type} (l : List (SinkEv β)) : POk l ↔ Before (isData0 · = true) (lastPull 0 · = true) l :=
  Before.iff_of_rec trivial (fun _ _ => Iff.rfl) l

theorem pOkSrc_iff {α : Type} (j : Nat) (l : List (SrcEv α)) :
    POkSrc j l ↔ Before (isDataJ j · = true) (lastPullSrc j · = true) l :=
  Before.iff_of_rec trivial (fun _ _ => Iff.rfl) l

theorem isDataJ_dual1 {β : Type} {j : Nat} {e : SinkEv β} {y : SrcEv β} (h : dual1 j e = some y) : isDataJ j y = isData0 e := by
  cases e with
  | down k d => cases k <;> cases h; cases d <;> first | exact beq_self_eq_true j | rfl
  | app b => cases h
  | _ k => cases k <;> cases h <;> rfl

theorem srcIdx_of_isDataJ {α : Type} {j : Nat} {e : SrcEv α} (h : isDataJ j e = true) : (srcIdx e == j) = true := by
  cases e with
  | down i d => cases d <;> first | exact h | cases h
  | _ => cases h

theorem pOkSrc_dualJ {β : Type} (j : Nat) (l : List (SinkEv β)) (h : POk l) : POkSrc j (dualJ j l) :=
  (pOkSrc_iff j _).2 (((pOk_iff l).1 h).view (dualJ_eq j) (fun _ _ he hy => isDataJ_dual1 he ▸ hy)
    fun t ht => lastPull_dualJ j t ▸ ht)

theorem pOkSrc_of_srcEq {α : Type} (j : Nat) (l : List (SrcEv α)) (h : POkSrc j (srcEq j l)) : POkSrc j l :=
  (pOkSrc_iff j l).2 (((pOkSrc_iff j _).1 h).of_view (srcEq_eq j) (fun e he => ⟨e, Option.guard_pos (srcIdx_of_isDataJ he), he⟩)
    fun t ht => lastPullSrc_srcEq j t ▸ ht)

theorem _root_.Cb.ConcatN.Ifc.pOk {SA LA αA β S L γ : Type} {k : Nat} {sA : Sys SA LA αA β} {sC : Sys S L β γ} (h : ConcatN.Ifc k sA sC)
    (hA : POk (sinkEvs sA.tr)) : POkSrc k (srcEvs sC.tr) := by
  apply pOkSrc_of_srcEq; rw [h.evs]; exact pOkSrc_dualJ k _ hA

theorem PullOnly.compose {S1 L1 S2 L2 α β γ : Type} {M1 : Machine S1 L1 α β} {M2 : Machine S2 L2 β γ}
    (h1 : PullOnly M1) (h2 : StagePull M2) (H : Hyp M1 M2) : PullOnly (Cb.compose M1 M2) := by
  intro s hs
  obtain ⟨s1, s2, hr1, hr2, hm, htr⟩ := compose_inv_tr H s hs
  exact htr.sink ▸ h2 s2 hr2 ((hm.ifc htr).pOk (h1 s1 hr1))

end PullOnlyDefs

theorem FromIter.pullOnly {ι α α' : Type} (next : ι → Option (α × ι)) (it0 : ι) : PullOnly (FromIter.machine α' next it0) :=
  fun s hs => pOk_reach (FromIter.machine α' next it0) (fun _ => True) (fun _ _ _ => trivial)
    (fun _ _ _ _ _ _ _ _ ha hst _ => FromIter.down_pulled ha hst) s hs trivial

/-- at a turn of a relay whose upstream delivers only when pulled, the upstream owes an answer only while the sink has an unserved
`Pull` -/
theorem Relay.pull_back {σ α β : Type} (k : Relay.Kind σ α β) (hk : k.slotted = false → ∀ s a, (k.xfer s a).2 ≠ none)
    {s : Sys (Relay.St σ) (Relay.Loc α β) α β} (hs : SReach (Relay.machine k) s) (ht : EnvTurn s) :
    POkSrc 0 (srcEvs s.tr) → bP s.tr = true → aP s.tr = true :=
  (Lands.at_turn anyEnv (fun s => POkSrc 0 (srcEvs s.tr) → bP s.tr = true → aP s.tr = true) (Relay.inv_init k) (fun _ => nofun)
    (fun s h => (Relay.inv_turn k s h).1) (Relay.macro_step k hk) (fun s m st r _ _ h _ hm _ _ => by
      have keep := fun (a b : Ev α β) (hA : POkSrc 0 (srcEvs (b :: a :: s.tr))) => h (pOkSrc_tail_ev (pOkSrc_tail_ev hA))
      cases hm with
      | subscribe | greet | ret => exact keep _ _
      | sinkUp u _ =>
        cases u with
        | pull => exact fun _ _ => rfl
        | term | err e => exact keep _ _
      | dataSome a b _ _ | term _ | err e _ => exact fun _ => nofun
      -- the item is dropped and the relay pulls again: the datum answered a `Pull`, which the relay had sent for its sink
      | dataNone a _ _ => exact fun hA _ => keep _ _ hA (((pOkSrc_cons _ _).1 (pOkSrc_tail_ev hA)).1 a rfl)) hs ht).2

theorem Relay.stagePull {σ α β : Type} (k : Relay.Kind σ α β) (hk : k.slotted = false → ∀ s a, (k.xfer s a).2 ≠ none) :
    StagePull (Relay.machine k) :=
  pOk_reach (Relay.machine k) (fun tr => POkSrc 0 (srcEvs tr)) (fun _ _ => pOkSrc_tail_ev)
    fun st l stk g tr x s' l' ha hst hA => by
      obtain ⟨s, d', hs, ht, rfl, _, hd⟩ := Relay.down_cases k hk ha hst
      obtain ⟨a, rfl⟩ := hd x rfl
      obtain ⟨hb, hA'⟩ := (pOkSrc_cons _ _).1 hA
      exact Relay.pull_back k hk hs ht hA' (hb a rfl)

theorem Take.stagePull {α : Type} (max : Nat) : StagePull (Take.machine α max) :=
  pOk_reach (Take.machine α max) (fun tr => POkSrc 0 (srcEvs tr)) (fun _ _ => pOkSrc_tail_ev)
    fun st l stk g tr x s' l' ha hst hA => by
      obtain ⟨s, m, hs, hi, -, hmac, heq⟩ :=
        Lands.call_cases (Take.inv_init max) (fun s h => (Take.inv_turn max s h).1) (Take.macro_step max) ha hst
      -- the only macro step that ends in a delivery of data: a datum arrives while the upstream is live
      cases hmac with
      | srcEnd d hd _ => cases hd
      | dataTake a _ hl _ =>
        obtain rfl : .inp (.srcDown 0 (.data x)) :: s.tr = tr := (List.cons.inj (congrArg Sys.tr heq)).2
        exact (Take.dm_of_turn max hs (Take.inv_turn max s hi).1).back (hi.2.2.2.2.2.fin_of_live hl)
          (((pOkSrc_cons _ _).1 hA).1 x rfl)

/-! Abbreviations that refute an impossible step of `FromIter.step` / `Relay.step` / `Take.step` by unfolding it; no proof here calls them. -/

namespace FromIterP

macro "fstp" h:ident : tactic =>
  `(tactic| first
      | (simp [FromIter.machine, FromIter.step] at $h:ident; done)
      | (simp [FromIter.machine, FromIter.step] at $h:ident; split at $h:ident <;> simp at $h:ident; done)
      | (simp [FromIter.machine, FromIter.step] at $h:ident; split at $h:ident <;> (try split at $h:ident) <;> simp at $h:ident; done))

end FromIterP

namespace RelayP

macro "rnoway" h:ident : tactic =>
  `(tactic| first
      | (simp [Relay.machine, Relay.step] at $h:ident; done)
      | (simp [Relay.machine, Relay.step] at $h:ident; split at $h:ident <;> simp at $h:ident; done))

end RelayP

namespace TakeP

macro "tnoway" h:ident : tactic =>
  `(tactic| first
      | (simp [Take.machine, Take.step] at $h:ident; done)
      | (simp [Take.machine, Take.step] at $h:ident; split at $h:ident <;> simp at $h:ident; done))

end TakeP

end FlatPlugFun
end Cb

#print axioms Cb.FlatPlugFun.PullOnly.compose
#print axioms Cb.FlatPlugFun.FromIter.pullOnly
#print axioms Cb.FlatPlugFun.Relay.stagePull
#print axioms Cb.FlatPlugFun.Take.stagePull
