import CallbagModel.Inv.ComposeTerm
/-!
# Termination over an UNBOUNDED iterator: `take` stops the pipeline

`pipe!(from_iter(it), stages₁…, take(n), stages₂…, for_each(f))` for an ARBITRARY iterator `next : ι → Option (α × ι)` (possibly infinite),
the stages above `take` non-dropping (`map`, `scan`): potentials as in `Inv/ComposeTerm.lean`, with a different accounting:

* `FromIterI.pot` — LENGTH-FREE: an iteration of `from_iter`'s loop is paid for by the `Pull` that set `got_pull`
  (`Ψ = I` while `got_pull`, `I = c.data + c.fin + 10`); consuming `got_pull` (`w2`) releases `I`, which pays `next` and the delivery.
  The price: with this accounting the cost of a `Pull` contains the cost of a delivery (`I + 10`), so a stage that may answer a delivery with a
  `Pull` (`filter`, `skip`, `for_each`) directly below it would be circular — and `filter(|_| false)` over an unbounded source does diverge;
* `Relay.pot … 0` — a relay that never drops (`∀ s a, (k.xfer s a).2 ≠ none`): its data handler cannot re-pull, so the cost of a delivery
  to it does not contain the cost of a `Pull`;
* `TakeB.pot` (`Inv/ComposeTerm.lean`) — the cost of a delivery INTO `take` is the constant 4, whatever is below.  That breaks the circle:
  `HeadPotI.take : HeadPotI M → HeadPot (compose M (Take.machine β max))`, after which the `Pull` cost depends on the terminal cost only
  and everything of `Inv/ComposeTerm.lean` (further stages of any kind, `for_each`) applies unchanged.
-/
namespace Cb
namespace ComposeTerm

section Pots

/-- the potential of `from_iter`'s handlers at each location, by `got_pull` (`w1`, `w2`: whether the iteration is still to be paid for) and
by whether the iterator is exhausted (`w4`) -/
def FromIterI.ρ (c : Costs) (gotPull resDone : Bool) : FromIter.Loc → Nat
  | .done => 0
  | .sub0 => c.greet + 2
  | .t0 .pull => c.data + c.fin + 19
  | .t0 _ => 2
  | .t1 .pull => c.data + c.fin + 18
  | .t1 _ => 1
  | .pl1 => 7
  | .pl2 => 6
  | .l0 => 5
  | .w0 => 4
  | .w1 => if gotPull then 3 else c.data + c.fin + 15
  | .w2 => if gotPull then 2 else c.data + c.fin + 14
  | .w3 => c.data + c.fin + 11
  | .w4 => if resDone then c.fin + 3 else c.data + c.fin + 10
  | .lend => 1

def FromIterI.pot {ι α : Type} (α' : Type) (next : ι → Option (α × ι)) (it0 : ι) (c : Costs) :
    Pot (FromIter.machine α' next it0) (c.of (β := α)) :=
  .ofEdges (fun st l => (FromIter.edge α' next it0 st l).sat) (fun st => if st.gotPull then c.data + c.fin + 10 else 0)
    (fun st => FromIterI.ρ c st.gotPull st.resDone) (fun l => FromIterI.ρ c false false l + 1)
    (fun st l => by
      cases l with
      | t0 u => cases u <;> exact Nat.lt_succ_self _
      | t1 u => cases u <;> exact Nat.lt_succ_self _
      | w1 | w2 => simp only [FromIterI.ρ, Bool.false_eq_true, if_false]; split <;> omega
      | w4 => simp only [FromIterI.ρ, Bool.false_eq_true, if_false]; split <;> omega
      | _ => exact Nat.lt_succ_self _)
    (fun {st} _ _ _ h => by
      cases h with
      | t0 u _ => cases u <;> simp only [FromIterI.ρ] <;> omega
      | t1_stop u hu => cases u <;> simp_all [FromIterI.ρ] <;> split <;> omega
      | w1 _ | w1_completed _ | w2 => cases st.gotPull <;> simp [FromIterI.ρ] <;> omega
      | _ => simp only [FromIterI.ρ, *, Bool.false_eq_true, if_false, if_true] <;> omega)
    (fun h => by cases h <;> simp only [FromIterI.ρ, Costs.of, *, Bool.false_eq_true, if_false, if_true] <;> omega)

theorem FromIterI.pot_upLe {ι α : Type} (α' : Type) (next : ι → Option (α × ι)) (it0 : ι) (c : Costs) :
    (FromIterI.pot α' next it0 c).UpLe (c.greet + 3) (c.data + c.fin + 20) 3 :=
  ⟨Nat.le_refl _, Nat.le_refl _, Nat.le_refl _, fun _ => Nat.le_refl _⟩

end Pots

section HeadsI
variable {St Loc α β : Type}

/-- a closed head whose `Pull` cost depends on the cost of a delivery to its sink (`fp d f`): `from_iter` over any iterator, followed by
non-dropping relays -/
def HeadPotI (M : Machine St Loc α β) : Prop :=
  ∃ (fs : Nat → Nat → Nat) (fp : Nat → Nat → Nat) (fu : Nat), ∀ g d f : Nat,
    ∃ P : Pot M ((⟨0, 0, 0, g, d, f, 0⟩ : Costs).of (β := β)), P.good M.init ∧ P.UpLe (fs g f) (fp d f) fu

theorem HeadPotI.fromIter {ι α : Type} (α' : Type) (next : ι → Option (α × ι)) (it0 : ι) :
    HeadPotI (FromIter.machine α' next it0) :=
  ⟨fun g _ => g + 3, fun d f => d + f + 20, 3, fun g d f => ⟨FromIterI.pot α' next it0 ⟨0, 0, 0, g, d, f, 0⟩, trivial,
    FromIterI.pot_upLe α' next it0 ⟨0, 0, 0, g, d, f, 0⟩⟩⟩

theorem HeadPotI.relayND {σ γ : Type} {M : Machine St Loc α β} (h : HeadPotI M) (k : Relay.Kind σ β γ)
    (hk : ∀ s a, (k.xfer s a).2 ≠ none) : HeadPotI (Cb.compose M (Relay.machine k)) := by
  obtain ⟨fs, fp, fu, h⟩ := h
  refine ⟨fun g f => fs (g + 4) (f + 3) + 3, fun d f => fp (d + 4) (f + 3) + 3, fu + 3, fun g d f => ?_⟩
  obtain ⟨PA, hgA, hA⟩ := h (g + 4) (d + 4) (f + 3)
  exact ⟨PA.compose (Relay.pot k ⟨fs (g + 4) (f + 3), fp (d + 4) (f + 3), fu, g, d, f, 0⟩ 0 (.inr hk)) (Relay.pot_downLe k _ _ _) hA,
    ⟨hgA, trivial⟩, Pot.compose_upLe _ _ _ _ (Relay.pot_upLe k _ _ _)⟩

theorem HeadPotI.take {M : Machine St Loc α β} (h : HeadPotI M) (max : Nat) : HeadPot (Cb.compose M (Take.machine β max)) := by
  obtain ⟨fs, fp, fu, h⟩ := h
  exact headPot_take h max

end HeadsI

end ComposeTerm
end Cb

#print axioms Cb.ComposeTerm.FromIterI.pot
#print axioms Cb.ComposeTerm.HeadPotI.take
