import CallbagModel.Inv.Ghost2
import CallbagModel.Inv.Runs
import CallbagModel.Inv.Views
import CallbagModel.Ops.Take
/-!
# take: the phase-level safety invariant

The one continuation that carries an assumption is `d3 max` ("the n-th item has just been delivered; now complete"):
while it waits only the sink has control, its Pulls are not forwarded because `taken = max`, so the source cannot end
underneath it — which is why the sink is never terminated twice.

At the end, the demand flags of `take` at a turn (`Dm`; `aP`, `bP` of `Inv/Views.lean`), a layer over `macro_step`.
-/
namespace Cb.Take
open ComposeComplete

variable {α : Type}

/-- continuations that may sit below the top of the stack -/
def Benign (taken : Nat) : Frame (Loc α) α → Prop
  | .wait _ .done => True
  | .wait _ (.d3 t) => 0 < t ∧ t ≤ taken
  | _ => False

inductive Mode (max : Nat) (st : St) (g : Ph) (stk : List (Frame (Loc α) α)) : Prop where
  | m1 : g.sinkPh 0 = .idle → g.srcPh 0 = .idle → stk = [] → st.tb = false → st.taken = 0 → st.fin = false → Mode max st g stk
  | m2 : g.sinkPh 0 = .subscribed → g.srcPh 0 = .subscribed → st.tb = false → st.taken = 0 → st.fin = false →
         stk = [.wait (.subSrc 0) .done] → Mode max st g stk
  /-- both sides live; if `max` items have been taken, the delivery of the last is still open -/
  | m3 : g.sinkPh 0 = .live → g.srcPh 0 = .live → st.tb = true → st.fin = false →
         (0 < st.taken → st.taken = max → ∃ a rest, stk = .wait (.down 0 (.data a)) (.d3 max) :: rest) →
         (∀ f ∈ stk, Benign st.taken f) → Mode max st g stk
  | m4 : g.sinkPh 0 = .doneBySelf → g.srcPh 0 = .disposed → st.fin = true →
         (∀ f ∈ stk, Benign st.taken f) → Mode max st g stk
  | m5 : g.sinkPh 0 = .doneBySrc → g.srcPh 0 = .ended → ¬ (0 < st.taken ∧ st.taken = max) →
         (∀ f ∈ stk, Benign st.taken f) → Mode max st g stk
  /-- take is telling upstream to stop (`d6` waits on top); the sink is completed next -/
  | m6 : g.sinkPh 0 = .live → g.srcPh 0 = .disposed → st.fin = true → st.tb = true →
         (∃ rest, stk = .wait (.srcUp 0 .term) .d6 :: rest ∧ ∀ f ∈ rest, Benign st.taken f) → st.taken = max → Mode max st g stk
  /-- take has stopped upstream and completed the sink by itself -/
  | m7 : g.sinkPh 0 = .doneBySrc → g.srcPh 0 = .disposed → st.fin = true →
         (∀ f ∈ stk, Benign st.taken f) → st.taken = max → Mode max st g stk

def Inv (max : Nat) (s : Sys St (Loc α) α α) : Prop :=
  s.panicked = none ∧ s.g.ph.viols = [] ∧ s.st.taken ≤ max ∧
  (∀ i, i ≠ 0 → s.g.ph.srcPh i = .idle) ∧ (∀ k, k ≠ 0 → s.g.ph.sinkPh k = .idle) ∧
  Mode max s.st s.g.ph s.stack

theorem inv_turn (max : Nat) (s : Sys St (Loc α) α α) (h : Inv max s) : EnvTurn s ∧ BasicSafe s := by
  obtain ⟨hp, hb, _, _, _, hm⟩ := h
  refine ⟨⟨hp, ?_⟩, hb, hp⟩
  cases hm with
  | m1 _ _ h => simp [h, ctxOf]
  | m2 _ _ _ _ _ h => simp [h, ctxOf]
  | m3 _ _ _ _ _ h => exact ctx_isSome_of_waits (fun _ => id) h
  | m4 _ _ _ h => exact ctx_isSome_of_waits (fun _ => id) h
  | m5 _ _ _ h => exact ctx_isSome_of_waits (fun _ => id) h
  | m6 _ _ _ _ h => obtain ⟨_, h, _⟩ := h; simp [h, ctxOf]
  | m7 _ _ _ h => exact ctx_isSome_of_waits (fun _ => id) h

theorem Mode.live_top {max : Nat} {st : St} {g : Ph} (hm : Mode (α := α) max st g [])
    (hl : g.sinkPh 0 = .live) : g.srcPh 0 = .live ∧ ¬ (0 < st.taken ∧ st.taken = max) := by
  cases hm with
  | m3 _ h2 _ _ h5 => exact ⟨h2, fun ⟨h, h'⟩ => let ⟨_, _, he⟩ := h5 h h'; nomatch he⟩
  | m6 _ _ _ _ h5 => exact let ⟨_, he, _⟩ := h5; nomatch he
  | m1 h1 | m2 h1 | m4 h1 | m5 h1 | m7 h1 => exact nomatch h1.symm.trans hl

theorem Mode.final {max : Nat} {st : St} {g : Ph} {stk : List (Frame (Loc α) α)}
    (hm : Mode max st g stk) (hd : g.sinkPh 0 = .doneBySrc) : g.srcPh 0 = .ended ∨ st.taken = max := by
  cases hm with
  | m5 _ h2 => exact .inl h2
  | m7 _ _ _ _ h => exact .inr h
  | m1 h1 | m2 h1 | m3 h1 | m4 h1 | m6 h1 => exact nomatch h1.symm.trans hd

theorem Mode.fin_of_live {max : Nat} {st : St} {g : Ph} {stk : List (Frame (Loc α) α)}
    (hm : Mode max st g stk) (hl : g.srcPh 0 = .live) : st.fin = false := by
  cases hm with
  | m3 _ _ _ h => exact h
  | m1 _ h | m2 _ h | m4 _ h | m5 _ h | m6 _ h | m7 _ h => exact nomatch h.symm.trans hl

theorem Mode.of_subscribed {max : Nat} {st : St} {g : Ph} {stk : List (Frame (Loc α) α)}
    (hm : Mode max st g stk) (h : g.sinkPh 0 = .subscribed ∨ g.srcPh 0 = .subscribed) :
    g.sinkPh 0 = .subscribed ∧ g.srcPh 0 = .subscribed ∧ st.tb = false ∧ st.taken = 0 ∧ st.fin = false ∧
      stk = [.wait (.subSrc 0) .done] := by
  cases hm with
  | m2 h1 h2 h3 h4 h5 h6 => exact ⟨h1, h2, h3, h4, h5, h6⟩
  | m1 h1 h2 | m3 h1 h2 | m4 h1 h2 | m5 h1 h2 | m6 h1 h2 | m7 h1 h2 => rw [h1, h2] at h; rcases h with h | h <;> cases h

theorem benign_mono {t t' : Nat} {f : Frame (Loc α) α} (h : Benign t f) (hle : t ≤ t') : Benign t' f := by
  cases f with
  | run l => exact h
  | wait o l => cases l <;> simp_all [Benign] <;> omega

/-- the stack top is not take's own completion in progress -/
def NotStopping (stk : List (Frame (Loc α) α)) : Prop := ∀ rest, stk ≠ .wait (.srcUp 0 .term) .d6 :: rest

theorem notStopping_of_benign {taken : Nat} {stk : List (Frame (Loc α) α)} (h : ∀ f ∈ stk, Benign taken f) : NotStopping stk := by
  intro rest he
  have := h _ (by rw [he]; exact List.mem_cons_self)
  simp [Benign] at this

theorem notStopping_of_legal {sh : Shape} {g : Ph} {stk : List (Frame (Loc α) α)} {c : Ctx α} {i : In α}
    (hc : ctxOf stk = some c) (hl : legalIn sh g c i = true) : NotStopping stk := by
  intro rest he
  subst he
  cases hc
  cases i <;> simp [legalIn, isTop, inGreet, inData, inSub, inPull] at hl

section step
variable {max j t : Nat} {tb fin : Bool} {a : α}

theorem step_p0_lt (h : j < max) : (machine α max).step ⟨j, tb, fin⟩ .p0 = .tau ⟨j, tb, fin⟩ .p1 := by
  simp only [machine, step, if_pos h]

theorem step_p0_ge (h : ¬ j < max) : (machine α max).step ⟨j, tb, fin⟩ .p0 = .ret := by
  simp only [machine, step, if_neg h]

theorem step_d0_lt (h : j < max) : (machine α max).step ⟨j, tb, fin⟩ (.d0 a) = .tau ⟨j + 1, tb, fin⟩ (.d2 a (j + 1)) := by
  simp only [machine, step, if_pos h, if_true]

theorem step_d3_eq (st : St) : (machine α max).step st (.d3 max) = .tau st .d3b := by
  simp only [machine, step, if_true]

theorem step_d3_ne (h : t ≠ max) (st : St) : (machine α max).step st (.d3 t) = .ret := by
  simp only [machine, step, if_neg h]

end step

section run
variable {max : Nat} {st : St}

theorem run_subscribe : Runs (machine α max) st .sub0 st (some (.subSrc 0, .done)) := .call rfl

theorem run_pull_lt (hlt : st.taken < max) (htb : st.tb = true) :
    Runs (machine α max) st .p0 st (some (.srcUp 0 .pull, .done)) :=
  .tau (if_pos hlt) (.call (if_pos htb))

theorem run_pull_ge (hge : ¬ st.taken < max) : Runs (machine α max) st .p0 st none := .ret (if_neg hge)

theorem run_sinkEnd (u : Up) (htb : st.tb = true) :
    Runs (machine α max) st (.x0 u) { st with fin := true } (some (.srcUp 0 u, .done)) :=
  .tau rfl (.call (if_pos htb))

theorem run_greet : Runs (machine α max) st .greet0 { st with tb := true } (some (.greet 0, .done)) := .tau rfl (.call rfl)

theorem run_data_lt (a : α) (hlt : st.taken < max) :
    Runs (machine α max) st (.d0 a) { st with taken := st.taken + 1 } (some (.down 0 (.data a), .d3 (st.taken + 1))) :=
  .tau (if_pos hlt) (.call rfl)

theorem run_data_ge (a : α) (hge : ¬ st.taken < max) : Runs (machine α max) st (.d0 a) st none := .ret (if_neg hge)

theorem run_fwd (d : Down α) : Runs (machine α max) st (.fwd d) st (some (.down 0 d, .done)) := .call rfl

theorem run_resume {o : Out α} {l : Loc α} (hben : Benign st.taken (.wait o l)) (hq : l = .d3 max → st.fin = true) :
    Runs (machine α max) st l st none := by
  cases l with
  | done => exact .ret rfl
  | d3 t =>
    by_cases ht : t = max
    · subst ht; exact .tau (if_pos rfl) (.ret (if_pos (hq rfl)))
    · exact .ret (if_neg ht)
  | _ => exact hben.elim

theorem run_d3_max (hf : st.fin = false) (htb : st.tb = true) :
    Runs (machine α max) st (.d3 max) { st with fin := true } (some (.srcUp 0 .term, .d6)) :=
  .tau (if_pos rfl) (.tau (if_neg (Bool.eq_false_iff.1 hf)) (.tau rfl (.call (if_pos htb))))

theorem run_d6 : Runs (machine α max) st .d6 st (some (.down 0 .term, .done)) := .call rfl

end run

/-- The macro steps from `s`: the move of the environment, and the state in which take's run ends together with the call it
ends with (`none`: it returns).  `s.next` makes the configuration at the next environment turn of these.  The hypotheses are
what the proofs about traces need to know of `s`. -/
inductive Macro (max : Nat) (s : Sys St (Loc α) α α) : Move α → St → Option (Out α × Loc α) → Prop where
  | subscribe : NotStopping s.stack → Macro max s (.call (.subscribe 0)) s.st (some (.subSrc 0, .done))
  | pullFwd : NotStopping s.stack → s.g.ph.srcPh 0 = .live → s.st.taken < max →
      Macro max s (.call (.sinkUp 0 .pull)) s.st (some (.srcUp 0 .pull, .done))
  | pullDrop : NotStopping s.stack → s.g.ph.srcPh 0 = .live → ¬ s.st.taken < max → Macro max s (.call (.sinkUp 0 .pull)) s.st none
  | sinkEnd (u : Up) : u ≠ .pull → NotStopping s.stack →
      Macro max s (.call (.sinkUp 0 u)) { s.st with fin := true } (some (.srcUp 0 u, .done))
  | greet : NotStopping s.stack → Macro max s (.call (.srcGreet 0)) { s.st with tb := true } (some (.greet 0, .done))
  | dataTake (a : α) : NotStopping s.stack → s.g.ph.srcPh 0 = .live → s.st.taken < max →
      Macro max s (.call (.srcDown 0 (.data a))) { s.st with taken := s.st.taken + 1 }
        (some (.down 0 (.data a), .d3 (s.st.taken + 1)))
  | dataDrop (a : α) : NotStopping s.stack → ¬ s.st.taken < max → Macro max s (.call (.srcDown 0 (.data a))) s.st none
  | srcEnd (d : Down α) : isFinal d = true → NotStopping s.stack →
      Macro max s (.call (.srcDown 0 d)) s.st (some (.down 0 d, .done))
  /-- a continuation with nothing left to do is resumed -/
  | ret : NotStopping s.stack → Macro max s .ret s.st none
  /-- the delivery of the `max`-th datum returns: take tells upstream to stop -/
  | selfTerm : NotStopping s.stack → s.st.taken = max →
      Macro max s .ret { s.st with fin := true } (some (.srcUp 0 .term, .d6))
  /-- upstream has returned from that `Terminate`: take completes the sink -/
  | selfDone : s.st.fin = true → Macro max s .ret s.st (some (.down 0 .term, .done))

/-- The configuration comes as an equation: its proof `rfl` computes `s.next` before `hg` is matched against its ghost (matched
first, the unifier would unfold the monitor). -/
theorem lands {max : Nat} {g g' : G} {t : Sys St (Loc α) α α} {st : St} {stk : List (Frame (Loc α) α)} {tr : List (Ev α α)}
    {p : SinkPh} {q : SrcPh} (ht : t = ⟨st, stk, g', tr, none⟩) (hg : PassTo g g' p q) (hle : st.taken ≤ max)
    (hm : g'.ph.sinkPh 0 = p → g'.ph.srcPh 0 = q → Mode max st g'.ph stk) : Inv max t ∧ (XOkRelay g → XOkRelay t.g) :=
  ht ▸ ⟨⟨rfl, hg.single.viols, hle, hg.single.srcs, hg.single.sinks, hm hg.sink hg.src⟩, hg.xok⟩

theorem cons_done {t : Nat} {o : Out α} {stk : List (Frame (Loc α) α)} (h : ∀ f ∈ stk, Benign t f) :
    ∀ f ∈ Frame.wait o .done :: stk, Benign t f :=
  List.forall_mem_cons.2 ⟨trivial, h⟩

theorem resume_step {max : Nat} {st : St} {stk : List (Frame (Loc α) α)} {g : G} {tr : List (Ev α α)} {o : Out α} {l : Loc α}
    {p : SinkPh} {q : SrcPh} (hS : Single g.ph) (hle : st.taken ≤ max) (h1 : g.ph.sinkPh 0 = p) (h2 : g.ph.srcPh 0 = q)
    (h6 : ∀ f ∈ Frame.wait o l :: stk, Benign st.taken f) (hfin : l = .d3 max → st.fin = true)
    (hm : (∀ f ∈ stk, Benign st.taken f) → Mode max st g.ph stk) :
    Lands (machine α max) (Macro max) (Inv max) XOkRelay ⟨st, .wait o l :: stk, g, tr, none⟩
      ⟨st, .run l :: stk, g, .retE :: tr, none⟩ .ret :=
  ⟨_, _, .ret (notStopping_of_benign h6), run_resume (h6 _ List.mem_cons_self) hfin _ _ _,
    lands rfl ((hS.refl h1 h2).onRetO _) hle fun _ _ => by rw [onRetO_ph]; exact hm (List.forall_mem_cons.1 h6).2⟩

theorem macro_step (max : Nat) {s s' : Sys St (Loc α) α α} {m : Move α} (h : Inv max s) (hs : EnvStep (machine α max) m s s') :
    Lands (machine α max) (Macro max) (Inv max) XOkRelay s s' m := by
  obtain ⟨_, hb, hle, hoth, hoths, hm⟩ := h
  cases hs with
  | @call st stk g tr c i hc hl =>
    simp only at hb hle hoth hoths hm
    have hS : Single g.ph := ⟨hb, hoth, hoths⟩
    have hq := notStopping_of_legal hc hl
    cases i with
    | subscribe k =>
      simp only [legalIn, Bool.and_eq_true, beq_iff_eq, machine, Bool.or_false] at hl
      obtain ⟨⟨-, hidle⟩, rfl⟩ := hl
      cases hm with
      | m1 h1 h2 h3 h4 h5 h6 =>
        exact ⟨_, _, .subscribe hq, run_subscribe _ _ _, lands rfl (hS.subscribe _ _ h1 h2) hle
          fun hp hq => .m2 hp hq h4 h5 h6 (by rw [h3])⟩
      | m2 h1 | m3 h1 | m4 h1 | m5 h1 | m6 h1 | m7 h1 => cases h1.symm.trans hidle
    | sinkUp k u =>
      simp only [legalIn, Bool.and_eq_true, beq_iff_eq, Bool.or_eq_true] at hl
      obtain ⟨hlive, -⟩ := hl
      cases sink_eq_zero hoths (by rw [hlive]; decide)
      cases hm with
      | m3 h1 h2 h3 h4 h5 h6 =>
        cases u with
        | pull =>
          by_cases hlt : st.taken < max
          · exact ⟨_, _, .pullFwd hq h2 hlt, run_pull_lt hlt h3 _ _ _, lands rfl (hS.pull _ _ h1 h2) hle
              fun hp hq => .m3 hp hq h3 h4 (fun _ he => absurd he (Nat.ne_of_lt hlt)) (cons_done h6)⟩
          · exact ⟨_, _, .pullDrop hq h2 hlt, run_pull_ge hlt _ _ _, lands rfl ((hS.refl h1 h2).onRetO _) hle
              fun hp hq => .m3 hp hq h3 h4 h5 h6⟩
        | term | err e =>
          exact ⟨_, _, .sinkEnd _ nofun hq, run_sinkEnd _ h3 _ _ _, lands rfl (hS.sinkEnd _ _ h1 h2 nofun) hle
            fun hp hq => .m4 hp hq rfl (cons_done h6)⟩
      | m6 h1 h2 h3 h4 h5 => obtain ⟨rest, rfl, -⟩ := h5; exact absurd rfl (hq rest)
      | m1 h1 | m2 h1 | m4 h1 | m5 h1 | m7 h1 => cases h1.symm.trans hlive
    | srcGreet i =>
      simp only [legalIn, Bool.and_eq_true, beq_iff_eq, machine, Bool.false_and, Bool.or_false] at hl
      obtain ⟨hsub, -⟩ := hl
      cases src_eq_zero hoth (by rw [hsub]; decide)
      obtain ⟨h1, -, -, h4, h4', h5⟩ := hm.of_subscribed (.inr hsub)
      exact ⟨_, _, .greet hq, run_greet _ _ _, lands rfl (hS.greet _ _ h1) hle
        fun hp hq => .m3 hp hq rfl h4' (fun hpos => absurd hpos (by show ¬ 0 < st.taken; rw [h4]; decide)) (cons_done (by rw [h5]; simp [Benign]))⟩
    | srcDown i d =>
      simp only [legalIn, Bool.and_eq_true, beq_iff_eq, Bool.or_eq_true] at hl
      obtain ⟨hlive, hctx⟩ := hl
      cases src_eq_zero hoth (by rw [hlive]; decide)
      cases hm with
      | m3 h1 h2 h3 h4 h5 h6 =>
        -- while the `max`-th delivery is open upstream may not send
        have hnotF : ¬ (0 < st.taken ∧ st.taken = max) := by
          rintro ⟨ha, hb⟩
          obtain ⟨a, rest, rfl⟩ := h5 ha hb
          cases hc; simp [isTop, inSub, inPull] at hctx
        cases d with
        | data a =>
          by_cases hlt : st.taken < max
          · exact ⟨_, _, .dataTake a hq h2 hlt, run_data_lt a hlt _ _ _, lands rfl (hS.data _ _ h1 h2 a a) (Nat.succ_le_of_lt hlt)
              fun hp hq => .m3 hp hq h3 h4 (fun _ he => ⟨a, stk, by rw [← he]⟩)
                (List.forall_mem_cons.2 ⟨⟨Nat.succ_pos _, Nat.le_refl _⟩, fun f hf => benign_mono (h6 f hf) (Nat.le_succ _)⟩)⟩
          · exact ⟨_, _, .dataDrop a hq hlt, run_data_ge a hlt _ _ _, lands rfl ((hS.refl h1 h2).onRetO _) hle
              fun hp hq => .m3 hp hq h3 h4 h5 h6⟩
        | term | err e =>
          exact ⟨_, _, .srcEnd _ rfl hq, run_fwd _ _ _ _, lands rfl (hS.srcEnd _ _ h1 h2 rfl rfl) hle
            fun hp hq => .m5 hp hq hnotF (cons_done h6)⟩
      | m1 _ h2 | m2 _ h2 | m4 _ h2 | m5 _ h2 | m6 _ h2 | m7 _ h2 => cases h2.symm.trans hlive
  | @ret st stk g tr o l hl =>
    simp only at hb hle hoth hoths hm
    have hS : Single g.ph := ⟨hb, hoth, hoths⟩
    cases hm with
    | m1 _ _ h => cases h
    | m2 h1 h2 h3 h4 h4' h5 =>
      cases h5
      simp [legalRet, h2, machine] at hl
    | m3 h1 h2 h3 h4 h5 h6 =>
      by_cases hl3 : l = .d3 max
      · subst hl3
        have hben : 0 < max ∧ max ≤ st.taken := h6 _ List.mem_cons_self
        exact ⟨_, _, .selfTerm (notStopping_of_benign h6) (Nat.le_antisymm hle hben.2), run_d3_max h4 h3 _ _ _,
          lands rfl (hS.selfTerm _ h1 h2) hle fun hp hq =>
            .m6 hp hq rfl h3 ⟨stk, rfl, (List.forall_mem_cons.1 h6).2⟩ (Nat.le_antisymm hle hben.2)⟩
      · refine resume_step hS hle h1 h2 h6 (fun h => absurd h hl3) (.m3 h1 h2 h3 h4 ?_)
        intro ha hb'
        obtain ⟨a, rest, he⟩ := h5 ha hb'
        cases he; exact absurd rfl hl3
    | m4 h1 h2 h3 h6 => exact resume_step hS hle h1 h2 h6 (fun _ => h3) (.m4 h1 h2 h3)
    | m5 h1 h2 h3 h6 =>
      refine resume_step hS hle h1 h2 h6 (fun hl3 => ?_) (.m5 h1 h2 h3)
      subst hl3
      have hben : 0 < max ∧ max ≤ st.taken := h6 _ List.mem_cons_self
      exact absurd ⟨Nat.lt_of_lt_of_le hben.1 hben.2, Nat.le_antisymm hle hben.2⟩ h3
    | m6 h1 h2 h3 h4 h5 h7 =>
      obtain ⟨rest, he, hrest⟩ := h5
      cases he
      exact ⟨_, _, .selfDone h3, run_d6 _ _ _, lands rfl (hS.selfDone _ h1 h2 nofun) hle
        fun hp hq => .m7 hp hq h3 (cons_done hrest) h7⟩
    | m7 h1 h2 h3 h6 h7 => exact resume_step hS hle h1 h2 h6 (fun _ => h3) (.m7 h1 h2 h3 · h7)

theorem inv_init (max : Nat) : Inv max (Sys.init (machine α max)) :=
  ⟨rfl, rfl, Nat.zero_le _, fun _ _ => by simp [Sys.init], fun _ _ => by simp [Sys.init],
    Mode.m1 (by simp [Sys.init]) (by simp [Sys.init]) rfl rfl rfl rfl⟩

theorem inv_of_turn (max : Nat) {s : Sys St (Loc α) α α} (hs : SReach (machine α max) s) (ht : EnvTurn s) : Inv max s :=
  Lands.inv_at_turn (inv_init max) (fun s hi => (inv_turn max s hi).1) (macro_step max) hs ht

/-- take: under every conformant environment (re-entrant sink, synchronous or deferred source), the operator never
violates the sink- or source-side protocol and never panics. -/
theorem take_basicSafe (max : Nat) : ∀ s, SReach (machine α max) s → BasicSafe s :=
  Lands.basicSafe (inv_init max) (inv_turn max) (macro_step max)

/-- The demand flags of `take` at a turn: an unserved `Pull` of the sink has been passed on unless `max` items are through; while
`take` has not finished, its upstream owes an answer only if the sink has an unserved `Pull`. -/
structure Dm (max : Nat) (s : Sys St (Loc α) α α) : Prop where
  fwd : aP s.tr = true → bP s.tr = true ∨ max ≤ s.st.taken
  back : s.st.fin = false → bP s.tr = true → aP s.tr = true

theorem Dm.macro {max : Nat} {s : Sys St (Loc α) α α} {m : Move α} {st : St} {r : Option (Out α × Loc α)}
    (h : Dm max s) (hm : Macro max s m st r) : Dm max (s.next (machine α max).shape st m r) := by
  cases hm with
  | subscribe _ | greet _ | ret _ => exact ⟨h.fwd, h.back⟩
  | pullFwd _ _ _ => exact ⟨fun _ => .inl rfl, fun _ _ => rfl⟩
  | pullDrop _ _ hge => exact ⟨fun _ => .inr (Nat.le_of_not_lt hge), fun _ _ => rfl⟩
  | sinkEnd u hu _ =>
    cases u with
    | pull => exact absurd rfl hu
    | term | err e => exact ⟨h.fwd, nofun⟩
  | dataTake a _ _ _ | srcEnd d _ _ => exact ⟨nofun, fun _ => nofun⟩
  | dataDrop a _ hge => exact ⟨fun _ => .inr (Nat.le_of_not_lt hge), fun _ => nofun⟩
  | selfTerm _ _ => exact ⟨h.fwd, nofun⟩
  | selfDone hf => exact ⟨nofun, fun hf' => nomatch hf.symm.trans hf'⟩

theorem dm_of_turn (max : Nat) {s : Sys St (Loc α) α α} (hs : SReach (machine α max) s) (ht : EnvTurn s) : Dm max s :=
  (Lands.at_turn anyEnv (Dm max) (inv_init max) ⟨nofun, fun _ => nofun⟩ (fun s h => (inv_turn max s h).1) (macro_step max)
    (fun _ _ _ _ _ _ h _ hm _ _ => h.macro hm) hs ht).2

end Cb.Take
