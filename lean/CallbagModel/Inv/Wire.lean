import CallbagModel.Ops.Compose
import CallbagModel.Ops.Plug
import CallbagModel.Ops.PlugOp
import CallbagModel.Inv.Edges
/-!
# One wiring of two components

`compose M₁ M₂`, `plug j M₁ M₂` and `plugOp j M₁ M₂` are the same machine up to a ROUTING TABLE.  In `wire W sh M₁ M₂` the sink 0 of
`M₁` IS the upstream `W.j` of `M₂`: a call of one component across that boundary (`M₁.greet 0`, `M₁.down 0 d`, `M₂.subSrc j`,
`M₂.srcUp j u`) is internal and puts a frame of the other component on top.  The table says what becomes of every other call:
`M₁`'s upstream `i` is the composite's upstream `W.up1 i`, `M₂`'s upstream `i ≠ j` is the composite's upstream `W.up2 i` (`none`:
the component has no such upstream, the call is dead code and panics), `M₂`'s sinks are the composite's, and a call of the
environment enters `M₁` or `M₂` (`W.enter`).  `Wiring.Ok` says that the table is coherent: the two maps are a partial bijection
between the composite's upstreams and those of the components, and a message from an upstream enters the component that owns it.

`compose_eq_wire`, `plug_eq_wire`, `plugOp_eq_wire` are equalities of machines, so whatever is proved of `wire` under `W.Ok`
(`Inv/WireSafe.lean`) holds of the three combinators.
-/
namespace Cb
namespace Wire

inductive Route (I O : Type) where
  | int (i : I) | ext (o : O) | dead

structure Wiring (ι α β : Type) where
  j : Nat
  up1 : Nat → Option Nat
  up2 : Nat → Option Nat
  enter : In ι → In α ⊕ In β
  msg1 : String
  msg2 : String

variable {ι α β γ : Type}

def Wiring.out1 (W : Wiring ι α β) : Out β → Route (In β) (Out γ)
  | .greet 0 => .int (.srcGreet W.j)
  | .down 0 d => .int (.srcDown W.j d)
  | .subSrc i => match W.up1 i with | some i' => .ext (.subSrc i') | none => .dead
  | .srcUp i u => match W.up1 i with | some i' => .ext (.srcUp i' u) | none => .dead
  | _ => .dead

def Wiring.out2 (W : Wiring ι α β) : Out γ → Route (In α) (Out γ)
  | .subSrc i => if i == W.j then .int (.subscribe 0) else
      match W.up2 i with | some i' => .ext (.subSrc i') | none => .dead
  | .srcUp i u => if i == W.j then .int (.sinkUp 0 u) else
      match W.up2 i with | some i' => .ext (.srcUp i' u) | none => .dead
  | o => .ext o

def wire {S1 L1 S2 L2 : Type} (W : Wiring ι α β) (sh : Shape) (M1 : Machine S1 L1 α β) (M2 : Machine S2 L2 β γ) :
    Machine (S1 × S2) (List (CFr L1 L2)) ι γ where
  shape := sh
  init := (M1.init, M2.init)
  enter i := match W.enter i with
    | .inl i1 => [.lo (M1.enter i1)]
    | .inr i2 => [.hi (M2.enter i2)]
  step st
    | [] => .ret
    | .lo l :: rest =>
      match M1.step st.1 l with
      | .tau s1 l' => .tau (s1, st.2) (.lo l' :: rest)
      | .ret => if rest.isEmpty then .ret else .tau st rest
      | .panic m => .panic m
      | .call o s1 l' =>
        match W.out1 (γ := γ) o with
        | .int i => .tau (s1, st.2) (.hi (M2.enter i) :: .lo l' :: rest)
        | .ext o' => .call o' (s1, st.2) (.lo l' :: rest)
        | .dead => .panic W.msg1
    | .hi l :: rest =>
      match M2.step st.2 l with
      | .tau s2 l' => .tau (st.1, s2) (.hi l' :: rest)
      | .ret => if rest.isEmpty then .ret else .tau st rest
      | .panic m => .panic m
      | .call o s2 l' =>
        match W.out2 o with
        | .int i => .tau (st.1, s2) (.lo (M1.enter i) :: .hi l' :: rest)
        | .ext o' => .call o' (st.1, s2) (.hi l' :: rest)
        | .dead => .panic W.msg2

/-- Where a call of the environment lands, in terms of the table.  The payload of a delivery may change type, not kind.  A message
from an upstream that the table does not know (`freeG`, `freeD`) goes to `M₂`; it is never legal. -/
inductive Ent (W : Wiring ι α β) : In ι → In α ⊕ In β → Prop where
  | sub (k) : Ent W (.subscribe k) (.inr (.subscribe k))
  | up (k u) : Ent W (.sinkUp k u) (.inr (.sinkUp k u))
  | greet1 {i i'} : W.up1 i = some i' → Ent W (.srcGreet i') (.inl (.srcGreet i))
  | down1 {i i' d d1} : W.up1 i = some i' → isFinal d1 = isFinal d → Ent W (.srcDown i' d) (.inl (.srcDown i d1))
  | greet2 {i i'} : i ≠ W.j → W.up2 i = some i' → Ent W (.srcGreet i') (.inr (.srcGreet i))
  | down2 {i i' d d2} : i ≠ W.j → W.up2 i = some i' → isFinal d2 = isFinal d → Ent W (.srcDown i' d) (.inr (.srcDown i d2))
  | freeG {i' r} : (∀ i, W.up1 i ≠ some i') → (∀ i, i ≠ W.j → W.up2 i ≠ some i') → Ent W (.srcGreet i') (.inr r)
  | freeD {i' d r} : (∀ i, W.up1 i ≠ some i') → (∀ i, i ≠ W.j → W.up2 i ≠ some i') → Ent W (.srcDown i' d) (.inr r)

structure Wiring.Ok (W : Wiring ι α β) : Prop where
  inj1 : ∀ i i0 i', W.up1 i = some i' → W.up1 i0 = some i' → i0 = i
  inj2 : ∀ i i0 i', i ≠ W.j → i0 ≠ W.j → W.up2 i = some i' → W.up2 i0 = some i' → i0 = i
  disj : ∀ i i0 i', i0 ≠ W.j → W.up1 i = some i' → W.up2 i0 = some i' → False
  ent : ∀ i, Ent W i (W.enter i)

section Step
variable {S1 L1 S2 L2 : Type} {W : Wiring ι α β} {sh : Shape} {M1 : Machine S1 L1 α β} {M2 : Machine S2 L2 β γ} {st : S1 × S2}
  {rest : List (CFr L1 L2)} {c : CFr L1 L2}

theorem wire_lo_tau {l l' s1} (h : M1.step st.1 l = .tau s1 l') :
    (wire W sh M1 M2).step st (.lo l :: rest) = .tau (s1, st.2) (.lo l' :: rest) := by simp only [wire, h]
theorem wire_lo_ret {l} (h : M1.step st.1 l = .ret) : (wire W sh M1 M2).step st (.lo l :: c :: rest) = .tau st (c :: rest) := by
  simp [wire, h]
theorem wire_lo_ret_last {l} (h : M1.step st.1 l = .ret) : (wire W sh M1 M2).step st [.lo l] = .ret := by simp [wire, h]
theorem wire_lo_int {l l' s1 o i} (h : M1.step st.1 l = .call o s1 l') (hw : W.out1 (γ := γ) o = .int i) :
    (wire W sh M1 M2).step st (.lo l :: rest) = .tau (s1, st.2) (.hi (M2.enter i) :: .lo l' :: rest) := by simp only [wire, h, hw]
theorem wire_lo_ext {l l' s1 o o'} (h : M1.step st.1 l = .call o s1 l') (hw : W.out1 o = .ext o') :
    (wire W sh M1 M2).step st (.lo l :: rest) = .call o' (s1, st.2) (.lo l' :: rest) := by simp only [wire, h, hw]
theorem wire_hi_tau {l l' s2} (h : M2.step st.2 l = .tau s2 l') :
    (wire W sh M1 M2).step st (.hi l :: rest) = .tau (st.1, s2) (.hi l' :: rest) := by simp only [wire, h]
theorem wire_hi_ret {l} (h : M2.step st.2 l = .ret) : (wire W sh M1 M2).step st (.hi l :: c :: rest) = .tau st (c :: rest) := by
  simp [wire, h]
theorem wire_hi_ret_last {l} (h : M2.step st.2 l = .ret) : (wire W sh M1 M2).step st [.hi l] = .ret := by simp [wire, h]
theorem wire_hi_int {l l' s2 o i} (h : M2.step st.2 l = .call o s2 l') (hw : W.out2 o = .int i) :
    (wire W sh M1 M2).step st (.hi l :: rest) = .tau (st.1, s2) (.lo (M1.enter i) :: .hi l' :: rest) := by simp only [wire, h, hw]
theorem wire_hi_ext {l l' s2 o o'} (h : M2.step st.2 l = .call o s2 l') (hw : W.out2 o = .ext o') :
    (wire W sh M1 M2).step st (.hi l :: rest) = .call o' (st.1, s2) (.hi l' :: rest) := by simp only [wire, h, hw]

/-! What a step of `wire W sh M₁ M₂` can be, in the form of `Inv/Edges.lean`, with a step of the component on top as hypothesis: the
converses of the equations above. -/

inductive Tau (W : Wiring ι α β) (M1 : Machine S1 L1 α β) (M2 : Machine S2 L2 β γ) (st : S1 × S2) :
    List (CFr L1 L2) → S1 × S2 → List (CFr L1 L2) → Prop
  | lo {l rest s1 l'} : M1.step st.1 l = .tau s1 l' → Tau W M1 M2 st (.lo l :: rest) (s1, st.2) (.lo l' :: rest)
  | hi {l rest s2 l'} : M2.step st.2 l = .tau s2 l' → Tau W M1 M2 st (.hi l :: rest) (st.1, s2) (.hi l' :: rest)
  | loRet {l c rest} : M1.step st.1 l = .ret → Tau W M1 M2 st (.lo l :: c :: rest) st (c :: rest)
  | hiRet {l c rest} : M2.step st.2 l = .ret → Tau W M1 M2 st (.hi l :: c :: rest) st (c :: rest)
  | loInt {l rest o i s1 l'} : M1.step st.1 l = .call o s1 l' → W.out1 (γ := γ) o = .int i →
      Tau W M1 M2 st (.lo l :: rest) (s1, st.2) (.hi (M2.enter i) :: .lo l' :: rest)
  | hiInt {l rest o i s2 l'} : M2.step st.2 l = .call o s2 l' → W.out2 o = .int i →
      Tau W M1 M2 st (.hi l :: rest) (st.1, s2) (.lo (M1.enter i) :: .hi l' :: rest)

inductive Call (W : Wiring ι α β) (M1 : Machine S1 L1 α β) (M2 : Machine S2 L2 β γ) (st : S1 × S2) :
    List (CFr L1 L2) → Out γ → S1 × S2 → List (CFr L1 L2) → Prop
  | lo {l rest o o' s1 l'} : M1.step st.1 l = .call o s1 l' → W.out1 o = .ext o' →
      Call W M1 M2 st (.lo l :: rest) o' (s1, st.2) (.lo l' :: rest)
  | hi {l rest o o' s2 l'} : M2.step st.2 l = .call o s2 l' → W.out2 o = .ext o' →
      Call W M1 M2 st (.hi l :: rest) o' (st.1, s2) (.hi l' :: rest)

inductive Ret (M1 : Machine S1 L1 α β) (M2 : Machine S2 L2 β γ) (st : S1 × S2) : List (CFr L1 L2) → Prop
  | nil : Ret M1 M2 st []
  | lo {l} : M1.step st.1 l = .ret → Ret M1 M2 st [.lo l]
  | hi {l} : M2.step st.2 l = .ret → Ret M1 M2 st [.hi l]

def Edge (W : Wiring ι α β) (M1 : Machine S1 L1 α β) (M2 : Machine S2 L2 β γ) (st : S1 × S2) (cfs : List (CFr L1 L2)) :
    Act (S1 × S2) (List (CFr L1 L2)) γ → Prop :=
  Act.Edge (Tau W M1 M2 st cfs) (Call W M1 M2 st cfs) (Ret M1 M2 st cfs)

theorem edge (W : Wiring ι α β) (sh : Shape) (M1 : Machine S1 L1 α β) (M2 : Machine S2 L2 β γ) (st : S1 × S2)
    (cfs : List (CFr L1 L2)) : Edge W M1 M2 st cfs ((wire W sh M1 M2).step st cfs) := by
  rcases cfs with _ | ⟨c, rest⟩
  · exact .nil
  · cases c with
    | lo l =>
      dsimp only [wire]
      cases h : M1.step st.1 l with
      | tau s1 l' => exact .lo h
      | ret => cases rest with
        | nil => exact .lo h
        | cons c rest => exact .loRet h
      | panic m => trivial
      | call o s1 l' =>
        dsimp only
        cases hw : W.out1 (γ := γ) o with
        | int i => exact .loInt h hw
        | ext o' => exact .lo h hw
        | dead => trivial
    | hi l =>
      dsimp only [wire]
      cases h : M2.step st.2 l with
      | tau s2 l' => exact .hi h
      | ret => cases rest with
        | nil => exact .hi h
        | cons c rest => exact .hiRet h
      | panic m => trivial
      | call o s2 l' =>
        dsimp only
        cases hw : W.out2 o with
        | int i => exact .hiInt h hw
        | ext o' => exact .hi h hw
        | dead => trivial

theorem Edge.of {cfs : List (CFr L1 L2)} {a : Act (S1 × S2) (List (CFr L1 L2)) γ} (h : (wire W sh M1 M2).step st cfs = a) :
    Edge W M1 M2 st cfs a :=
  h ▸ edge W sh M1 M2 st cfs

end Step

def Wc : Wiring α α β where
  j := 0
  up1 := some
  up2 := fun _ => none
  enter
    | .subscribe k => .inr (.subscribe k)
    | .sinkUp k u => .inr (.sinkUp k u)
    | .srcGreet i => .inl (.srcGreet i)
    | .srcDown i d => .inl (.srcDown i d)
  msg1 := "compose: the upstream-side component has a single sink"
  msg2 := "compose: the downstream-side component has a single upstream"

def Wp (j : Nat) : Wiring β α β where
  j := j
  up1 := fun _ => none
  up2 := some
  enter := .inr
  msg1 := "plug: the plugged source has a single sink and no upstream"
  msg2 := ""

def Wo (j : Nat) : Wiring β β β where
  j := j
  up1 := fun i => match i with | 0 => some j | _ + 1 => none
  up2 := some
  enter
    | .srcGreet i => if i == j then .inl (.srcGreet 0) else .inr (.srcGreet i)
    | .srcDown i d => if i == j then .inl (.srcDown 0 d) else .inr (.srcDown i d)
    | i => .inr i
  msg1 := "plugOp: the member operator has a single sink and a single upstream"
  msg2 := ""

theorem wc_ok : (Wc (α := α) (β := β)).Ok where
  inj1 _ _ _ h h0 := Option.some.inj (h0.trans h.symm)
  inj2 _ _ _ _ _ h := nomatch h
  disj _ _ _ _ _ h := nomatch h
  ent i := by
    cases i with
    | subscribe k => exact .sub k
    | sinkUp k u => exact .up k u
    | srcGreet i => exact .greet1 (i := i) rfl
    | srcDown i d => exact .down1 (i := i) rfl rfl

theorem wp_ok (j : Nat) : (Wp (α := α) (β := β) j).Ok where
  inj1 _ _ _ h := nomatch h
  inj2 _ _ _ _ _ h h0 := Option.some.inj (h0.trans h.symm)
  disj _ _ _ _ h := nomatch h
  ent i := by
    have hfree : (∀ i, (Wp (α := α) (β := β) j).up1 i ≠ some j) ∧ ∀ i, i ≠ j → (Wp (α := α) (β := β) j).up2 i ≠ some j :=
      ⟨fun _ => nofun, fun i hi e => hi (Option.some.inj e)⟩
    cases i with
    | subscribe k => exact .sub k
    | sinkUp k u => exact .up k u
    | srcGreet i =>
      by_cases h : i = j
      · subst h; exact .freeG hfree.1 hfree.2
      · exact .greet2 (i := i) h rfl
    | srcDown i d =>
      by_cases h : i = j
      · subst h; exact .freeD hfree.1 hfree.2
      · exact .down2 (i := i) h rfl rfl

theorem wo_ok (j : Nat) : (Wo (β := β) j).Ok where
  inj1 i i0 _ h h0 := by
    cases i with
    | succ i => cases h
    | zero => cases i0 with
      | zero => rfl
      | succ i0 => cases h0
  inj2 _ _ _ _ _ h h0 := Option.some.inj (h0.trans h.symm)
  disj i _ _ hj h h0 := by cases i <;> cases h; cases h0; exact hj rfl
  ent i := by
    cases i with
    | subscribe k => exact .sub k
    | sinkUp k u => exact .up k u
    | srcGreet i =>
      by_cases h : i = j
      · subst h; simp only [Wo, beq_self_eq_true, if_true]; exact .greet1 (i := 0) rfl
      · simp only [Wo, beq_false_of_ne h]; exact .greet2 (i := i) h rfl
    | srcDown i d =>
      by_cases h : i = j
      · subst h; simp only [Wo, beq_self_eq_true, if_true]; exact .down1 (i := 0) rfl rfl
      · simp only [Wo, beq_false_of_ne h]; exact .down2 (i := i) h rfl rfl

section Eq
variable {S1 L1 S2 L2 : Type}

theorem compose_eq_wire (M1 : Machine S1 L1 α β) (M2 : Machine S2 L2 β γ) :
    compose M1 M2 = wire Wc (compose M1 M2).shape M1 M2 := by
  unfold compose wire
  congr 1
  · funext i; cases i <;> rfl
  · funext st l
    rcases l with _ | ⟨c, rest⟩
    · rfl
    · cases c with
      | lo l =>
        simp only
        cases M1.step st.1 l with
        | call o s1 l' =>
          cases o with
          | greet k => cases k <;> rfl
          | down k d => cases k <;> rfl
          | _ => rfl
        | _ => rfl
      | hi l =>
        simp only
        cases M2.step st.2 l with
        | call o s2 l' =>
          cases o with
          | subSrc i => cases i <;> rfl
          | srcUp i u => cases i <;> rfl
          | _ => rfl
        | _ => rfl

theorem plug_eq_wire (j : Nat) (M1 : Machine S1 L1 α β) (M2 : Machine S2 L2 β γ) :
    plug j M1 M2 = wire (Wp j) M2.shape M1 M2 := by
  unfold plug wire
  congr 1
  · funext i; cases i <;> rfl
  · funext st l
    rcases l with _ | ⟨c, rest⟩
    · rfl
    · cases c with
      | lo l =>
        simp only
        cases M1.step st.1 l with
        | call o s1 l' =>
          cases o with
          | greet k => cases k <;> rfl
          | down k d => cases k <;> rfl
          | _ => rfl
        | _ => rfl
      | hi l =>
        simp only
        cases M2.step st.2 l with
        | call o s2 l' =>
          cases o with
          | subSrc i => simp only [Wiring.out2, Wp]; by_cases h : (i == j) = true <;> simp [h]
          | srcUp i u => simp only [Wiring.out2, Wp]; by_cases h : (i == j) = true <;> simp [h]
          | _ => rfl
        | _ => rfl

theorem plugOp_eq_wire (j : Nat) (M1 : Machine S1 L1 β β) (M2 : Machine S2 L2 β γ) :
    plugOp j M1 M2 = wire (Wo j) M2.shape M1 M2 := by
  unfold plugOp wire
  congr 1
  · funext i
    cases i with
    | srcGreet i => simp only [Wo]; by_cases h : (i == j) = true <;> simp [h]
    | srcDown i d => simp only [Wo]; by_cases h : (i == j) = true <;> simp [h]
    | _ => rfl
  · funext st l
    rcases l with _ | ⟨c, rest⟩
    · rfl
    · cases c with
      | lo l =>
        simp only
        cases M1.step st.1 l with
        | call o s1 l' =>
          cases o with
          | greet k => cases k <;> rfl
          | down k d => cases k <;> rfl
          | subSrc i => cases i <;> rfl
          | srcUp i u => cases i <;> rfl
          | _ => rfl
        | _ => rfl
      | hi l =>
        simp only
        cases M2.step st.2 l with
        | call o s2 l' =>
          cases o with
          | subSrc i => simp only [Wiring.out2, Wo]; by_cases h : (i == j) = true <;> simp [h]
          | srcUp i u => simp only [Wiring.out2, Wo]; by_cases h : (i == j) = true <;> simp [h]
          | _ => rfl
        | _ => rfl

end Eq

end Wire
end Cb
