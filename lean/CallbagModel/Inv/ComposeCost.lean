import CallbagModel.Inv.PullOnly
import CallbagModel.Inv.Pipeline
/-!
# The COST of a pipeline: the iterator is advanced only on demand

`nexts` (the ghost counter of `Iterator::next` calls) of a head `A`, against the demand semantics `sem` of `Ops/Pipeline.lean`.

* `DemOk dem` — an assumption on the SINK of a head, as a predicate on its sink-side trace (closed under taking tails): the sink pulls
  only while it has received fewer than `d` items (`dem = some d`; no restriction for `none`).
* `HeadUp M nx c` (upper bound, every reachable configuration): under `DemOk dem`, `nx s.st ≤ c dem`.
* `HeadLow M nx c` (lower bound, at top level): `c (some k) ≤ nx s.st` once `k` items have been delivered, `c none ≤ nx s.st` once the
  terminal has been delivered.
* `StageDem S up ys` — the rule of a stage for the upper bound: if its sink obeys `DemOk dem`, its upstream delivers data only when pulled
  (`POkSrc 0`) and has delivered a prefix of `ys`, then the stage obeys `DemOkSrc (up dem)` towards its upstream — it pulls only while it
  has received fewer items than the demand `up dem` it passes on (`up` mirrors `sem`: `needFor` for `filter`, `+ n` for `skip`, `min n` for
  `take`).  `StageLow S up ys` is the rule for the lower bound.

A head followed by a stage is a head of cost `c ∘ up` (`HeadUp.compose`, `HeadLow.compose`).  The upper bound crosses the wire by `demOk_up`:
what the stage obeys towards its upstream, the head sees at its sink (`Ifc.demOk`, stated for upstream `j` of any machine — `DemOkSrcJ j`, of
which `DemOkSrc` is the case `j = 0` — so that `concat!` and `flatten` use it for their members).  Instances: `from_iter` (`FromIter.headUp` by
the invariant `FromIterJ.K`, `FromIter.headLow`), the relays and `take` (`Relay.stageDem`, `Take.stageDem`, … through `stageDem_of_pull`).
For a head over an iterator that need not end: `HeadUpD`, passed on by `HeadUpD.stage` (last section).
-/
namespace Cb
namespace ComposeCost
open ComposeSafe ComposeFun ComposeComplete FlatPlugFun

section Dem
variable {α β γ : Type}

/-- the sink still wants items after `c` of them -/
def wants : Demand → Nat → Prop
  | none, _ => True
  | some d, c => c < d

/-- the sink pulls only while it wants more (events newest first) -/
def DemOk (dem : Demand) : List (SinkEv β) → Prop
  | [] => True
  | e :: t => (e = .up 0 .pull → wants dem (recvS 0 t).length) ∧ DemOk dem t

def DemOkSrc (dem : Demand) : List (SrcEv α) → Prop
  | [] => True
  | e :: t => (e = .up 0 .pull → wants dem (sentS 0 t).length) ∧ DemOkSrc dem t

theorem demOk_iff (dem : Demand) (l : List (SinkEv β)) :
    DemOk dem l ↔ Before (· = .up 0 .pull) (fun t => wants dem (recvS 0 t).length) l :=
  Before.iff_of_rec trivial (fun _ _ => Iff.rfl) l

theorem demOkSrc_iff (dem : Demand) (l : List (SrcEv α)) :
    DemOkSrc dem l ↔ Before (· = .up 0 .pull) (fun t => wants dem (sentS 0 t).length) l :=
  Before.iff_of_rec trivial (fun _ _ => Iff.rfl) l

/-- the operator pulls upstream `j` only while `dem` wants more than `j` has sent; `DemOkSrc` is the case `j = 0` -/
def DemOkSrcJ (j : Nat) (dem : Demand) : List (SrcEv α) → Prop
  | [] => True
  | e :: t => (e = .up j .pull → wants dem (sentS j t).length) ∧ DemOkSrcJ j dem t

theorem demOkSrcJ_iff (j : Nat) (dem : Demand) (l : List (SrcEv α)) :
    DemOkSrcJ j dem l ↔ Before (· = .up j .pull) (fun t => wants dem (sentS j t).length) l :=
  Before.iff_of_rec trivial (fun _ _ => Iff.rfl) l

theorem demOkSrc_iff_J (dem : Demand) (l : List (SrcEv α)) : DemOkSrc dem l ↔ DemOkSrcJ 0 dem l :=
  (demOkSrc_iff dem l).trans (demOkSrcJ_iff 0 dem l).symm

theorem demOk_none (l : List (SinkEv β)) : DemOk none l := (demOk_iff none l).2 (.of_forall (fun _ => trivial) l)

theorem demOkSrcJ_none (j : Nat) (l : List (SrcEv α)) : DemOkSrcJ j none l :=
  (demOkSrcJ_iff j none l).2 (.of_forall (fun _ => trivial) l)

theorem DemOk.tail {dem : Demand} {e : Ev α β} {tr : List (Ev α β)} (h : DemOk dem (sinkEvs (e :: tr))) : DemOk dem (sinkEvs tr) :=
  of_consOpt (P := DemOk dem) (o := sinkEv e) (fun _ _ h => h.2) h

open PlugSafe in
theorem demOkSrcJ_of_dualJ {j : Nat} {dem : Demand} {l : List (SinkEv β)} (h : DemOkSrcJ j dem (dualJ j l)) : DemOk dem l :=
  (demOk_iff dem l).2 (((demOkSrcJ_iff j dem _).1 h).of_view (dualJ_eq j) (fun _ he => he ▸ ⟨_, rfl, rfl⟩)
    fun t ht => recvS_dualJ j t ▸ ht)

open PlugSafe in
theorem demOkSrcJ_srcEq {j : Nat} {D : Demand} {l : List (SrcEv α)} (h : DemOkSrcJ j D l) : DemOkSrcJ j D (srcEq j l) :=
  (demOkSrcJ_iff j D _).2 (((demOkSrcJ_iff j D l).1 h).view (srcEq_eq j) (fun _ _ he hy => (Option.guard_eq_some_iff.1 he).1 ▸ hy)
    fun t ht => sentS_srcEq j t ▸ ht)

theorem demOk_of_dual {dem : Demand} {l : List (SinkEv β)} (h : DemOkSrc dem (dualEvs l)) : DemOk dem l :=
  demOkSrcJ_of_dualJ (PlugSafe.srcEq_zero_dualEvs l ▸ demOkSrcJ_srcEq ((demOkSrc_iff_J _ _).1 h))

theorem _root_.Cb.ConcatN.Ifc.demOk {SA LA αA β S L γ : Type} {k : Nat} {sA : Sys SA LA αA β} {sC : Sys S L β γ} (h : ConcatN.Ifc k sA sC)
    {D : Demand} (hd : DemOkSrcJ k D (srcEvs sC.tr)) : DemOk D (sinkEvs sA.tr) := by
  apply demOkSrcJ_of_dualJ (j := k)
  rw [← h.evs]
  exact demOkSrcJ_srcEq hd

/-- an unserved `Pull` was sent while the sink wanted more, and nothing has been delivered since -/
theorem wants_of_lastPull {dem : Demand} {l : List (SinkEv β)} (h : DemOk dem l) (hp : lastPull 0 l = true) :
    wants dem (recvS 0 l).length := by
  induction l with
  | nil => simp [lastPull] at hp
  | cons e t ih =>
    cases e with
    | up k u =>
      by_cases hk : u = .pull ∧ k = 0
      · obtain ⟨rfl, rfl⟩ := hk
        simpa [recvS] using h.1 rfl
      · have : lastPull 0 t = true := by simpa [lastPull, relS, hk] using hp
        simpa [recvS] using ih h.2 this
    | down k d =>
      by_cases hk : k = 0
      · subst hk; simp [lastPull, relS] at hp
      · have : lastPull 0 t = true := by simpa [lastPull, relS, hk] using hp
        have := ih h.2 this
        cases d <;> simpa [recvS, hk] using this
    | subscribe k => have : lastPull 0 t = true := by simpa [lastPull, relS] using hp
                     simpa [recvS] using ih h.2 this
    | greet k => have : lastPull 0 t = true := by simpa [lastPull, relS] using hp
                 simpa [recvS] using ih h.2 this
    | app b => have : lastPull 0 t = true := by simpa [lastPull, relS] using hp
               simpa [recvS] using ih h.2 this

end Dem

section Compose
variable {S1 L1 S2 L2 St Loc α β γ : Type}

def HeadUp (M : Machine St Loc α β) (nx : St → Nat) (c : Demand → Nat) : Prop :=
  ∀ dem s, SReach M s → DemOk dem (sinkEvs s.tr) → nx s.st ≤ c dem

def HeadLow (M : Machine St Loc α β) (nx : St → Nat) (c : Demand → Nat) : Prop :=
  ∀ s, SReach M s → s.stack = [] →
    c (some (recvData 0 s.tr).length) ≤ nx s.st ∧ (s.g.ph.sinkPh 0 = .doneBySrc → c none ≤ nx s.st)

def StageDem (M : Machine St Loc α β) (up : Demand → Demand) (ys : List α) : Prop :=
  ∀ dem s, SReach M s → DemOk dem (sinkEvs s.tr) → POkSrc 0 (srcEvs s.tr) → sentData 0 s.tr <+: ys →
    DemOkSrc (up dem) (srcEvs s.tr)

/-- the rule of a stage for the lower bound, at top level: the demand passed on for the `k` items delivered is within what has been
received; and if the terminal has been delivered, either the upstream has ended or the demand passed on for "everything" is within what
has been received -/
def StageLow (M : Machine St Loc α β) (up : Demand → Demand) (ys : List α) : Prop :=
  ∀ s, SReach M s → s.stack = [] → sentData 0 s.tr <+: ys →
    Dle (up (some (recvData 0 s.tr).length)) (some (sentData 0 s.tr).length) ∧
    (s.g.ph.sinkPh 0 = .doneBySrc → s.g.ph.srcPh 0 = .ended ∨ Dle (up none) (some (sentData 0 s.tr).length))

theorem recv_prefix_all {M : Machine St Loc α β} {ys : List β} (h : SrcSpec M ys) : ∀ s, SReach M s → recvData 0 s.tr <+: ys :=
  fun s hs =>
    let ⟨t, ht, htt, e⟩ := at_turn_of_calls M (recvData 0) (fun e tr he => by
      cases e with
      | out o => exact absurd rfl (he o)
      | _ => rfl) s hs
    e ▸ h t ht htt

theorem demOk_up {M1 : Machine S1 L1 α β} {M2 : Machine S2 L2 β γ} {up : Demand → Demand} (H : Hyp M1 M2) (hp : PullOnly M1)
    {dem : Demand} {s : Sys (S1 × S2) (List (CFr L1 L2)) α γ} (hs : SReach (Cb.compose M1 M2) s) (hd : DemOk dem (sinkEvs s.tr)) :
    ∃ (s1 : Sys S1 L1 α β) (s2 : Sys S2 L2 β γ), SReach M1 s1 ∧ s.st = (s1.st, s2.st) ∧ sentData 0 s2.tr = recvData 0 s1.tr ∧
      ∀ ys, StageDem M2 up ys → sentData 0 s2.tr <+: ys → DemOk (up dem) (sinkEvs s1.tr) := by
  obtain ⟨s1, s2, hr1, hr2, hm, ht⟩ := compose_inv_tr H s hs
  have hi := hm.ifc ht
  exact ⟨s1, s2, hr1, hm.st, hi.sent, fun ys h2 hpre =>
    hi.demOk ((demOkSrc_iff_J _ _).1 (h2 dem s2 hr2 (ht.sink ▸ hd) (hi.pOk (hp s1 hr1)) hpre))⟩

theorem HeadUp.compose {M1 : Machine S1 L1 α β} {M2 : Machine S2 L2 β γ} {nx : S1 → Nat} {c : Demand → Nat} {up : Demand → Demand}
    {ys : List β} (h1 : HeadUp M1 nx c) (H : Hyp M1 M2) (hspec : SrcSpec M1 ys) (hp : PullOnly M1) (h2 : StageDem M2 up ys) :
    HeadUp (Cb.compose M1 M2) (fun st => nx st.1) (fun dem => c (up dem)) := by
  intro dem s hs hd
  obtain ⟨s1, s2, hr1, hst, he, h⟩ := demOk_up H hp hs hd
  exact hst ▸ h1 (up dem) s1 hr1 (h ys h2 (he ▸ recv_prefix_all hspec s1 hr1))

theorem HeadLow.compose {M1 : Machine S1 L1 α β} {M2 : Machine S2 L2 β γ} {nx : S1 → Nat} {c : Demand → Nat} {up : Demand → Demand}
    {ys : List β} (h1 : HeadLow M1 nx c) (hmono : ∀ d1 d2, Dle d1 d2 → c d1 ≤ c d2) (H : Hyp M1 M2) (hspec : SrcSpec M1 ys)
    (h2 : StageLow M2 up ys) : HeadLow (Cb.compose M1 M2) (fun st => nx st.1) (fun dem => c (up dem)) := by
  intro s hs hstk
  obtain ⟨s1, s2, hr1, hr2, hk1, hk2, ht1, ht2, hgh, htr, hp⟩ := proj_top H hs hstk
  have hst : s.st = (s1.st, s2.st) := hp.m.st
  rw [hst]
  have hpre : sentData 0 s2.tr <+: ys := by rw [← hp.ifc 0]; exact hspec s1 hr1 ht1
  obtain ⟨l1, l2⟩ := h2 s2 hr2 hk2 hpre
  obtain ⟨a1, a2⟩ := h1 s1 hr1 hk1
  rw [hp.ifc 0] at a1
  refine ⟨?_, fun hd => ?_⟩
  · rw [hp.recv 0]
    exact Nat.le_trans (hmono _ _ l1) a1
  · rcases l2 (hgh.sink 0 ▸ hd) with he | hle
    · exact Nat.le_trans (hmono _ _ (Dle.to_none _)) (a2 (hgh.ifc_ended he))
    · exact Nat.le_trans (hmono _ _ hle) a1

end Compose

section FromIterCost
variable {ι α α' : Type}

theorem fi_nexts_mono {next : ι → Option (α × ι)} {it0 : ι} {a b : Sys (FromIter.St ι α) FromIter.Loc α' α}
    (h : OStep (FromIter.machine α' next it0) a b) : a.st.nexts ≤ b.st.nexts := by
  cases h with
  | tau hst =>
    cases FromIter.Edge.of hst with
    | w3_some x it' _ => exact Nat.le_succ _
    | w3_none _ => exact Nat.le_succ _
    | _ => exact Nat.le_refl _
  | call hst => cases FromIter.Edge.of hst <;> exact Nat.le_refl _
  | ret _ => exact Nat.le_refl _
  | panic _ => exact Nat.le_refl _

theorem fi_nexts_le (next : ι → Option (α × ι)) (it0 : ι) (xs : List α) (hx : Closed.Unfolds next it0 xs) :
    ∀ s, SReach (FromIter.machine α' next it0) s → s.st.nexts ≤ xs.length + 1 :=
  reach_of_macro_inv (FromIter.machine α' next it0) anyEnv (fun s => s.st.nexts ≤ xs.length + 1) (FromIterFun.FInv next it0)
    FromIterFun.finv_init
    (fun s h => ⟨FromIterFun.finv_turn s h, by
      obtain ⟨_, hT⟩ := h
      rw [hT.nexts]
      have h1 : (recvData 0 s.tr).length ≤ xs.length := by
        have := Closed.iterList_prefix hx (recvData 0 s.tr).length
        rw [← hT.items] at this
        exact this.length_le
      have h2 := hT.fin
      split at h2 <;> omega⟩)
    (fun s s' m h he _ => FromIterFun.finv_step next it0 s s' m h he)
    (fun _ _ h hP => Nat.le_trans (fi_nexts_mono (oStep_of_opStep h)) hP)

end FromIterCost

namespace FromIterJ
variable {ι α α' : Type}

def Fl (d : Nat) (st : FromIter.St ι α) : List (Frame FromIter.Loc α) → Prop
  | .run (.t0 .pull) :: _ => st.gotPull = true ∨ st.nexts + 1 ≤ d
  | .run (.t1 .pull) :: _ => st.gotPull = true ∨ st.nexts + 1 ≤ d
  | .run .w1 :: _ => st.gotPull = true
  | .run .w2 :: _ => st.gotPull = true
  | .run .w3 :: _ => st.nexts + 1 ≤ d ∧ st.gotPull = false
  | _ => True

structure K (d : Nat) (s : Sys (FromIter.St ι α) FromIter.Loc α' α) : Prop where
  le : s.st.nexts + (if s.st.gotPull then 1 else 0) ≤ d
  fl : Fl d s.st s.stack

theorem fl_turn {d : Nat} {st : FromIter.St ι α} {stk : List (Frame FromIter.Loc α)}
    (h : ∀ f ∈ stk, ∃ o l, f = Frame.wait o l) : Fl d st stk :=
  of_waits (Fl d st) h trivial fun _ _ _ => trivial

/-- under a sink that obeys the demand `some d`: the iterator has been advanced at most `d` times, counting a `Pull` not yet used -/
theorem K_reach (next : ι → Option (α × ι)) (it0 : ι) (d : Nat) :
    ∀ s, SReach (FromIter.machine α' next it0) s → DemOk (some d) (sinkEvs s.tr) → K d s := by
  apply reach_ind
  · intro _; exact ⟨by simp [Sys.init, FromIter.machine], trivial⟩
  · intro a b ha ih hstep
    cases hstep with
    | @tau st l stk g tr s' l' hst =>
      intro hC
      obtain ⟨h1, h2⟩ := ih hC
      cases FromIter.Edge.of hst with
      | t0 u _ => exact ⟨h1, by cases u <;> exact h2⟩
      | t1_pull => exact ⟨h2.elim (fun hg => by rw [hg] at h1; exact h1) id, trivial⟩
      | t1_stop u _ => exact ⟨h1, trivial⟩
      | pl1 _ => exact ⟨h1, trivial⟩
      | pl2 _ => exact ⟨h1, trivial⟩
      | l0 => exact ⟨h1, trivial⟩
      | w0 hg => exact ⟨h1, hg⟩
      | w0_idle _ => exact ⟨h1, trivial⟩
      | w1 _ => exact ⟨h1, h2⟩
      | w1_completed _ => exact ⟨h1, trivial⟩
      | w2 =>
        have h2 : st.gotPull = true := h2
        rw [h2] at h1
        exact ⟨Nat.le_of_succ_le h1, h1, rfl⟩
      | w3_some x it' _ =>
        obtain ⟨hn, hg⟩ : st.nexts + 1 ≤ d ∧ st.gotPull = false := h2
        exact ⟨show st.nexts + 1 + (if st.gotPull then 1 else 0) ≤ d by rw [hg]; exact hn, trivial⟩
      | w3_none _ =>
        obtain ⟨hn, hg⟩ : st.nexts + 1 ≤ d ∧ st.gotPull = false := h2
        exact ⟨show st.nexts + 1 + (if st.gotPull then 1 else 0) ≤ d by rw [hg]; exact hn, trivial⟩
      | lend => exact ⟨h1, trivial⟩
    | @call st l stk g tr o s' l' hst =>
      intro hC
      obtain ⟨h1, _⟩ := ih hC.tail
      cases FromIter.Edge.of hst <;> exact ⟨h1, trivial⟩
    | @ret st l stk g tr hst =>
      intro hC
      obtain ⟨h1, h2⟩ := ih hC.tail
      exact ⟨h1, fl_turn (pop_turn _ ha)⟩
    | panic hst =>
      intro hC
      obtain ⟨h1, h2⟩ := ih hC.tail
      exact ⟨h1, fl_turn (pop_turn _ ha)⟩
  · intro a b m ha ih hstep
    cases hstep with
    | @call st stk g tr c i hc hl =>
      intro hC
      obtain ⟨h1, h2⟩ := ih hC.tail
      simp only at h1 h2 ⊢
      obtain ⟨⟨_, _, hsrc, hoths, hm⟩, hT⟩ := FromIterFun.t_at_turn next it0 ha ⟨rfl, by simp [hc]⟩
      simp only at hsrc hoths hm hT
      cases i with
      | subscribe k => exact ⟨h1, by simp [Fl, FromIter.machine, FromIter.enter]⟩
      | sinkUp k u =>
        have hlv := legal_sinkUp hl
        obtain rfl := sink_zero_of_live hoths hlv
        cases u with
        | pull =>
          refine ⟨h1, ?_⟩
          simp only [Fl, FromIter.machine, FromIter.enter]
          right
          have hw : (recvData 0 tr).length < d := by
            have h0 : DemOk (some d) (SinkEv.up 0 Up.pull :: sinkEvs tr) := hC
            have := h0.1 rfl
            simpa [wants, ← recvData_eq] using this
          have hrd : st.resDone = false := (hm.live hlv).2.1
          have hf := hT.fin
          rw [hrd] at hf
          have hn := hT.nexts
          simp at hf
          omega
        | term => exact ⟨h1, by simp [Fl, FromIter.machine, FromIter.enter]⟩
        | err e => exact ⟨h1, by simp [Fl, FromIter.machine, FromIter.enter]⟩
      | srcGreet j => have := legal_srcGreet hl; rw [hsrc j] at this; cases this
      | srcDown j dd => have := legal_srcDown hl; rw [hsrc j] at this; cases this
    | @ret st stk g tr o l hl =>
      intro hC
      obtain ⟨h1, h2⟩ := ih hC.tail
      simp only at h1 h2 ⊢
      refine ⟨h1, ?_⟩
      rcases (FromIter.inv_of_turn next it0 ha ⟨rfl, rfl⟩).2.2.2.2.top with rfl | rfl | rfl <;> trivial

end FromIterJ

section FromIterHead
variable {ι α' : Type}

/-- **`from_iter`, upper bound**: under a sink that obeys `dem`, at most `(sem (.src xs) dem).2` advances -/
theorem FromIter.headUp (next : ι → Option (Int × ι)) (it0 : ι) (xs : List Int) (hx : Closed.Unfolds next it0 xs) :
    HeadUp (FromIter.machine α' next it0) (fun st => st.nexts) (fun dem => (sem (.src xs) dem).2) := by
  intro dem s hs hd
  have h1 := fi_nexts_le next it0 xs hx s hs
  cases dem with
  | none => simpa [sem] using h1
  | some d =>
    have h2 := (FromIterJ.K_reach next it0 d s hs hd).le
    simp only [sem]
    split
    · simp only; split at h2 <;> omega
    · exact h1

/-- **`from_iter`, lower bound**: one advance per item delivered, one more for the terminal -/
theorem FromIter.headLow (next : ι → Option (Int × ι)) (it0 : ι) (xs : List Int) (hx : Closed.Unfolds next it0 xs) :
    HeadLow (FromIter.machine α' next it0) (fun st => st.nexts) (fun dem => (sem (.src xs) dem).2) := by
  intro s hs hstk
  have ht := envTurn_of_top (FromIter.fromIter_basicSafe next it0 s hs).2 hstk
  obtain ⟨_, hT⟩ := FromIterFun.t_at_turn next it0 hs ht
  have hlen : (recvData 0 s.tr).length ≤ xs.length := (FromIter.srcSpec next it0 xs hx s hs ht).length_le
  refine ⟨?_, fun hd => ?_⟩
  · simp only [sem, hlen, if_true]
    rw [hT.nexts]; exact Nat.le_add_right _ _
  · have hall := FromIter.recv_all next it0 hx hs ht hd
    have hf := (finalsTo_iff hs (FromIter.fromIter_basicSafe next it0 s hs).1 0).1.2 hd
    simp only [sem]
    rw [hT.nexts, hf, hall]; exact Nat.le_refl _

end FromIterHead

section Calls
variable {St Loc α β : Type}

theorem sentData_cons_prefix (e : Ev α β) (tr : List (Ev α β)) : sentData 0 tr <+: sentData 0 (e :: tr) :=
  sentData_prefix_cons 0 e tr

theorem demOkSrcJ_cons (j : Nat) (D : Demand) (e : Ev α β) (tr : List (Ev α β)) :
    DemOkSrcJ j D (srcEvs (e :: tr)) ↔
      (e = .out (.srcUp j .pull) → wants D (sentS j (srcEvs tr)).length) ∧ DemOkSrcJ j D (srcEvs tr) := by
  cases e with
  | inp i => cases i <;> simp [DemOkSrcJ, srcEvs, srcEv]
  | out o => cases o <;> simp [DemOkSrcJ, srcEvs, srcEv]
  | _ => simp [srcEvs, srcEv]

/-- small-step scheme: upstream `j` is pulled only from configurations at which `D` wants more than `j` has sent -/
theorem demOkSrcJ_reach (M : Machine St Loc α β) (A : List (Ev α β) → Prop) (hA : ∀ e tr, A (e :: tr) → A tr) (j : Nat) (D : Demand)
    (h : ∀ st l stk g tr s' l', SReach M ⟨st, .run l :: stk, g, tr, none⟩ → M.step st l = .call (.srcUp j .pull) s' l' →
      A tr → wants D (sentS j (srcEvs tr)).length) :
    ∀ s, SReach M s → A s.tr → DemOkSrcJ j D (srcEvs s.tr) :=
  reach_calls M A (fun tr => DemOkSrcJ j D (srcEvs tr)) hA trivial
    (fun e tr he ih => (demOkSrcJ_cons j D e tr).2 ⟨fun hx => absurd hx (he _), ih⟩)
    (fun st l stk g tr o s' l' ha hst hC ih => (demOkSrcJ_cons j D _ tr).2 ⟨fun ho => by cases ho; exact h st l stk g tr s' l' ha hst hC, ih⟩)

theorem stageDem_of_pull {M : Machine St Loc α β} {up : Demand → Demand} {ys : List α}
    (h : ∀ dem st l stk g tr s' l', SReach M ⟨st, .run l :: stk, g, tr, none⟩ → M.step st l = .call (.srcUp 0 .pull) s' l' →
      DemOk dem (sinkEvs tr) → POkSrc 0 (srcEvs tr) → sentData 0 tr <+: ys → wants (up dem) (sentData 0 tr).length) :
    StageDem M up ys := fun dem s hs hD hP hS =>
  (demOkSrc_iff_J _ _).2 <| demOkSrcJ_reach M (fun tr => DemOk dem (sinkEvs tr) ∧ POkSrc 0 (srcEvs tr) ∧ sentData 0 tr <+: ys)
    (fun e tr hC => ⟨hC.1.tail, pOkSrc_tail_ev hC.2.1, (sentData_cons_prefix e tr).trans hC.2.2⟩) 0 (up dem)
    (fun st l stk g tr s' l' ha hst hC => sentData_eq 0 tr ▸ h dem st l stk g tr s' l' ha hst hC.1 hC.2.1 hC.2.2) s hs ⟨hD, hP, hS⟩

end Calls

section RelayStage
open RelayFun
variable {σ α β : Type}

/-- **a relay pulls upstream only while it wants more**: once per `Pull` it receives, once per item it drops -/
theorem Relay.stageDem (k : Relay.Kind σ α β) (hk : k.slotted = false → ∀ s a, (k.xfer s a).2 ≠ none) (up : Demand → Demand)
    (ys : List α) (hnone : up none = none)
    (hup : ∀ d ins, ins <+: ys → (xferOut k.xfer k.seed ins).length < d → wants (up (some d)) ins.length) :
    StageDem (Relay.machine k) up ys :=
  stageDem_of_pull fun dem st l stk g tr s' l' ha hst hD hP hS => by
    obtain ⟨s, m, hs, hi, -, hmac, heq⟩ :=
      Lands.call_cases (Relay.inv_init k) (fun s h => (Relay.inv_turn k s h).1) (Relay.macro_step k hk) ha hst
    have ht := (Relay.inv_turn k s hi).1
    obtain ⟨_, hT⟩ := t_at_turn k hk hs ht
    -- a `Pull` goes upstream for a `Pull` of the sink, or for an item dropped; either way the sink has an unserved `Pull` and
    -- everything received is accounted for
    have hio : recvData 0 tr = xferOut k.xfer k.seed (sentData 0 tr) ∧ aP tr = true := by
      cases hmac with
      | sinkUp u _ =>
        obtain rfl : .inp (.sinkUp 0 .pull) :: s.tr = tr := (List.cons.inj (congrArg Sys.tr heq)).2
        exact ⟨hT.io, rfl⟩
      | dataNone a _ hx =>
        obtain rfl : .inp (.srcDown 0 (.data a)) :: s.tr = tr := (List.cons.inj (congrArg Sys.tr heq)).2
        obtain ⟨hb, hP'⟩ := (pOkSrc_cons _ _).1 hP
        refine ⟨?_, Relay.pull_back k hk hs ht hP' (hb a rfl)⟩
        show recvData 0 s.tr = xferOut k.xfer k.seed (sentData 0 s.tr ++ [a])
        rw [xferOut_append, ← hT.st, hx, List.append_nil, hT.io]
    have hw := wants_of_lastPull hD hio.2
    rw [← recvData_eq, hio.1] at hw
    cases dem with
    | none => rw [hnone]; trivial
    | some d => exact hup d _ hS hw

theorem Relay.stageLow (k : Relay.Kind σ α β) (hk : k.slotted = false → ∀ s a, (k.xfer s a).2 ≠ none) (up : Demand → Demand)
    (ys : List α)
    (hlow : ∀ ins, ins <+: ys → Dle (up (some (xferOut k.xfer k.seed ins).length)) (some ins.length)) :
    StageLow (Relay.machine k) up ys := by
  intro s hs hstk hpre
  have ht := envTurn_of_top (Relay.relay_basicSafe k hk s hs).2 hstk
  exact ⟨by rw [relay_io k hk s hs ht]; exact hlow _ hpre, fun hd => .inl (Relay.ended_of_doneBySrc k hk hs ht hd)⟩

end RelayStage

section TakeStage
variable {α : Type}

def takeUp (max : Nat) : Demand → Demand
  | none => some max
  | some d => some (min max d)

/-- **`take` forwards a `Pull` only while it has let fewer than `max` items through** (and the sink wants more) -/
theorem Take.stageDem (max : Nat) (ys : List α) : StageDem (Take.machine α max) (takeUp max) ys :=
  stageDem_of_pull fun dem st l stk g tr s' l' ha hst hD _ _ => by
    obtain ⟨s, m, hs, hi, -, hmac, heq⟩ :=
      Lands.call_cases (Take.inv_init max) (fun s h => (Take.inv_turn max s h).1) (Take.macro_step max) ha hst
    -- the only macro step that ends in a `Pull` sent upstream: a `Pull` of the sink while fewer than `max` items are through
    cases hmac with
    | sinkEnd u hu _ => exact absurd rfl hu
    | pullFwd _ _ hlt =>
      obtain rfl : .inp (.sinkUp 0 .pull) :: s.tr = tr := (List.cons.inj (congrArg Sys.tr heq)).2
      have hT := (TakeFun.t_at_turn max hs (Take.inv_turn max s hi).1).2
      have hc := hT.cnt
      have hw : wants dem (recvData 0 s.tr).length := by have := wants_of_lastPull hD rfl; rwa [← recvData_eq] at this
      rw [hT.recvLen] at hw
      show wants (takeUp max dem) (sentData 0 s.tr).length
      cases dem with
      | none => show _ < max; omega
      | some d => have : _ < d := hw; show _ < min max d; omega

theorem Take.stageLow (max : Nat) (ys : List α) : StageLow (Take.machine α max) (takeUp max) ys := by
  intro s hs hstk _
  have ht := envTurn_of_top (Take.take_basicSafe max s hs).2 hstk
  obtain ⟨_, hT⟩ := TakeFun.t_at_turn max hs ht
  have hc := hT.cnt
  refine ⟨?_, TakeFun.doneBySrc_cases max hs ht⟩
  show min max _ ≤ _; rw [hT.recvLen]; omega

end TakeStage

/-! ## bounds that need no list

For a head over an iterator that may never end there is no `ys` and no `sem`; what remains of `HeadUp` is the case `dem = some d` with the
bound `d` itself, and a stage passes it on when the demand it passes on does not depend on the data (`map`, `scan`, `take`). -/

section Bounds
variable {S1 L1 S2 L2 α β γ : Type}

/-- under a sink that obeys the demand `some d`, at most `d` advances — for heads that need not have a list -/
def HeadUpD {St Loc α β : Type} (M : Machine St Loc α β) (nx : St → Nat) : Prop :=
  ∀ d s, SReach M s → DemOk (some d) (sinkEvs s.tr) → nx s.st ≤ d

theorem FromIter.headUpD {ι α α' : Type} (next : ι → Option (α × ι)) (it0 : ι) :
    HeadUpD (FromIter.machine α' next it0) (fun st => st.nexts) :=
  fun d s hs hd => Nat.le_trans (Nat.le_add_right _ _) (FromIterJ.K_reach next it0 d s hs hd).le

theorem HeadUpD.stage {M1 : Machine S1 L1 α β} {M2 : Machine S2 L2 β γ} {nx : S1 → Nat} {up : Demand → Demand}
    (h1 : HeadUpD M1 nx) (H : Hyp M1 M2) (hp : PullOnly M1) (h2 : ∀ ys, StageDem M2 up ys) (dem : Demand) (d : Nat)
    (hup : up dem = some d) :
    ∀ s, SReach (Cb.compose M1 M2) s → DemOk dem (sinkEvs s.tr) → nx s.st.1 ≤ d := by
  intro s hs hd
  obtain ⟨s1, s2, hr1, hst, _, h⟩ := demOk_up H hp hs hd
  exact hst ▸ h1 d s1 hr1 (hup ▸ h _ (h2 _) (List.prefix_refl _))

theorem bound_compose {M1 : Machine S1 L1 α β} {M2 : Machine S2 L2 β γ} {nx : S1 → Nat} {n : Nat}
    (H : Hyp M1 M2) (h : ∀ s, SReach M1 s → nx s.st ≤ n) : ∀ s, SReach (Cb.compose M1 M2) s → nx s.st.1 ≤ n := by
  intro s hs
  obtain ⟨s1, s2, hr1, hr2, hm, ht⟩ := compose_inv_tr H s hs
  have hst : s.st = (s1.st, s2.st) := hm.st
  rw [hst]; exact h s1 hr1

end Bounds

/-! Abbreviations that refute an impossible step of `FromIter.step` / `Relay.step` / `Take.step` by unfolding it; no proof here calls them. -/

namespace FromIterJ

macro "jstp" h:ident : tactic =>
  `(tactic| first
      | (simp [FromIter.machine, FromIter.step] at $h:ident; done)
      | (simp [FromIter.machine, FromIter.step] at $h:ident; split at $h:ident <;> simp at $h:ident; done)
      | (simp [FromIter.machine, FromIter.step] at $h:ident; split at $h:ident <;> (try split at $h:ident) <;> simp at $h:ident; done))

end FromIterJ

namespace RelayF

macro "rstp" h:ident : tactic =>
  `(tactic| first
      | (simp [Relay.machine, Relay.step] at $h:ident; done)
      | (simp [Relay.machine, Relay.step] at $h:ident; split at $h:ident <;> simp at $h:ident; done))

end RelayF

namespace TakeF

macro "tstp" h:ident : tactic =>
  `(tactic| first
      | (simp [Take.machine, Take.step] at $h:ident; done)
      | (simp [Take.machine, Take.step] at $h:ident; split at $h:ident <;> simp at $h:ident; done))

end TakeF

end ComposeCost
end Cb

#print axioms Cb.ComposeCost.HeadUp.compose
#print axioms Cb.ComposeCost.HeadLow.compose
#print axioms Cb.ComposeCost.FromIter.headUp
#print axioms Cb.ComposeCost.FromIter.headLow
#print axioms Cb.ComposeCost.Relay.stageDem
#print axioms Cb.ComposeCost.Relay.stageLow
#print axioms Cb.ComposeCost.Take.stageDem
#print axioms Cb.ComposeCost.Take.stageLow
