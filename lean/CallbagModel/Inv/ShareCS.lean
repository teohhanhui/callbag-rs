import CallbagModel.SemCS
import CallbagModel.Inv.Ghost2
import CallbagModel.Inv.ShareWeak
/-!
# share under EVERY conformant environment, with or without cross-sink calls: the known deviations are the only ones

One invariant (`CInv cs`), one description of the macro steps (`CMacro cs`) and one step theorem (`macro_step`, in the form `Lands`) for
two environments: the conformant environments of `legalIn`
(`cs := False`; nested fan-out included) and the cross-sink environment of `SemCS.lean` (`cs := True`), in which, while `share` is
delivering (greeting, data, terminal) to one sink, any LIVE sink may pull or dispose.  The narrower environment `noNestedFanout` takes
its macro steps from the same analysis (`macro_step` at `cs := False`; `Inv/ShareFull.lean`).  What cross-sink calls add:

* while a greeting or a DATA delivery is open, a cross-sink call is handled exactly like a call of the sink being served: the `core`
  mode never relates the remaining sinks `r` of a fan-out frame to `st.sinks` or to liveness.  A cross-sink `Terminate`
  of the last listed sink makes `share` terminate its (live) upstream while the snapshot loop goes on: the later deliveries of that
  loop hit disposed sinks (`afterDispose`, KF5c);
* while a TERMINAL fan-out is open (`tfan`; under `legalIn` nobody can call there), a live sink — necessarily one not notified yet —
  may dispose: it is spliced out of `st.sinks`, which still contains the sinks already notified (they are not live, so they cannot
  dispose): the list never becomes empty and NO `Terminate` goes to the upstream that has just ended; the sink stays in the
  snapshot and gets the terminal after its disposal (`afterDispose`, KF5c).  Or it may pull: the `Pull` is forwarded to the ended
  upstream (`upNotLive j .ended`, KF5d) — mode `tpull`, in which the environment can only return.
-/
namespace Cb.ShareCS
open Cb.Share Cb.ShareWeak

variable {α : Type}

/-- the known deviations: late deliveries (KF5a–c) and a message to the upstream that has just ended (KF5d) -/
def OnlyKnown (vs : List Viol) : Prop :=
  ∀ v ∈ vs, (∃ k, v = Viol.afterTerm k) ∨ (∃ k, v = Viol.afterDispose k) ∨ (∃ i, v = Viol.upNotLive i .ended)

def Known (cs : Prop) (vs : List Viol) : Prop :=
  ∀ v ∈ vs, (∃ k, v = Viol.afterTerm k) ∨ (∃ k, v = Viol.afterDispose k) ∨ (cs ∧ ∃ i, v = Viol.upNotLive i .ended)

theorem Known.onlyKnown {cs : Prop} {vs : List Viol} (h : Known cs vs) : OnlyKnown vs :=
  fun v hv => (h v hv).imp id (Or.imp id And.right)

theorem Known.onlyLate {vs : List Viol} (h : Known False vs) : OnlyLateDelivery vs :=
  fun v hv => (h v hv).imp id (fun h => h.resolve_right (fun h => h.1))

theorem Known.cons {cs : Prop} {vs : List Viol} (h : Known cs vs) {v : Viol}
    (hv : (∃ k, v = Viol.afterTerm k) ∨ (∃ k, v = Viol.afterDispose k) ∨ (cs ∧ ∃ i, v = Viol.upNotLive i .ended)) :
    Known cs (v :: vs) := by
  intro v' hv'
  rcases List.mem_cons.1 hv' with rfl | hv'
  · exact hv
  · exact h v' hv'

theorem down_viols {cs : Prop} (g : Ph) (s : Nat) (d : Down α) (hg : Greeted g s) (hv : Known cs g.viols) :
    Known cs (g.onOut (.down s d : Out α)).viols := by
  rcases hg with h | h | h
  · rw [Ph.onOut_of_accepts (o := .down s d) h, Ph.viols_after]; exact hv
  · rw [Ph.onOut_of_not_accepts (o := .down s d) (fun h' : g.sinkPh s = .live => nomatch h.symm.trans h')]
    exact hv.cons (.inl ⟨s, by simp only [Ph.violOf, h]⟩)
  · rw [Ph.onOut_of_not_accepts (o := .down s d) (fun h' : g.sinkPh s = .live => nomatch h.symm.trans h')]
    exact hv.cons (.inr (.inl ⟨s, by simp only [Ph.violOf, h]⟩))

theorem pull_ended_eq (g : Ph) (j : Nat) (hj : g.srcPh j = .ended) :
    g.onOut (.srcUp j .pull : Out α) = g.flag (.upNotLive j .ended) := by
  rw [Ph.onOut_of_not_accepts (o := .srcUp j .pull) (fun h : g.srcPh j = .live => nomatch hj.symm.trans h)]
  simp only [Ph.violOf, hj]

/-! The modes of `Inv/Share.lean` with the weaker description of the stack of `Inv/ShareWeak.lean` (`SOK`); `tpull` (cross-sink
only) is `tfan` with the frame of the stray `Pull` on top. -/

structure TFan (st : St) (g : Ph) (r : List Nat) : Prop where
  greeted : ∀ x ∈ r, Greeted g x
  lives : ∀ k, g.sinkPh k = .live → k ∈ r
  nosub : ∀ k, g.sinkPh k ≠ .subscribed
  nosrc : ∀ i, g.srcPh i ≠ .live ∧ g.srcPh i ≠ .subscribed
  slot : ∃ j, st.slot = some j ∧ g.srcPh j = .ended
  /-- the sink list still contains a sink that has been notified: a disposal never empties it -/
  keep : ∃ x ∈ st.sinks, g.sinkPh x ≠ .live

theorem TFan.congr {st : St} {g g' : Ph} {r : List Nat} (h : TFan st g r) (hs : ∀ k, g'.sinkPh k = g.sinkPh k)
    (hr : ∀ i, g'.srcPh i = g.srcPh i) : TFan st g' r :=
  ⟨fun x hx => (h.greeted x hx).congr (hs x), fun k hk => h.lives k (by rw [← hs]; exact hk), fun k => by rw [hs]; exact h.nosub k,
    fun i => by rw [hr]; exact h.nosrc i, by obtain ⟨j, h1, h2⟩ := h.slot; exact ⟨j, h1, by rw [hr]; exact h2⟩,
    by obtain ⟨x, h1, h2⟩ := h.keep; exact ⟨x, h1, by rw [hs]; exact h2⟩⟩

theorem TFan.next {st : St} {g : Ph} {s1 : Nat} {r1 : List Nat} {d : Down α} (h : TFan st g (s1 :: r1)) (hd : isEndD d = true) :
    TFan st (g.onOut (.down s1 d : Out α)) r1 := by
  refine ⟨fun x hx => down_greeted _ _ _ x (h.greeted x (by simp [hx])), fun k hk => ?_, down_nosub _ _ _ h.nosub,
    fun i => by rw [Ph.srcPh_onOut_down]; exact h.nosrc i, ?_, ?_⟩
  · have hk0 : k ≠ s1 := by rintro rfl; exact Ph.onOut_final_ne_live _ _ (isFinal_of_isEndD hd) hk
    have := h.lives k (down_live_back _ _ _ _ hk)
    simpa [hk0] using this
  · obtain ⟨j, h1, h2⟩ := h.slot; exact ⟨j, h1, by rw [Ph.srcPh_onOut_down]; exact h2⟩
  · obtain ⟨x, h1, h2⟩ := h.keep; exact ⟨x, h1, fun h' => h2 (down_live_back _ _ _ _ h')⟩

theorem TFan.dispose {st : St} {g : Ph} {r : List Nat} {k : Nat} (h : TFan st g r) (hlive : g.sinkPh k = .live) :
    st.sinks.erase k ≠ [] ∧ TFan { st with sinks := st.sinks.erase k } (g.setSink k .doneBySelf) r := by
  obtain ⟨x, hx, hxl⟩ := h.keep
  have hxk : x ≠ k := by rintro rfl; exact hxl hlive
  have hx' : x ∈ st.sinks.erase k := (List.mem_erase_of_ne hxk).2 hx
  refine ⟨List.ne_nil_of_mem hx', fun y hy => (h.greeted y hy).setSink _ _ (Or.inr (Or.inr rfl)), fun k' hk' => ?_, fun k' => ?_,
    h.nosrc, h.slot, ⟨x, hx', by simpa [hxk] using hxl⟩⟩
  · by_cases hkk : k' = k
    · simp [hkk] at hk'
    · exact h.lives k' (by simpa [hkk] using hk')
  · by_cases hkk : k' = k
    · simp [hkk]
    · simp [hkk]; exact h.nosub k'

inductive CMode (st : St) (g : Ph) (stk : List (Fr α)) : Prop where
  | core : Core st g → SOK g stk → CMode st g stk
  | waiting (k : Nat) : stk = [.wait (.subSrc (st.gen - 1)) .done] → Waiting st g k → CMode st g stk
  | tfan (s : Nat) (d : Down α) (r : List Nat) (rest : List (Fr α)) :
      stk = .wait (.down s d) (.fLoop r d) :: rest → isEndD d = true → SOK g rest → TFan st g r → CMode st g stk
  | tpull (j s : Nat) (d : Down α) (r : List Nat) (rest : List (Fr α)) :
      stk = .wait (.srcUp j .pull) .done :: .wait (.down s d) (.fLoop r d) :: rest → isEndD d = true → SOK g rest → TFan st g r →
      CMode st g stk

def CInv' (cs : Prop) (st : St) (stk : List (Fr α)) (ph : Ph) : Prop := Known cs ph.viols ∧ Gen st ph ∧ CMode st ph stk

def CInv (cs : Prop) (s : Cfg α) : Prop := s.panicked = none ∧ CInv' cs s.st s.stack s.g.ph

def P (cs : Prop) (s : Cfg α) : Prop := Known cs s.g.ph.viols ∧ s.panicked = none

theorem inv_turn {cs : Prop} (s : Cfg α) (h : CInv cs s) : EnvTurn s ∧ P cs s := by
  obtain ⟨hp, hv, _, hm⟩ := h
  refine ⟨⟨hp, ?_⟩, hv, hp⟩
  cases hm with
  | core _ hs => exact ctx_isSome_of_waits not_frameOK_run hs
  | waiting k he => rw [he]; rfl
  | tfan s0 d r rest he => rw [he]; rfl
  | tpull j s0 d r rest he => rw [he]; rfl

theorem inv_init {cs : Prop} : CInv cs (Sys.init (machine α)) :=
  ⟨rfl, fun v hv => (List.not_mem_nil hv).elim, ⟨rfl, fun i _ => Ph.srcPh_empty i⟩,
    .core (core_of_quiet (st := {}) (by simp [Sys.init]) (by simp [Sys.init]) (by simp [Sys.init])) (SOK.nil _)⟩

/-- In the form of `Share.Macro`; `strayPull`, `strayDispose` and `retStray` exist with cross-sink calls only. -/
inductive CMacro (cs : Prop) (s : Cfg α) : Move α → St → Option (Out α × Loc α) → Prop
  | subFirst (k : Nat) (h0 : s.stack = []) (hc : Core s.st s.g.ph) (he : s.st.sinks = []) :
      CMacro cs s (.call (.subscribe k)) { s.st with sinks := [k], gen := s.st.gen + 1, first := s.st.first ++ [k] }
        (some (.subSrc s.st.gen, .done))
  | subMore (k : Nat) (h0 : s.stack = []) (hc : Core s.st s.g.ph) (he : s.st.sinks ≠ []) (hk : s.g.ph.sinkPh k = .idle) :
      CMacro cs s (.call (.subscribe k)) { s.st with sinks := s.st.sinks ++ [k] } (some (.greet k, .done))
  | pull (k : Nat) (hc : Core s.st s.g.ph) (hs : SOK s.g.ph s.stack) (hk : s.g.ph.sinkPh k = .live) :
      CMacro cs s (.call (.sinkUp k .pull)) s.st (some (.srcUp (s.st.gen - 1) .pull, .done))
  | disposeLast (k : Nat) (u : Up) (hu : u ≠ .pull) (hc : Core s.st s.g.ph) (hs : SOK s.g.ph s.stack) (hk : s.g.ph.sinkPh k = .live)
      (he : s.st.sinks.erase k = []) {c : Ctx α} (hcx : ctxOf s.stack = some c)
      (hctx : isTop c = true ∨ inGreet k c = true ∨ inData k c = true ∨ (cs ∧ inDelivery c = true)) :
      CMacro cs s (.call (.sinkUp k u)) { s.st with sinks := [] } (some (.srcUp (s.st.gen - 1) .term, .done))
  | disposeSome (k : Nat) (u : Up) (hu : u ≠ .pull) (hc : Core s.st s.g.ph) (hs : SOK s.g.ph s.stack)
      (he : s.st.sinks.erase k ≠ []) {c : Ctx α} (hcx : ctxOf s.stack = some c)
      (hctx : isTop c = true ∨ inGreet k c = true ∨ inData k c = true ∨ (cs ∧ inDelivery c = true)) :
      CMacro cs s (.call (.sinkUp k u)) { s.st with sinks := s.st.sinks.erase k } none
  | greet (k : Nat) (hstk : s.stack = [.wait (.subSrc (s.st.gen - 1)) .done]) (w : Waiting s.st s.g.ph k) :
      CMacro cs s (.call (.srcGreet (s.st.gen - 1))) { s.st with slot := some (s.st.gen - 1) } (some (.greet k, .done))
  | downData (i : Nat) (a : α) {s0 : Nat} {r : List Nat} (hc : Core s.st s.g.ph) (hs : SOK s.g.ph s.stack)
      (hsr : s.st.sinks = s0 :: r) :
      CMacro cs s (.call (.srcDown i (.data a))) s.st (some (.down s0 (.data a), .fLoop r (.data a)))
  | downEnd (i : Nat) (d : Down α) (hd : isEndD d = true) {s0 : Nat} {r : List Nat} (hc : Core s.st s.g.ph)
      (hs : SOK s.g.ph s.stack) (hi : s.g.ph.srcPh i = .live) (hsr : s.st.sinks = s0 :: r) :
      CMacro cs s (.call (.srcDown i d)) s.st (some (.down s0 d, .fLoop r d))
  | ret {stk : List (Fr α)} (o : Out α) (hstk : s.stack = .wait o .done :: stk) (hc : Core s.st s.g.ph) (hs : SOK s.g.ph stk) :
      CMacro cs s .ret s.st none
  | retDataNil {stk : List (Fr α)} (s0 : Nat) (a : α) (hstk : s.stack = .wait (.down s0 (.data a)) (.fLoop [] (.data a)) :: stk)
      (hc : Core s.st s.g.ph) (hs : SOK s.g.ph stk) : CMacro cs s .ret s.st none
  /-- the next sink of the snapshot may be done by now (nested terminal or disposal, cross-sink disposal): a late delivery -/
  | retDataCons {stk : List (Fr α)} (s0 : Nat) (a : α) (s1 : Nat) (r1 : List Nat)
      (hstk : s.stack = .wait (.down s0 (.data a)) (.fLoop (s1 :: r1) (.data a)) :: stk) (hc : Core s.st s.g.ph) (hs : SOK s.g.ph stk)
      (hr : ∀ x ∈ s1 :: r1, Greeted s.g.ph x) : CMacro cs s .ret s.st (some (.down s1 (.data a), .fLoop r1 (.data a)))
  | retEndNil {stk : List (Fr α)} (s0 : Nat) (d : Down α) (hstk : s.stack = .wait (.down s0 d) (.fLoop [] d) :: stk)
      (hd : isEndD d = true) (hs : SOK s.g.ph stk) (ht : TFan s.st s.g.ph []) : CMacro cs s .ret { s.st with sinks := [] } none
  | retEndCons {stk : List (Fr α)} (s0 : Nat) (d : Down α) (s1 : Nat) (r1 : List Nat)
      (hstk : s.stack = .wait (.down s0 d) (.fLoop (s1 :: r1) d) :: stk) (hd : isEndD d = true) (hs : SOK s.g.ph stk)
      (ht : TFan s.st s.g.ph (s1 :: r1)) : CMacro cs s .ret s.st (some (.down s1 d, .fLoop r1 d))
  /-- KF5d: the `Pull` of a sink not notified yet goes to the upstream that has just ended -/
  | strayPull {rest : List (Fr α)} {s0 : Nat} {d : Down α} {r : List Nat} (k j : Nat)
      (hstk : s.stack = .wait (.down s0 d) (.fLoop r d) :: rest) (hcs : cs) (hd : isEndD d = true) (hs : SOK s.g.ph rest)
      (ht : TFan s.st s.g.ph r) (hj : s.g.ph.srcPh j = .ended) :
      CMacro cs s (.call (.sinkUp k .pull)) s.st (some (.srcUp j .pull, .done))
  /-- KF5c during a terminal fan-out: a sink not served yet disposes, no `Terminate` goes upstream -/
  | strayDispose {rest : List (Fr α)} {s0 : Nat} {d : Down α} {r : List Nat} (k : Nat) (u : Up) (hu : u ≠ .pull)
      (hstk : s.stack = .wait (.down s0 d) (.fLoop r d) :: rest) (hcs : cs) (hd : isEndD d = true) (hs : SOK s.g.ph rest)
      (ht : TFan s.st s.g.ph r) (hk : s.g.ph.sinkPh k = .live) :
      CMacro cs s (.call (.sinkUp k u)) { s.st with sinks := s.st.sinks.erase k } none
  | retStray {rest : List (Fr α)} (j s0 : Nat) (d : Down α) (r : List Nat)
      (hstk : s.stack = .wait (.srcUp j .pull) .done :: .wait (.down s0 d) (.fLoop r d) :: rest) (hd : isEndD d = true)
      (hs : SOK s.g.ph rest) (ht : TFan s.st s.g.ph r) : CMacro cs s .ret s.st none

theorem sink_cases {cs : Prop} {st : St} {stk : List (Fr α)} {ph : Ph} {c : Ctx α} {k : Nat}
    (hm : CMode st ph stk) (hc : ctxOf stk = some c) (hlive : ph.sinkPh k = .live)
    (hctx : isTop c = true ∨ inGreet k c = true ∨ inData k c = true ∨ (cs ∧ inDelivery c = true)) :
    (Core st ph ∧ SOK ph stk) ∨
      (cs ∧ ∃ s d r rest, stk = .wait (.down s d) (.fLoop r d) :: rest ∧ isEndD d = true ∧ SOK ph rest ∧ TFan st ph r) := by
  rcases hm with ⟨hcore, hs⟩ | ⟨k0, hs, w⟩ | ⟨s, d, r, rest, hs, hd, hrest, ht⟩ | ⟨j, s, d, r, rest, hs, _⟩
  · exact Or.inl ⟨hcore, hs⟩
  · by_cases hk : k = k0
    · subst hk; rw [w.sub] at hlive; cases hlive
    · exact absurd hlive (w.others k hk).1
  · subst hs
    simp [ctxOf] at hc; subst hc
    have hcs : cs := by cases d <;> simp [isEndD, isTop, inGreet, inData] at hd hctx <;> exact hctx.1
    exact Or.inr ⟨hcs, s, d, r, rest, rfl, hd, hrest, ht⟩
  · subst hs
    simp [ctxOf] at hc; subst hc
    simp [isTop, inGreet, inData, inDelivery] at hctx

theorem src_live_core {st : St} {stk : List (Fr α)} {ph : Ph} {i : Nat}
    (hm : CMode st ph stk) (hlive : ph.srcPh i = .live) : Core st ph ∧ SOK ph stk := by
  rcases hm with ⟨hcore, hs⟩ | ⟨k, _, w⟩ | ⟨s, d, r, rest, _, _, _, ht⟩ | ⟨j, s, d, r, rest, _, _, _, ht⟩
  · exact ⟨hcore, hs⟩
  · by_cases hi : i = st.gen - 1
    · subst hi; rw [w.src] at hlive; cases hlive
    · exact absurd hlive (w.srcs i hi).1
  · exact absurd hlive (ht.nosrc i).1
  · exact absurd hlive (ht.nosrc i).1

theorem greet_waiting {st : St} {stk : List (Fr α)} {ph : Ph} {i : Nat} (hm : CMode st ph stk) (hsub : ph.srcPh i = .subscribed) :
    i = st.gen - 1 ∧ stk = [.wait (.subSrc (st.gen - 1)) .done] ∧ ∃ k, Waiting st ph k := by
  rcases hm with ⟨hcore, _⟩ | ⟨k, hs, w⟩ | ⟨s, d, r, rest, _, _, _, ht⟩ | ⟨j, s, d, r, rest, _, _, _, ht⟩
  · exact absurd hsub (hcore.nosrcsub i)
  · exact ⟨Decidable.by_contra (fun hi => (w.srcs i hi).2 hsub), hs, k, w⟩
  · exact absurd hsub (ht.nosrc i).2
  · exact absurd hsub (ht.nosrc i).2

theorem sinkUp_legal {cs : Prop} {g : Ph} {c : Ctx α} {k : Nat} {u : Up}
    (hl : legalInCS (machine α).shape g c (In.sinkUp k u : In α) = true)
    (hx : cs ∨ legalIn (machine α).shape g c (In.sinkUp k u : In α) = true) :
    g.sinkPh k = .live ∧ (isTop c = true ∨ inGreet k c = true ∨ inData k c = true ∨ (cs ∧ inDelivery c = true)) := by
  have key : ∀ hl' : legalIn (machine α).shape g c (In.sinkUp k u : In α) = true,
      g.sinkPh k = .live ∧ (isTop c = true ∨ inGreet k c = true ∨ inData k c = true ∨ (cs ∧ inDelivery c = true)) := by
    intro hl'
    rcases legalIn_sinkUp.1 hl' with ⟨h1, (h2 | h2) | h2⟩
    · exact ⟨h1, Or.inl h2⟩
    · exact ⟨h1, Or.inr (Or.inl h2)⟩
    · exact ⟨h1, Or.inr (Or.inr (Or.inl h2))⟩
  rcases hx with hcs | hl'
  · simp only [legalInCS, Bool.or_eq_true] at hl
    rcases hl with hl | hl
    · exact key hl
    · simp only [crossSink, Bool.and_eq_true, beq_iff_eq] at hl
      exact ⟨hl.1.2, Or.inr (Or.inr (Or.inr ⟨hcs, hl.2⟩))⟩
  · exact key hl'

theorem legalIn_of_legalInCS {g : Ph} {c : Ctx α} {i : In α} (hi : ∀ k u, i ≠ .sinkUp k u)
    (hl : legalInCS (machine α).shape g c i = true) : legalIn (machine α).shape g c i = true := by
  cases i with
  | sinkUp k u => exact absurd rfl (hi k u)
  | _ => simpa [legalInCS, crossSink] using hl

/-- The only analysis of modes and handler branches of `share` (every move of the cross-sink environment if `cs`, the `legalIn`
moves otherwise). -/
theorem cmacro_of_step {cs : Prop} {s s' : Cfg α} {m : Move α} (h : CInv cs s) (hs : EnvStepCS (machine α) m s s')
    (hx : cs ∨ EnvStep (machine α) m s s') :
    ∃ st r, CMacro cs s m st r ∧ ∃ n, advance (machine α) n s' = s.next (machine α).shape st m r := by
  obtain ⟨_, _, _, hm⟩ := h
  cases hs with
  | @call st stk g tr c i hc hl =>
    simp only at hm
    suffices h : ∃ st' r, CMacro cs ⟨st, stk, g, tr, none⟩ (.call i) st' r ∧ Runs (machine α) st (enter i) st' r from
      have ⟨st', r, hm, hr⟩ := h
      ⟨st', r, hm, hr _ _ _⟩
    cases i with
    | subscribe k =>
      have hl := (legalIn_subscribe.1 (legalIn_of_legalInCS (by simp) hl)).1
      obtain rfl := stk_nil_of_top hc hl.1
      rcases hm with ⟨hcore, _⟩ | ⟨k0, hs, _⟩ | ⟨s, d, r, rest, hs, _⟩ | ⟨j, s, d, r, rest, hs, _⟩
      · by_cases he : st.sinks = []
        · exact ⟨_, _, .subFirst k rfl hcore he, run_s0_first k he⟩
        · exact ⟨_, _, .subMore k rfl hcore he hl.2, run_s0_more k he⟩
      · cases hs
      · cases hs
      · cases hs
    | sinkUp k u =>
      obtain ⟨hlive, hctx⟩ := sinkUp_legal hl (hx.imp id (fun he => he.legal_of_call hc))
      rcases sink_cases hm hc hlive hctx with ⟨hcore, hs⟩ | ⟨hcs, s, d, r, rest, rfl, hd, hrest, ht⟩
      · have hslot := (hcore.up_of_live hlive).2
        have hdis : ∀ u' : Up, u' ≠ .pull → ∃ st' r, CMacro cs ⟨st, stk, g, tr, none⟩ (.call (.sinkUp k u')) st' r ∧
            Runs (machine α) st (.x0 k) st' r := by
          intro u' hu
          by_cases he : st.sinks.erase k = []
          · exact ⟨_, _, .disposeLast k u' hu hcore hs hlive he hc hctx, run_x0_last k he hslot⟩
          · exact ⟨_, _, .disposeSome k u' hu hcore hs he hc hctx, run_x0_some k he⟩
        cases u with
        | pull => exact ⟨_, _, .pull k hcore hs hlive, run_p0 hslot⟩
        | term => exact hdis .term (fun h => nomatch h)
        | err e => exact hdis (.err e) (fun h => nomatch h)
      · obtain ⟨j, hslot, hj⟩ := ht.slot
        have he := (ht.dispose hlive).1
        cases u with
        | pull => exact ⟨_, _, .strayPull k j rfl hcs hd hrest ht hj, run_p0 hslot⟩
        | term => exact ⟨_, _, .strayDispose k .term (fun h => nomatch h) rfl hcs hd hrest ht hlive, run_x0_some k he⟩
        | err e => exact ⟨_, _, .strayDispose k (.err e) (fun h => nomatch h) rfl hcs hd hrest ht hlive, run_x0_some k he⟩
    | srcGreet i =>
      obtain ⟨rfl, rfl, k, w⟩ := greet_waiting hm (legalIn_srcGreet.1 (legalIn_of_legalInCS (by simp) hl)).1
      exact ⟨_, _, .greet k rfl w, w.first ▸ run_g0 (st.gen - 1)⟩
    | srcDown i d =>
      have hlive : g.ph.srcPh i = .live := (legalIn_srcDown.1 (legalIn_of_legalInCS (by simp) hl)).1
      obtain ⟨hcore, hs⟩ := src_live_core hm hlive
      obtain ⟨s0, r, hsr⟩ := List.exists_cons_of_ne_nil (hcore.live i hlive).2
      cases d with
      | data a => exact ⟨_, _, .downData i a hcore hs hsr, run_f0 hsr _⟩
      | term => exact ⟨_, _, .downEnd i .term rfl hcore hs hlive hsr, run_f0 hsr _⟩
      | err e => exact ⟨_, _, .downEnd i (.err e) rfl hcore hs hlive hsr, run_f0 hsr _⟩
  | @ret st stk g tr o l hl =>
    simp only at hm
    suffices h : ∃ st' r, CMacro cs ⟨st, .wait o l :: stk, g, tr, none⟩ .ret st' r ∧ Runs (machine α) st l st' r from
      have ⟨st', r, hm, hr⟩ := h
      ⟨st', r, hm, hr _ _ _⟩
    rcases hm with ⟨hcore, hs⟩ | ⟨k, hs, w⟩ | ⟨s, d, r, rest, hs, hd, hrest, ht⟩ | ⟨j, s, d, r, rest, hs, hd, hrest, ht⟩
    · rcases hs _ List.mem_cons_self with ⟨o', ho'⟩ | ⟨s0, a, r, he, hr⟩
      · cases ho'
        exact ⟨_, _, .ret o rfl hcore hs.tail, .ret rfl⟩
      · cases he
        cases r with
        | nil => exact ⟨_, _, .retDataNil s0 a rfl hcore hs.tail, run_fLoop_nil_data a⟩
        | cons s1 r1 => exact ⟨_, _, .retDataCons s0 a s1 r1 rfl hcore hs.tail hr, run_fLoop_cons s1 r1 _⟩
    · cases hs
      simp [legalRet, machine, w.src] at hl
    · cases hs
      cases r with
      | nil => exact ⟨_, _, .retEndNil s d rfl hd hrest ht, run_fLoop_nil_end hd⟩
      | cons s1 r1 => exact ⟨_, _, .retEndCons s d s1 r1 rfl hd hrest ht, run_fLoop_cons s1 r1 d⟩
    · cases hs
      exact ⟨_, _, .retStray j s d r rfl hd hrest ht, .ret rfl⟩

theorem cinv_call {cs : Prop} {st : St} {o : Out α} {l : Loc α} {stk : List (Fr α)} {g : G} {tr : List (Ev α α)}
    (h : CInv' cs st (.wait o l :: stk) (g.ph.onOut o)) : CInv cs (Sys.ends (machine α).shape st stk g tr (some (o, l))) :=
  ⟨rfl, by rw [Sys.ends_some_ph]; exact h⟩

theorem cinv_ret {cs : Prop} {st : St} {stk : List (Fr α)} {g : G} {tr : List (Ev α α)} (h : CInv' cs st stk g.ph) :
    CInv cs (Sys.ends (machine α).shape st stk g tr none) :=
  ⟨rfl, by rw [Sys.ends_none_ph]; exact h⟩

theorem _root_.Cb.ShareWeak.SOK.dispose {g : Ph} {stk : List (Fr α)} (h : SOK g stk) (k : Nat) : SOK (g.setSink k .doneBySelf) stk :=
  h.mono (fun _ hx => hx.setSink _ _ (Or.inr (Or.inr rfl)))

theorem CMacro.inv {cs : Prop} {s : Cfg α} {m : Move α} {st : St} {r : Option (Out α × Loc α)} (hm : CMacro cs s m st r)
    (h : CInv cs s) : CInv cs (s.next (machine α).shape st m r) := by
  have hv : Known cs s.g.ph.viols := h.2.1
  have hgen : Gen s.st s.g.ph := h.2.2.1
  cases hm with
  | subFirst k h0 hc he =>
    refine cinv_call ?_
    rw [h0, onIn_ph, Ph.onIn_subscribe,
      Ph.onOut_subSrc (g := s.g.ph.setSink k .subscribed) (hgen.2 _ (Nat.le_refl _)) ((Ph.anySinkOpen_iff _).2 ⟨k, by simp⟩)]
    exact ⟨hv, (hgen.setSink k _).sub_first _ k _, .waiting k rfl (hc.sub_first he hgen.1 k)⟩
  | subMore k h0 hc he hk =>
    refine cinv_call ?_
    rw [h0, onIn_ph, Ph.onIn_subscribe, Ph.onOut_greet (by simp)]
    exact ⟨hv, hgen, .core (hc.sub_more he hk) ((SOK.nil _).cons_done _)⟩
  | pull k hc hs hk =>
    refine cinv_call ?_
    rw [onIn_ph, Ph.onIn_pull, Ph.onOut_pull (hc.up_of_live hk).1]
    exact ⟨hv, hgen, .core hc (hs.cons_done _)⟩
  | disposeLast k u hu hc hs hk he _ _ =>
    have hup := (hc.up_of_live hk).1
    refine cinv_call ?_
    rw [onIn_ph, Ph.onIn_sinkEnd _ _ hu, Ph.onOut_srcEnd (u := .term) (by simpa using hup) (fun h => nomatch h)]
    exact ⟨hv, (hgen.setSink k _).setSrc (by simp [hup]) _, .core (hc.dispose_last k he) ((hs.dispose k).cons_done _)⟩
  | disposeSome k u hu hc hs he _ _ =>
    refine cinv_ret ?_
    rw [onIn_ph, Ph.onIn_sinkEnd _ _ hu]
    exact ⟨hv, hgen, .core (hc.dispose_some k he) (hs.dispose k)⟩
  | greet k hstk w =>
    refine cinv_call ?_
    rw [hstk, onIn_ph, Ph.onIn_srcGreet, Ph.onOut_greet (by simpa using w.sub)]
    exact ⟨hv, hgen.setSrc (by rw [w.src]; simp) _, .core w.greeted (((SOK.nil _).cons_done _).cons_done _)⟩
  | @downData i a s0 r hc hs hsr =>
    refine cinv_call ?_
    rw [onIn_ph, Ph.onIn_data, Ph.onOut_data ((hc.mem s0).1 (by simp [hsr])) a]
    exact ⟨hv, hgen, .core hc (hs.cons_fan s0 a r (fun x hx => Or.inl ((hc.mem x).1 (by simp [hsr, hx]))))⟩
  | @downEnd i d hd s0 r hc hs hi hsr =>
    obtain ⟨hi', hne⟩ := hc.live i hi
    refine cinv_call ?_
    rw [onIn_ph, Ph.onIn_srcEnd _ _ (isFinal_of_isEndD hd),
      Ph.onOut_final (by simpa using (hc.mem s0).1 (by simp [hsr])) (isFinal_of_isEndD hd)]
    obtain ⟨h1, h2, h3⟩ := hc.ended hi hsr
    exact ⟨hv, hgen.setSrc (by rw [hi]; simp) _, .tfan s0 d r _ rfl hd
      (hs.mono (fun x hx => (hx.congr rfl).setSink _ _ (Or.inr (Or.inl rfl))))
      ⟨fun x hx => Or.inl ((h1 x).2 hx), fun k => (h1 k).1, h2, h3, ⟨i, by rw [(hc.up hne).2, hi'], by simp⟩, ⟨s0, by simp [hsr], by simp⟩⟩⟩
  | ret o hstk hc hs => rw [Sys.next_ret hstk]; exact cinv_ret ⟨hv, hgen, .core hc hs⟩
  | retDataNil s0 a hstk hc hs => rw [Sys.next_ret hstk]; exact cinv_ret ⟨hv, hgen, .core hc hs⟩
  | @retDataCons stk s0 a s1 r1 hstk hc hs hr =>
    rw [Sys.next_ret hstk]
    exact cinv_call ⟨down_viols _ _ _ (hr s1 (by simp)) hv, hgen.congr (Ph.srcPh_onOut_down _ _ _),
      .core (core_congr hc (down_data_sinkPh _ _ _) (Ph.srcPh_onOut_down _ _ _))
        ((hs.cons_fan s1 a r1 (fun x hx => hr x (by simp [hx]))).mono (fun x hx => down_greeted _ _ _ x hx))⟩
  | retEndNil s0 d hstk hd hs ht =>
    rw [Sys.next_ret hstk]
    exact cinv_ret ⟨hv, hgen, .core (core_of_quiet (fun k h => nomatch ht.lives k h) ht.nosub ht.nosrc) hs⟩
  | @retEndCons stk s0 d s1 r1 hstk hd hs ht =>
    rw [Sys.next_ret hstk]
    exact cinv_call ⟨down_viols _ _ _ (ht.greeted s1 (by simp)) hv, hgen.congr (Ph.srcPh_onOut_down _ _ _),
      .tfan s1 d r1 stk rfl hd (hs.mono (fun x hx => down_greeted _ _ _ x hx)) (ht.next hd)⟩
  | @strayPull rest s0 d r k j hstk hcs hd hs ht hj =>
    refine cinv_call ?_
    rw [onIn_ph, Ph.onIn_pull, pull_ended_eq _ _ hj]
    exact ⟨hv.cons (Or.inr (Or.inr ⟨hcs, _, rfl⟩)), hgen,
      .tpull j s0 d r rest (by rw [hstk]) hd (hs.mono (fun x hx => hx.congr rfl)) (ht.congr (fun _ => rfl) (fun _ => rfl))⟩
  | @strayDispose rest s0 d r k u hu hstk hcs hd hs ht hk =>
    refine cinv_ret ?_
    rw [onIn_ph, Ph.onIn_sinkEnd _ _ hu]
    exact ⟨hv, hgen, .tfan s0 d r rest hstk hd (hs.dispose k) (ht.dispose hk).2⟩
  | @retStray rest j s0 d r hstk hd hs ht =>
    rw [Sys.next_ret hstk]; exact cinv_ret ⟨hv, hgen, .tfan s0 d r rest rfl hd hs ht⟩

/-- The conclusion does not mention the environment beyond the move, so the layers over it (the second ghost layer below, the strict
invariant and the trace under `noNestedFanout`) are carried by `Lands.step` and `Lands.map`. -/
theorem macro_step {cs : Prop} {s s' : Cfg α} {m : Move α} (h : CInv cs s) (hs : EnvStepCS (machine α) m s s')
    (hx : cs ∨ EnvStep (machine α) m s s') : Lands (machine α) (CMacro cs) (CInv cs) (fun _ => True) s s' m :=
  have ⟨st, r, hm, hn⟩ := cmacro_of_step h hs hx
  ⟨st, r, hm, hn, hm.inv h, id⟩

theorem inv_step {cs : Prop} (s s' : Cfg α) (m : Move α) (h : CInv cs s) (hs : EnvStepCS (machine α) m s s')
    (hx : cs ∨ EnvStep (machine α) m s s') : ∃ n, CInv cs (advance (machine α) n s') :=
  (macro_step h hs hx).inv

theorem P_mono {cs : Prop} (s s' : Cfg α) (h : opStep (machine α) s = some s') (hs : P cs s') : P cs s := by
  obtain ⟨⟨l, hl⟩, _, hp⟩ := opStep_ghost (machine α) s s' h
  refine ⟨fun v hv => hs.1 v ?_, hp hs.2⟩
  rw [hl]; exact List.mem_append_right _ hv

/-- share, any number of sinks, EVERY conformant environment (upstream deliveries nested inside share's own deliveries
included): no sink is greeted twice or receives anything before its greeting (C01), share never panics (C17), no upstream
is subscribed twice or once the output is over, no `Pull`/`Terminate` goes to an upstream that is not live (protocol part
of C04).  The only phase-level violations are deliveries to sinks of a fan-out snapshot that are already done
(`afterTerm`: KF5a, `afterDispose`: KF5b). -/
theorem _root_.Cb.ShareWeak.share_safe_weak {α : Type} :
    ∀ s, SReach (machine α) s → OnlyLateDelivery s.g.ph.viols ∧ s.panicked = none :=
  fun s hs => (reach_of_macro_inv (machine α) anyEnv (ShareCS.P False) (ShareCS.CInv False) ShareCS.inv_init ShareCS.inv_turn
    (fun s s' m hi he _ => ShareCS.inv_step s s' m hi he.toCS (Or.inr he)) ShareCS.P_mono s hs).imp ShareCS.Known.onlyLate id

/-! The second ghost layer.  Only `xviols`, `pend`, `fin` are tracked here, constructor by constructor of `CMacro` (`CMacro.x`); the
phases at the turn a macro step ends in come from `CMacro.inv`.  `share` has `relayErr = false`: `errNotRelayed` is never flagged and
`sinkErr` needs no clause.

`Quiet` (nothing recorded, nothing pending) is the state of the second layer except while an `Error(e)` is being fanned out.  Then
(`X`) the frame of that fan-out is open, on top of the stack or right below the frame of a stray `Pull`, `pend` carries its height,
and every sink of `pend` has received `Error(e)`, or has disposed by itself (cross-sink), or is still live and among the sinks the loop
has yet to serve.  When the loop is done the check made by its `ret` passes: the filter of `checkPend` skips the sinks that detached
by themselves, and no upstream is live.  The returns in between (from the handler of a cross-sink call) are at a greater height and
check nothing. -/

theorem noOrphan_of_core {st : St} {ph : Ph} (hc : Core st ph) : NoOrphan ph := by
  intro ho i hl
  obtain ⟨_, hne⟩ := hc.live i hl
  obtain ⟨k, r, hk⟩ := List.exists_cons_of_ne_nil hne
  have := (Ph.anySinkOpen_iff ph).2 ⟨k, Or.inr ((hc.mem k).1 (by simp [hk]))⟩
  rw [ho] at this; cases this

def PendOK (g : G) (e : Nat) (r ks : List Nat) : Prop :=
  ∀ k ∈ ks, g.finOf k = some (Fin.err e) ∨ g.ph.sinkPh k = .doneBySelf ∨ (g.ph.sinkPh k = .live ∧ k ∈ r)

def XP (stk : List (Fr α)) (g : G) : Prop :=
  ∃ s e r rest ks, stk = .wait (.down s (.err e)) (.fLoop r (.err e)) :: rest ∧ g.pend = some (e, rest.length, ks) ∧ PendOK g e r ks

def X (stk : List (Fr α)) (g : G) : Prop :=
  g.xviols = [] ∧ (g.pend = none ∨ XP stk g ∨ ∃ j stk', stk = .wait (.srcUp j .pull) .done :: stk' ∧ XP stk' g)

def XAt (s : Cfg α) : Prop := X s.stack s.g

def FInv (s : Cfg α) : Prop := CInv True s ∧ XAt s

theorem X.of_quiet {stk : List (Fr α)} {g : G} (h : Quiet g) : X stk g := ⟨h.1, Or.inl h.2⟩

theorem XAt.call {st : St} {o : Out α} {l : Loc α} {stk : List (Fr α)} {g : G} {tr : List (Ev α α)}
    (hq : Quiet g) : XAt (Sys.ends (machine α).shape st stk g tr (some (o, l))) := .of_quiet (hq.onOut_noRelay rfl o)

theorem XAt.ret {st : St} {stk : List (Fr α)} {g : G} {tr : List (Ev α α)} (hq : Quiet g)
    (h3 : NoOrphan g.ph) : XAt (Sys.ends (machine α).shape st stk g tr none) := .of_quiet (hq.onRetO h3 _)

theorem XP.congr {stk : List (Fr α)} {g g' : G} (h : XP stk g) (hp : g'.pend = g.pend) (hf : g'.fin = g.fin)
    (hs : ∀ k, g'.ph.sinkPh k = g.ph.sinkPh k) : XP stk g' := by
  obtain ⟨s, e, r, rest, ks, h1, h2, h3⟩ := h
  refine ⟨s, e, r, rest, ks, h1, hp.trans h2, fun k hk => ?_⟩
  unfold G.finOf; rw [hf, hs]; exact h3 k hk

theorem X.pend_none_of {stk : List (Fr α)} {g : G} (hX : X stk g)
    (h1 : ∀ s e r rest, stk ≠ .wait (.down s (.err e)) (.fLoop r (.err e)) :: rest)
    (h2 : ∀ j s e r rest, stk ≠ .wait (.srcUp j .pull) .done :: .wait (.down s (.err e)) (.fLoop r (.err e)) :: rest) :
    g.pend = none := by
  rcases hX.2 with h | ⟨s, e, r, rest, ks, h, _⟩ | ⟨j, stk', h, s, e, r, rest, ks, h', _⟩
  · exact h
  · exact absurd h (h1 s e r rest)
  · subst h'; exact absurd h (h2 j s e r rest)

theorem X.quiet_sok {stk : List (Fr α)} {g : G} {ph : Ph} (hX : X stk g) (hs : SOK ph stk) : Quiet g :=
  ⟨hX.1, hX.pend_none_of (by rintro s e r rest rfl; exact sok_not_tfan rfl hs)
    (by rintro j s e r rest rfl; exact sok_not_tfan rfl hs.tail)⟩

theorem onRetO_inner (g : G) (h : Nat) (hh : h ≠ 0) (hp : ∀ e h' ks, g.pend = some (e, h', ks) → h' ≠ h) :
    (g.onRetO h).xviols = g.xviols ∧ (g.onRetO h).pend = g.pend ∧ (g.onRetO h).fin = g.fin := by
  refine ⟨onRetO_xviols g h (fun e h' ks hq hh' => absurd hh' (hp e h' ks hq)) fun h0 => absurd h0 hh, ?_,
    (onRetO_fields g h).2.1⟩
  obtain ⟨_, eq, -⟩ := onRetO_eq g h
  rw [eq]
  show g.pend.filter _ = g.pend
  rcases hq : g.pend with _ | ⟨e, h', ks⟩
  · rfl
  · rw [Option.filter_some, if_pos (by simpa using hp e h' ks hq)]

theorem ret_pend_clean {g : G} {e h : Nat} {ks : List Nat} (hx : g.xviols = []) (hp : g.pend = some (e, h, ks))
    (hk : ∀ k ∈ ks, g.finOf k = some (Fin.err e) ∨ g.ph.sinkPh k = .doneBySelf) (hl : ∀ i, g.ph.srcPh i ≠ .live) :
    Quiet (g.onRetO h) := by
  refine ⟨(onRetO_xviols g h (fun e' h' ks' hq _ => ?_) fun _ _ => liveSrcs_eq_nil hl).trans hx, ?_⟩
  · cases hp.symm.trans hq; exact ⟨hk, liveSrcs_eq_nil hl⟩
  · obtain ⟨_, eq, -⟩ := onRetO_eq g h
    rw [eq]
    show g.pend.filter _ = none
    rw [hp, Option.filter_some, if_neg (by simp)]

theorem pendOK_down {g : G} {e s1 : Nat} {r1 ks : List Nat} (hP : PendOK g e (s1 :: r1) ks) :
    PendOK (g.onOut (machine α).shape (.down s1 (.err e) : Out α)) e r1 ks := by
  intro k hk
  by_cases hl : g.ph.sinkPh s1 = .live
  · rw [onOut_downErr]
    simp only [hl, ↓reduceIte]
    by_cases hk1 : k = s1
    · left; simp [hk1, G.finOf, phAt_setAt]
    · have hph : (g.ph.onOut (.down s1 (.err e) : Out α)).sinkPh k = g.ph.sinkPh k := down_sinkPh_ne _ _ _ _ hk1
      rcases hP k hk with h | h | ⟨h, hm⟩
      · left; simpa [hk1, G.finOf, phAt_setAt] using h
      · right; left; simpa [hph] using h
      · right; right; exact ⟨by simpa [hph] using h, by simpa [hk1] using hm⟩
  · rw [onOut_downErr]
    simp only [hl, ↓reduceIte]
    have hph : ∀ k', (g.ph.onOut (.down s1 (.err e) : Out α)).sinkPh k' = g.ph.sinkPh k' := fun k' => by
      rw [Ph.onOut_of_not_accepts (o := .down s1 (.err e)) hl]; rfl
    rcases hP k hk with h | h | ⟨h, hm⟩
    · left; exact h
    · right; left; simpa [hph] using h
    · right; right
      have hk1 : k ≠ s1 := fun hks => hl (hks ▸ h)
      exact ⟨by simpa [hph] using h, by simpa [hk1] using hm⟩

theorem onIn_sinkUp_fin (g : G) (h k : Nat) (u : Up) : (g.onIn h (.sinkUp k u : In α)).fin = g.fin := (onIn_fields g h _).2.1

theorem X.pend_height {s : Nat} {d : Down α} {r : List Nat} {rest : List (Fr α)} {g : G}
    (hX : X (.wait (.down s d) (.fLoop r d) :: rest) g) {e h : Nat} {ks : List Nat} (hq : g.pend = some (e, h, ks)) :
    h = rest.length := by
  rcases hX.2 with h' | ⟨s', e', r', rest', ks', h', h2, _⟩ | ⟨j', stk', h', _⟩
  · rw [h'] at hq; cases hq
  · cases h'; rw [h2] at hq; cases hq; rfl
  · cases h'

theorem X.down_end {st : St} {stk : List (Fr α)} {g : G} {tr : List (Ev α α)} {i s0 : Nat} {r : List Nat} {d : Down α}
    (hd : isEndD d = true) (hc : Core st g.ph) (hsr : st.sinks = s0 :: r) (hq : Quiet g) :
    XAt (Sys.ends (machine α).shape st stk (g.onIn stk.length (.srcDown i d : In α)) tr (some (.down s0 d, .fLoop r d))) := by
  have hs0 : g.ph.sinkPh s0 = .live := (hc.mem s0).1 (by simp [hsr])
  cases d with
  | data a => cases hd
  | term => exact .call (hq.onIn _)
  | err e =>
    have hlv : (livesOf g.ph).isEmpty = false := by
      cases hl : livesOf g.ph with
      | nil => exact absurd hl (livesOf_ne_nil s0 hs0)
      | cons _ _ => rfl
    have hg1 : g.onIn stk.length (In.srcDown i (.err e) : In α) =
        { g with ph := g.ph.setSrc i .ended, pend := some (e, stk.length, livesOf g.ph) } := by
      rw [onIn_srcErr]; simp [hq.2, hlv, Ph.onIn]
    rw [XAt, Sys.ends, hg1, onOut_final_live _ _ _ _ (.err e) rfl (by simpa using hs0), Ph.onOut_final (by simpa using hs0) rfl]
    refine ⟨hq.1, Or.inr (Or.inl ⟨s0, e, r, stk, livesOf g.ph, rfl, rfl, fun k hk => ?_⟩)⟩
    have hkl0 : g.ph.sinkPh k = .live := (mem_livesOf g.ph k).1 hk
    have hkl : k ∈ st.sinks := (hc.mem k).2 hkl0
    rw [hsr] at hkl
    by_cases hk0 : k = s0
    · left; simp [hk0, G.finOf, phAt_setAt]
    · right; right
      exact ⟨by simpa [hk0] using hkl0, by simpa [hk0] using hkl⟩

theorem X.fan_done {st : St} {stk : List (Fr α)} {g : G} {tr : List (Ev α α)} {s0 : Nat} {d : Down α}
    (hX : X (.wait (.down s0 d) (.fLoop [] d) :: stk) g) (hsrc : ∀ i, g.ph.srcPh i ≠ .live) :
    XAt (Sys.ends (machine α).shape st stk g tr none) := by
  rcases hX.2 with h | ⟨s', e', r', rest', ks', h, h4, h5⟩ | ⟨j', stk', h, _⟩
  · exact .ret ⟨hX.1, h⟩ (noOrphan_of_noLive hsrc)
  · cases h
    exact .of_quiet (ret_pend_clean hX.1 h4 (fun k hk => by
      rcases h5 k hk with h | h | ⟨_, h⟩
      · exact Or.inl h
      · exact Or.inr h
      · cases h) hsrc)
  · cases h

theorem X.fan_next {st : St} {stk : List (Fr α)} {g : G} {tr : List (Ev α α)} {s0 s1 : Nat} {d : Down α} {r1 : List Nat}
    (hX : X (.wait (.down s0 d) (.fLoop (s1 :: r1) d) :: stk) g) :
    XAt (Sys.ends (machine α).shape st stk g tr (some (.down s1 d, .fLoop r1 d))) := by
  obtain ⟨h1, h2⟩ := onOut_noRelay (machine α).shape rfl g (.down s1 d)
  refine ⟨h1.trans hX.1, ?_⟩
  rcases hX.2 with h | ⟨s', e', r', rest', ks', h, h4, h5⟩ | ⟨j', stk', h, _⟩
  · exact Or.inl (h2.trans h)
  · cases h
    exact Or.inr (Or.inl ⟨s1, e', r1, stk, ks', rfl, h2.trans h4, pendOK_down h5⟩)
  · cases h

theorem X.stray_pull {st : St} {stk : List (Fr α)} {g : G} {tr : List (Ev α α)} {s k j : Nat} {d : Down α} {r : List Nat}
    {rest : List (Fr α)} (hs : stk = .wait (.down s d) (.fLoop r d) :: rest) (hj : g.ph.srcPh j = .ended) (hX : X stk g) :
    XAt (Sys.ends (machine α).shape st stk (g.onIn stk.length (.sinkUp k .pull : In α)) tr (some (.srcUp j .pull, .done))) := by
  refine ⟨hX.1, ?_⟩
  rcases hX.2 with h | h | ⟨j', stk', h, _⟩
  · exact Or.inl h
  · exact Or.inr (Or.inr ⟨j, stk, rfl, h.congr rfl rfl (fun k' => by simp [Ph.onIn, pull_ended_eq _ _ hj])⟩)
  · rw [hs] at h; cases h

/-- KF5c during a terminal fan-out: the handler returns above the fan-out frame: nothing is checked, the sink counts as detached
by itself -/
theorem X.stray_dispose {st : St} {stk : List (Fr α)} {g : G} {tr : List (Ev α α)} {s k : Nat} {u : Up} {d : Down α} {r : List Nat}
    {rest : List (Fr α)} (hs : stk = .wait (.down s d) (.fLoop r d) :: rest) (hu : u ≠ .pull) (hX : X stk g) :
    XAt (Sys.ends (machine α).shape st stk (g.onIn stk.length (.sinkUp k u : In α)) tr none) := by
  subst hs
  have hg1p := (onIn_fields g (rest.length + 1) (.sinkUp k u : In α)).2.2.2 (fun _ _ h => nomatch h)
  obtain ⟨h1, h2, h3⟩ := onRetO_inner (g.onIn (rest.length + 1) (.sinkUp k u : In α)) (rest.length + 1) (by simp) (by
    intro e h' ks hq
    rw [hg1p] at hq
    rw [hX.pend_height hq]; simp)
  rw [XAt, Sys.ends]
  simp only [List.length_cons]
  refine ⟨h1.trans ((onIn_xviols _ _ _).trans hX.1), ?_⟩
  rcases hX.2 with h | ⟨s', e', r', rest', ks', h, h4, h5⟩ | ⟨j', stk', h, _⟩
  · exact Or.inl (h2.trans (hg1p.trans h))
  · refine Or.inr (Or.inl ⟨s', e', r', rest', ks', h, h2.trans (hg1p.trans h4), fun k' hk' => ?_⟩)
    unfold G.finOf
    rw [h3, onIn_sinkUp_fin, onRetO_ph, onIn_ph, Ph.onIn_sinkEnd _ _ hu]
    by_cases hkk : k' = k
    · right; left; simp [hkk]
    · simpa [hkk, G.finOf] using h5 k' hk'
  · cases h

theorem X.ret_stray {st : St} {g : G} {tr : List (Ev α α)} {j s : Nat} {d : Down α} {r : List Nat} {rest : List (Fr α)}
    (hX : X (.wait (.srcUp j .pull) .done :: .wait (.down s d) (.fLoop r d) :: rest) g) :
    XAt (Sys.ends (machine α).shape st (.wait (.down s d) (.fLoop r d) :: rest) g tr none) := by
  have hxp : g.pend = none ∨ XP (.wait (.down s d) (.fLoop r d) :: rest) g := by
    rcases hX.2 with h | ⟨s', e', r', rest', ks', h, _⟩ | ⟨j', stk', h, hxp⟩
    · exact Or.inl h
    · cases h
    · cases h; exact Or.inr hxp
  obtain ⟨h1, h2, h3⟩ := onRetO_inner g (rest.length + 1) (by simp) (by
    intro e h' ks hq
    rcases hxp with h | ⟨s', e', r', rest', ks', h, h4, _⟩
    · rw [h] at hq; cases hq
    · cases h; rw [h4] at hq; cases hq; simp)
  exact ⟨h1.trans hX.1, hxp.imp (fun h => h2.trans h) (fun h => Or.inl (h.congr h2 h3 (fun k => by simp)))⟩

theorem CMacro.x {s : Cfg α} {m : Move α} {st : St} {r : Option (Out α × Loc α)} (hm : CMacro True s m st r) (hX : X s.stack s.g) :
    XAt (s.next (machine α).shape st m r) := by
  cases hm with
  | subFirst _ h0 _ _ | subMore _ h0 _ _ _ | greet _ h0 _ =>
    rw [h0] at hX
    exact .call (Quiet.onIn ⟨hX.1, hX.pend_none_of (fun _ _ _ _ h => nomatch h) (fun _ _ _ _ _ h => nomatch h)⟩ _)
  | pull k hc hs hk => exact .call ((hX.quiet_sok hs).onIn _)
  | disposeLast k u hu hc hs hk he _ _ => exact .call ((hX.quiet_sok hs).onIn _)
  | disposeSome k u hu hc hs he _ _ =>
    refine .ret ((hX.quiet_sok hs).onIn _) ?_
    rw [onIn_ph, Ph.onIn_sinkEnd _ _ hu]
    exact noOrphan_of_core (hc.dispose_some k he)
  | downData i a hc hs hsr => exact .call ((hX.quiet_sok hs).onIn _)
  | downEnd i d hd hc hs hi hsr => exact X.down_end hd hc hsr (hX.quiet_sok hs)
  | ret o hstk hc hs =>
    rw [Sys.next_ret hstk]; exact .ret (hX.quiet_sok (hstk ▸ hs.cons_done o)) (noOrphan_of_core hc)
  | retDataNil s0 a hstk hc hs =>
    rw [Sys.next_ret hstk]
    exact .ret (hX.quiet_sok (hstk ▸ hs.cons_fan s0 a [] (fun _ h => nomatch h))) (noOrphan_of_core hc)
  | retDataCons s0 a s1 r1 hstk hc hs hr =>
    rw [Sys.next_ret hstk]; exact .call (hX.quiet_sok (hstk ▸ hs.cons_fan s0 a _ hr))
  | retEndNil s0 d hstk hd hs ht => rw [Sys.next_ret hstk]; exact (hstk ▸ hX).fan_done (fun i => (ht.nosrc i).1)
  | retEndCons s0 d s1 r1 hstk hd hs ht => rw [Sys.next_ret hstk]; exact (hstk ▸ hX).fan_next
  | strayPull k j hstk hcs hd hs ht hj => exact X.stray_pull hstk hj hX
  | strayDispose k u hu hstk hcs hd hs ht hk => exact X.stray_dispose hstk hu hX
  | retStray j s0 d r hstk hd hs ht => rw [Sys.next_ret hstk]; exact (hstk ▸ hX).ret_stray

theorem finv_init : FInv (Sys.init (machine α)) := ⟨inv_init, .of_quiet ⟨rfl, rfl⟩⟩

def PF (s : Cfg α) : Prop := OnlyKnown s.g.ph.viols ∧ s.g.xviols = [] ∧ s.panicked = none

theorem finv_turn (s : Cfg α) (h : FInv s) : EnvTurn s ∧ PF s := by
  obtain ⟨hb, hX⟩ := h
  obtain ⟨ht, hv, hp⟩ := inv_turn s hb
  exact ⟨ht, hv.onlyKnown, hX.1, hp⟩

theorem finv_step (s s' : Cfg α) (m : Move α) (h : FInv s) (hs : EnvStepCS (machine α) m s s') :
    ∃ n, FInv (advance (machine α) n s') :=
  (macro_step h.1 hs (Or.inl trivial)).step fun _ _ hm _ => hm.x h.2

theorem PF_mono (s s' : Cfg α) (h : opStep (machine α) s = some s') (hs : PF s') : PF s := by
  obtain ⟨⟨l, hl⟩, ⟨l', hl', -⟩, hp⟩ := opStep_ghost (machine α) s s' h
  refine ⟨fun v hv => hs.1 v ?_, ?_, hp hs.2.2⟩
  · rw [hl]; exact List.mem_append_right _ hv
  · have := hs.2.1; rw [hl'] at this
    exact (List.append_eq_nil_iff.1 this).2

/-- **share under the cross-sink environment.**  Any number of sinks; every history made of operator steps, `legalIn` moves
(nested fan-out included) and cross-sink calls (while `share` is delivering to one sink, any live sink pulls or disposes):

* the only phase-level violations are late deliveries — `afterTerm k` (KF5a), `afterDispose k` (KF5b, KF5c) — and messages to
  the upstream that has just ended, `upNotLive i .ended` (KF5d; by `share_cs_term_live` below the message is always a `Pull`);
* the second ghost layer records NOTHING: no `errNotRelayed` (share does not relay sink errors), no `orphan`, no `errLost` /
  `errSibling` (an upstream `Error(e)` reaches every sink that was live and has not detached by itself, unchanged, before the
  handler returns, and no upstream stays live);
* `share` never panics. -/
theorem share_safe_cs {α : Type} : ∀ s, CSReach (machine α) s →
    (∀ v ∈ s.g.ph.viols, (∃ k, v = Viol.afterTerm k) ∨ (∃ k, v = Viol.afterDispose k) ∨ (∃ i, v = Viol.upNotLive i .ended)) ∧
    s.g.xviols = [] ∧ s.panicked = none :=
  cs_reach_of_macro_inv (machine α) anyEnv PF FInv finv_init finv_turn
    (fun s s' m hi he _ => finv_step s s' m hi he) PF_mono

theorem share_cs_viols {α : Type} (s : Cfg α) (hs : CSReach (machine α) s) : OnlyKnown s.g.viols := by
  obtain ⟨hv, hx, -⟩ := share_safe_cs s hs
  unfold G.viols
  rw [hx, List.nil_append]
  exact hv

/-- The known deviations belong to C02, C03 and C04: every other property holds on cross-sink histories. -/
theorem share_cs_safeFor {α : Type} (s : Cfg α) (hs : CSReach (machine α) s) (p : Nat) (hp : p ≠ 2 ∧ p ≠ 3 ∧ p ≠ 4) :
    SafeFor p s := by
  refine ⟨fun v hv => ?_, fun _ => (share_safe_cs s hs).2.2⟩
  rcases share_cs_viols s hs v hv with ⟨k, rfl⟩ | ⟨k, rfl⟩ | ⟨i, rfl⟩
  · exact fun h => hp.1 h.symm
  · exact fun h => hp.2.1 h.symm
  · exact fun h => hp.2.2 h.symm

/-- share, any number of sinks, every CROSS-SINK environment: the phase-level part.  The only phase-level violations are late
deliveries (`afterTerm`: KF5a; `afterDispose`: KF5b, KF5c) and messages to the upstream that has just ended (KF5d); no panic. -/
theorem share_basic_cs {α : Type} :
    ∀ s, CSReach (machine α) s → OnlyKnown s.g.ph.viols ∧ s.panicked = none :=
  fun s hs => ⟨(share_safe_cs s hs).1, (share_safe_cs s hs).2.2⟩

/-! ## the stray message of KF5d is always a `Pull`

`Viol.upNotLive i p` does not record WHICH message went to the upstream that is not live.  `share` sends `Pull` at `p0` and `Terminate`
at `x2`, nothing else.  Here: whenever a reachable configuration is about to execute `x2`, the talkback slot holds an upstream that
is LIVE — so the message flagged by `upNotLive i .ended` is never a `Terminate`.  The call at `x2` ends the macro step `disposeLast`
(`call_cases`), after which that upstream is `disposed`; had it not been live the monitor would have left its phase and flagged
`upNotLive _ .disposed`, which is not a known deviation. -/

theorem cinv_of_envTurn {s : Cfg α} (hs : CSReach (machine α) s) (ht : EnvTurn s) : CInv True s :=
  cs_reach_inv_of_envTurn (machine α) anyEnv (CInv True) inv_init (fun s h => (inv_turn s h).1)
    (fun s s' m hi he _ => inv_step s s' m hi he (Or.inl trivial)) s hs ht

/-- `Lands.call_cases` for the cross-sink environment. -/
theorem call_cases {st st' : St} {l l' : Loc α} {stk : List (Fr α)} {g : G} {tr : List (Ev α α)} {o : Out α}
    (hc : CSReach (machine α) ⟨st, .run l :: stk, g, tr, none⟩) (hst : (machine α).step st l = .call o st' l') :
    ∃ s m, CInv True s ∧ CMacro True s m st' (some (o, l')) ∧
      s.next (machine α).shape st' m (some (o, l')) = ⟨st', .wait o l' :: stk, g.onOut (machine α).shape o, .out o :: tr, none⟩ := by
  rcases cs_reach_on_run _ (hc.step (.op (opStep_of_oStep (.call hst)))) with h | ⟨s, m, s1, n, hs, he, -, hn⟩
  · cases h
  · have hi := cinv_of_envTurn hs (envTurn_of_envStepCS he)
    obtain ⟨st1, r, hmac, h⟩ := (macro_step hi he (Or.inl trivial)).next_of_turn (fun _ h => (inv_turn _ h).1) hn ⟨rfl, rfl⟩
    obtain ⟨rfl, rfl⟩ := Sys.next_eq_call h.symm
    exact ⟨s, m, hi, hmac, h.symm⟩

/-- Whenever `share` is about to send `Terminate` upstream (`x2`), the upstream in its talkback slot is live. -/
theorem share_cs_term_live {α : Type} : ∀ s, CSReach (machine α) s → ∀ stk, s.stack = .run .x2 :: stk →
    ∃ i, s.st.slot = some i ∧ s.g.ph.srcPh i = .live := by
  rintro ⟨st, _, g, tr, p⟩ hs stk rfl
  obtain rfl : p = none := (share_safe_cs _ hs).2.2
  cases hslot : st.slot with
  | none =>
    have hp := (share_safe_cs _ (hs.step (.op (opStep_of_oStep (.panic (m := "source talkback not set") (by simp [machine, step, hslot])))))).2.2
    cases hp
  | some i =>
    refine ⟨i, rfl, ?_⟩
    have hst : (machine α).step st .x2 = .call (.srcUp i .term) st .done := by simp [machine, step, hslot]
    obtain ⟨s0, m, hi, hmac, he⟩ := call_cases hs hst
    have hph : (s0.next (machine α).shape st m (some (.srcUp i .term, .done))).g.ph = g.ph.onOut (.srcUp i .term : Out α) := by
      rw [he]; exact onOut_ph ..
    cases hmac with
    | disposeLast k u hu hc hs' hk hemp _ _ =>
      rw [Sys.next_eq, Sys.ends_some_ph, Sys.gIn_ph, Ph.onIn_sinkEnd _ _ hu,
        Ph.onOut_srcEnd (u := .term) (by simpa using (hc.up_of_live hk).1) (fun h => nomatch h)] at hph
      rcases g.ph.onOut_eq (.srcUp (s0.st.gen - 1) .term : Out α) with ⟨ha, -⟩ | ⟨-, e⟩
      · exact ha
      · -- flagged: the monitor leaves the phase as it was, so it was `disposed`; but the only known deviation is `upNotLive _ .ended`
        have hd : g.ph.srcPh (s0.st.gen - 1) = .disposed := by simpa using (congrArg (·.srcPh (s0.st.gen - 1)) (hph.trans e)).symm
        have hW := (share_safe_cs _ (hs.step (.op (opStep_of_oStep (.call hst))))).1 (g.ph.violOf (.srcUp (s0.st.gen - 1) .term : Out α))
          (by simp only [onOut_ph, e]; exact List.mem_cons_self)
        simp [Ph.violOf, hd] at hW

/-- Every message other than `Pull` that `share` sends upstream — on any cross-sink history — goes to an upstream that is live at
that moment: the stray message recorded as `upNotLive i .ended` (KF5d) is always a `Pull`. -/
theorem share_cs_stray_is_pull {α : Type} : ∀ s s', CSReach (machine α) s → opStep (machine α) s = some s' →
    ∀ i u, s'.tr = .out (.srcUp i u) :: s.tr → u = .pull ∨ s.g.ph.srcPh i = .live := by
  intro s s' hs h i u htr
  have hx2 := share_cs_term_live s hs
  unfold opStep at h
  split at h
  · cases h
  · split at h
    · rename_i l stk heq
      split at h
      all_goals (simp only [Option.some.injEq] at h; subst h)
      · exact absurd htr.symm (List.cons_ne_self _ _)
      · rename_i o s1 l1 hst
        simp only [List.cons.injEq, Ev.out.injEq, and_true] at htr
        subst htr
        cases l <;> simp only [machine, step] at hst <;> (try split at hst) <;> simp at hst
        · exact Or.inl hst.1.2.symm
        · rename_i j hslot
          obtain ⟨i', h1, h2⟩ := hx2 stk heq
          rw [hslot] at h1
          cases h1
          exact Or.inr (hst.1.1 ▸ h2)
      · simp at htr
      · simp at htr
    · cases h

end Cb.ShareCS

#print axioms Cb.ShareWeak.share_safe_weak
#print axioms Cb.ShareCS.share_basic_cs
#print axioms Cb.ShareCS.share_safe_cs
#print axioms Cb.ShareCS.share_cs_term_live
#print axioms Cb.ShareCS.share_cs_stray_is_pull
