import CallbagModel.Inv.ComposeFull
import CallbagModel.Inv.ConcatK
import CallbagModel.Ops.Plug
/-!
# Assume–guarantee for `plug j M₁ M₂`: a closed source in upstream slot `j` of an n-ary operator

`plug j M₁ M₂` is `wire` for the table `Wp j` (`Inv/Wire.lean`), and the projection `plug_inv_tr` is that of `Inv/WireSafe.lean` read in
the vocabulary of `plug`: `RelP`, `PG`, `TrRelP` are what `RelW`, `GW`, `TrW` say for `Wp j`, and `HypP` gives `HypW`.  Differences to `compose`:

* every EXTERNAL call is `M₂`'s, so every re-entry from outside lands in `M₂`, and `M₂`'s context is literally the composite's;
* the monitor of the composite sees exactly what `M₂`'s monitor sees, except slot `j` (idle for ever for the composite): hence NO
  openness hypothesis (`hopen` of `compose_basicSafe`) is needed, and no restriction on `M₂`'s shape (`lateGreet` may be `true`: merge);
* a late greeting by `M₁` is impossible whatever `M₂.shape.lateGreet` says, because `M₁` is only ever entered through `M₂`; this is the
  invariant `MatchP.up`.

What the layers above use of this file: `ProjP` (the projection with traces, as `Proj` for `compose`), `UpSide.plug` and `OnlySlots`
(the plugged machine is again `UpSide` and uses only the slots that are left), `hypP_of`, and `concat2_plugged` (both slots of a binary concat).
-/
namespace Cb
namespace PlugSafe
open ComposeSafe ComposeFun

section Defs
variable {S1 L1 S2 L2 α β γ : Type}

def ExtOut {γ : Type} (j : Nat) : Out γ → Prop
  | .subSrc i => i ≠ j
  | .srcUp i _ => i ≠ j
  | _ => True

/-- the waiting part of the composite, as an interleaving of `M₁`'s and `M₂`'s waiting stacks (`sd`: the component directly above).
External calls are `M₂`'s (`ext`); `M₁`'s frames only ever sit on top of an internal call of `M₂` (`intSub`, `intUp`). -/
inductive RelP (j : Nat) : Side → List (CFr L1 L2) → List (Frame (List (CFr L1 L2)) γ) → List (Frame L1 β) → List (Frame L2 γ) → Prop where
  | nil : RelP j .hi [] [] [] []
  | ext {o l cfs stk k1 k2} : ExtOut j o → RelP j .hi cfs stk k1 k2 →
      RelP j .hi [] (.wait o (.hi l :: cfs) :: stk) k1 (.wait o l :: k2)
  | intLo {o l cfs stk k1 k2} : Internal1 o → RelP j .lo cfs stk k1 k2 →
      RelP j .hi (.lo l :: cfs) stk (.wait o l :: k1) k2
  | intSub {l cfs stk k2} : RelP j .hi cfs stk [] k2 →
      RelP j .lo (.hi l :: cfs) stk [] (.wait (.subSrc j) l :: k2)
  | intUp {u l cfs stk k1 k2} : RelP j .hi cfs stk k1 k2 →
      RelP j .lo (.hi l :: cfs) stk k1 (.wait (.srcUp j u) l :: k2)

inductive SMP (j : Nat) : List (Frame (List (CFr L1 L2)) γ) → List (Frame L1 β) → List (Frame L2 γ) → Prop where
  | turn {stk k1 k2} : RelP j .hi [] stk k1 k2 → SMP j stk k1 k2
  | runLo {l cfs stk k1 k2} : RelP j .lo cfs stk k1 k2 → SMP j (.run (.lo l :: cfs) :: stk) (.run l :: k1) k2
  | runHi {l cfs stk k1 k2} : RelP j .hi cfs stk k1 k2 → SMP j (.run (.hi l :: cfs) :: stk) k1 (.run l :: k2)

theorem RelP.turns {j sd cfs} {stk : List (Frame (List (CFr L1 L2)) γ)} {k1 : List (Frame L1 β)} {k2 : List (Frame L2 γ)}
    (h : RelP j sd cfs stk k1 k2) : (ctxOf k1).isSome = true ∧ (ctxOf k2).isSome = true := by
  induction h with
  | nil => simp [ctxOf]
  | ext _ _ ih => exact ⟨ih.1, by simp [ctxOf]⟩
  | intLo _ _ ih => exact ⟨by simp [ctxOf], ih.2⟩
  | intSub _ ih => exact ⟨by simp [ctxOf], by simp [ctxOf]⟩
  | intUp _ ih => exact ⟨ih.1, by simp [ctxOf]⟩

structure PG (j : Nat) (g g1 g2 : Ph) : Prop where
  v : g.viols = []
  sink : ∀ k, g.sinkPh k = g2.sinkPh k
  src : ∀ i, i ≠ j → g.srcPh i = g2.srcPh i
  srcj : g.srcPh j = .idle
  ifc : g2.srcPh j = toSrc (g1.sinkPh 0)
  src1 : ∀ i, g1.srcPh i = .idle
  sink1 : ∀ k, g1.sinkPh (k + 1) = .idle

structure MatchP (j : Nat) (s : Sys (S1 × S2) (List (CFr L1 L2)) β γ) (s1 : Sys S1 L1 α β) (s2 : Sys S2 L2 β γ) : Prop where
  st : s.st = (s1.st, s2.st)
  p : s.panicked = none
  p1 : s1.panicked = none
  p2 : s2.panicked = none
  gh : PG j s.g.ph s1.g.ph s2.g.ph
  stk : SMP j s.stack s1.stack s2.stack
  /-- while `M₂` has a message to upstream `j` in flight, `M₁`'s sink has been greeted -/
  up : ∀ u l, Frame.wait (.srcUp j u) l ∈ s2.stack → NotPre (s1.g.ph.sinkPh 0)

structure HypP (M1 : Machine S1 L1 α β) (M2 : Machine S2 L2 β γ) : Prop where
  noUp1 : ComposeFull.NoUpstream M1
  noApp1 : ∀ st l b st' l', M1.step st l ≠ .call (.app b) st' l'
  sync : M2.shape.lateGreet = true ∨ ∀ s, SReach M1 s → s.stack = [] → s.g.ph.sinkPh 0 ≠ .subscribed
  safe1 : ∀ s, SReach M1 s → BasicSafe s
  safe2 : ∀ s, SReach M2 s → BasicSafe s

structure TrRelP (j : Nat) (tr : List (Ev β γ)) (tr1 : List (Ev α β)) (tr2 : List (Ev β γ)) : Prop where
  sink : sinkEvs tr = sinkEvs tr2
  src : srcEvs tr = srcNe j (srcEvs tr2)
  ifc : dualJ j (sinkEvs tr1) = srcEq j (srcEvs tr2)

end Defs

section Steps
variable {α β γ : Type} {j : Nat}

theorem TrRelP.ext {tr : List (Ev β γ)} {tr1 : List (Ev α β)} {tr2 : List (Ev β γ)} (h : TrRelP j tr tr1 tr2) (ev : Ev β γ)
    (hev : ∀ x, srcEv ev = some x → srcIdx x ≠ j) : TrRelP j (ev :: tr) tr1 (ev :: tr2) := by
  refine ⟨by simp only [sinkEvs, h.sink], ?_, ?_⟩ <;> simp only [srcEvs] <;> cases hx : srcEv ev
  · exact h.src
  · simp [srcNe, hev _ hx, h.src]
  · exact h.ifc
  · simpa [srcEq, hev _ hx] using h.ifc

theorem TrRelP.int {tr : List (Ev β γ)} {tr1 : List (Ev α β)} {tr2 : List (Ev β γ)} (h : TrRelP j tr tr1 tr2) (e1 : Ev α β)
    (e2 : Ev β γ) (hs : sinkEv e2 = none) (hd : (sinkEv e1).bind (dual1 j) = srcEv e2) (hj : ∀ x, srcEv e2 = some x → srcIdx x = j) :
    TrRelP j tr (e1 :: tr1) (e2 :: tr2) := by
  have hsink : sinkEvs tr = sinkEvs (e2 :: tr2) := by simp only [sinkEvs, hs, consOpt_none, h.sink]
  cases hy : (sinkEv e1).bind (dual1 j) with
  | none =>
    have hifc : dualJ j (sinkEvs (e1 :: tr1)) = dualJ j (sinkEvs tr1) := by
      cases hx : sinkEv e1 with
      | none => simp only [sinkEvs, hx, consOpt_none]
      | some x => rw [hx] at hy; simp only [sinkEvs, hx, consOpt_some, dualJ, show dual1 j x = none from hy, consOpt_none]
    rw [hy] at hd
    exact ⟨hsink, by simpa only [srcEvs, ← hd, consOpt_none] using h.src, by simpa only [hifc, srcEvs, ← hd, consOpt_none] using h.ifc⟩
  | some y =>
    obtain ⟨x, hx, hxy⟩ := Option.bind_eq_some_iff.1 hy
    rw [hy] at hd
    have hyj : srcIdx y = j := hj y hd.symm
    exact ⟨hsink, by simpa [srcEvs, ← hd, srcNe, hyj] using h.src,
      by simpa [srcEvs, ← hd, sinkEvs, hx, dualJ, hxy, srcEq, hyj] using h.ifc⟩

end Steps
end PlugSafe

namespace Wire
open ComposeSafe PlugSafe

section Plug
variable {S1 L1 S2 L2 α β γ : Type} {j : Nat}

theorem wp_noLo : ¬ (Wp (α := α) (β := β) j).loEnter := fun ⟨_, _, h⟩ => nomatch h

theorem RelW.toRelP {sd : Side} {cfs : List (CFr L1 L2)} {stk : List (Frame (List (CFr L1 L2)) γ)}
    {k1 : List (Frame L1 β)} {k2 : List (Frame L2 γ)} (h : RelW (Wp (α := α) (β := β) j) sd cfs stk k1 k2) :
    RelP j sd cfs stk k1 k2 := by
  induction h with
  | @nil sd h => cases sd with
    | lo => exact absurd (h rfl) wp_noLo
    | hi => exact .nil
  | ext1 hw _ ih => obtain ⟨i, i', hi, _⟩ := out1_ext hw; cases hi
  | @ext2 _ o' _ _ _ _ _ hw _ ih =>
    rcases out2_ext hw with ⟨rfl, ho⟩ | ⟨i, i', hj, hi, ⟨rfl, rfl⟩ | ⟨u, rfl, rfl⟩⟩
    · exact .ext (by cases o' <;> first | trivial | cases ho) ih
    · cases hi; exact .ext hj ih
    · cases hi; exact .ext hj ih
  | int1 hw _ ih => exact .intLo (internal1_of_int hw) ih
  | int2 hw hk _ ih =>
    rcases out2_int hw with ⟨rfl, _⟩ | ⟨u, rfl, _⟩
    · cases hk rfl; exact .intSub ih
    · exact .intUp ih

theorem GW.toPG {g g1 g2 : Ph} (h : GW (Wp (α := α) (β := β) j) g g1 g2) : PG j g g1 g2 :=
  ⟨h.v, h.sink, fun i hi => h.src2 i i hi rfl, h.free j (fun _ => nofun) (fun _ hi e => hi (Option.some.inj e)), h.ifc,
    fun i => h.dead1 i rfl, h.sink1⟩

theorem MatchW.toMatchP {s : Sys (S1 × S2) (List (CFr L1 L2)) β γ} {s1 : Sys S1 L1 α β} {s2 : Sys S2 L2 β γ}
    (h : MatchW (Wp j) s s1 s2) : MatchP j s s1 s2 := by
  obtain ⟨st, stk, g, tr, p⟩ := s
  obtain ⟨st1, k1, g1, tr1, p1⟩ := s1
  obtain ⟨st2, k2, g2, tr2, p2⟩ := s2
  obtain ⟨h1, h2, h3, h4, h5, h6, h7, _⟩ := h
  refine ⟨h1, h2, h3, h4, h5.toPG, ?_, h7⟩
  cases h6 with
  | @turn sd _ _ _ hr =>
    refine .turn ?_
    cases sd with
    | hi => exact hr.toRelP
    | lo => cases hr with
      | nil h => exact absurd (h rfl) wp_noLo
      | ext1 hw => obtain ⟨i, i', hi, _⟩ := out1_ext hw; cases hi
  | runLo hr => exact .runLo hr.toRelP
  | runHi hr => exact .runHi hr.toRelP

theorem TrW.toTrRelP {t : List (Ev β γ)} {t1 : List (Ev α β)} {t2 : List (Ev β γ)}
    (h : TrW (Wp (α := α) (β := β) j) t t1 t2) : TrRelP j t t1 t2 := by
  induction h with
  | nil => exact ⟨rfl, rfl, rfl⟩
  | step hb _ ih =>
    cases hb with
    | ret1 => exact ⟨ih.sink, ih.src, ih.ifc⟩
    | ret12 => exact ih.int .retO .retE rfl rfl (fun _ h => nomatch h)
    | int1 hw =>
      rcases out1_int hw with ⟨rfl, rfl⟩ | ⟨d, rfl, rfl⟩ <;> exact ih.int _ _ rfl rfl (fun _ h => by cases h; rfl)
    | ext1 hw => obtain ⟨i, i', hi, _⟩ := out1_ext hw; cases hi
    | ret2 => exact ih.ext .retO (fun _ h => nomatch h)
    | ret21 => exact ih.int .retE .retO rfl rfl (fun _ h => nomatch h)
    | int2 hw =>
      rcases out2_int hw with ⟨rfl, rfl⟩ | ⟨u, rfl, rfl⟩ <;> exact ih.int _ _ rfl rfl (fun _ h => by cases h; rfl)
    | @ext2 o o' hw =>
      rcases out2_ext hw with ⟨rfl, ho⟩ | ⟨i, i', hj, hi, ⟨rfl, rfl⟩ | ⟨u, rfl, rfl⟩⟩
      · refine ih.ext _ ?_
        cases o' with
        | subSrc _ => cases ho
        | srcUp _ _ => cases ho
        | _ => exact fun _ h => nomatch h
      · cases hi; exact ih.ext _ (fun _ h => by cases h; exact hj)
      · cases hi; exact ih.ext _ (fun _ h => by cases h; exact hj)
    | in1 h => cases h
    | @in2 i i2 h hk =>
      cases h
      refine ih.ext _ ?_
      cases i with
      | srcGreet i' =>
        rcases hk with ⟨_, h⟩ | ⟨i0, hj, h⟩
        · cases h
        · cases h; exact fun _ h => by cases h; exact hj
      | srcDown i' d =>
        rcases hk with ⟨_, h⟩ | ⟨i0, hj, h⟩
        · cases h
        · cases h; exact fun _ h => by cases h; exact hj
      | _ => exact fun _ h => nomatch h
    | retE1 => exact ⟨ih.sink, ih.src, ih.ifc⟩
    | retE2 => exact ih.ext .retE (fun _ h => nomatch h)

theorem hypW_of_hypP {M1 : Machine S1 L1 α β} {M2 : Machine S2 L2 β γ} (H : HypP M1 M2) : HypW (Wp j) M2.shape M1 M2 where
  ok := wp_ok j
  shp := ⟨id, fun _ _ h => (nomatch h), fun _ _ _ _ h => h⟩
  noApp1 := H.noApp1
  sub1 _ _ _ _ _ i _ _ hr hst hv := by
    have := H.noUp1 _ (reach_op hr (.call hst)) i
    simp [(Ph.onOut_subSrc_ok _ _ hv).2.2] at this
  sub2 _ _ _ _ _ _ := .inr rfl
  sync := H.sync
  opn _ _ h := nomatch h
  safe1 := H.safe1
  safe2 := H.safe2

end Plug
end Wire

namespace PlugSafe
open ComposeFun

section Steps
variable {S1 L1 S2 L2 α β γ : Type} {M1 : Machine S1 L1 α β} {M2 : Machine S2 L2 β γ} {j : Nat}

theorem plug_inv_tr (H : HypP M1 M2) (j : Nat) :
    ∀ s, SReach (plug j M1 M2) s →
      ∃ s1 s2, SReach M1 s1 ∧ SReach M2 s2 ∧ MatchP j s s1 s2 ∧ TrRelP j s.tr s1.tr s2.tr := by
  intro s hs
  rw [Wire.plug_eq_wire] at hs
  obtain ⟨s1, s2, h1, h2, hm⟩ := Wire.wire_inv (Wire.hypW_of_hypP H) s hs
  exact ⟨s1, s2, h1, h2, hm.toMatchP, hm.tr.toTrRelP⟩

end Steps

section Consequences
variable {S1 L1 S2 L2 α β γ : Type} {M1 : Machine S1 L1 α β} {M2 : Machine S2 L2 β γ}

/-- **phase-level safety of `plug`** (C01–C03, protocol part of C04, C17) -/
theorem plug_basicSafe (H : HypP M1 M2) (j : Nat) : ∀ s, SReach (plug j M1 M2) s → BasicSafe s := by
  intro s hs
  obtain ⟨s1, s2, _, _, hm, _⟩ := plug_inv_tr H j s hs
  exact ⟨hm.gh.v, hm.p⟩

theorem matchP_turns {j : Nat} {s : Sys (S1 × S2) (List (CFr L1 L2)) β γ} {s1 : Sys S1 L1 α β} {s2 : Sys S2 L2 β γ}
    (hm : MatchP j s s1 s2) (ht : EnvTurn s) : EnvTurn s1 ∧ EnvTurn s2 := by
  obtain ⟨st, stk, g, tr, p⟩ := s
  obtain ⟨st1, k1, g1, tr1, p1⟩ := s1
  obtain ⟨st2, k2, g2, tr2, p2⟩ := s2
  obtain ⟨_, _, hp1, hp2, _, hsm, _⟩ := hm
  simp only at hp1 hp2 hsm
  cases hsm with
  | turn hrel => exact ⟨⟨hp1, hrel.turns.1⟩, ⟨hp2, hrel.turns.2⟩⟩
  | runLo hrel => have := ht.2; simp [ctxOf] at this
  | runHi hrel => have := ht.2; simp [ctxOf] at this

theorem matchP_top {j : Nat} {s : Sys (S1 × S2) (List (CFr L1 L2)) β γ} {s1 : Sys S1 L1 α β} {s2 : Sys S2 L2 β γ}
    (hm : MatchP j s s1 s2) (hstk : s.stack = []) : s1.stack = [] ∧ s2.stack = [] := by
  obtain ⟨st, stk, g, tr, p⟩ := s
  obtain ⟨st1, k1, g1, tr1, p1⟩ := s1
  obtain ⟨st2, k2, g2, tr2, p2⟩ := s2
  obtain ⟨_, _, _, _, _, hsm, _⟩ := hm
  simp only at hstk hsm ⊢
  subst hstk
  cases hsm with
  | turn hrel => cases hrel; exact ⟨rfl, rfl⟩

structure ProjP (j : Nat) (s : Sys (S1 × S2) (List (CFr L1 L2)) β γ) (s1 : Sys S1 L1 α β) (s2 : Sys S2 L2 β γ) : Prop where
  m : MatchP j s s1 s2
  t : TrRelP j s.tr s1.tr s2.tr
  recv : ∀ k, recvData k s.tr = recvData k s2.tr
  fin : ∀ k, finalsTo k s.tr = finalsTo k s2.tr
  app : applied s.tr = applied s2.tr
  pullsIn : ∀ k, pullsIn k s.tr = pullsIn k s2.tr
  sent : ∀ i, i ≠ j → sentData i s.tr = sentData i s2.tr
  ifc : recvData 0 s1.tr = sentData j s2.tr
  turn : EnvTurn s → EnvTurn s1 ∧ EnvTurn s2

theorem ProjP.of {j : Nat} {s : Sys (S1 × S2) (List (CFr L1 L2)) β γ} {s1 : Sys S1 L1 α β} {s2 : Sys S2 L2 β γ}
    (hm : MatchP j s s1 s2) (ht : TrRelP j s.tr s1.tr s2.tr) : ProjP j s s1 s2 where
  m := hm
  t := ht
  recv k := by rw [recvData_eq, recvData_eq, ht.sink]
  fin k := by rw [finalsTo_eq, finalsTo_eq, ht.sink]
  app := by rw [applied_eq, applied_eq, ht.sink]
  pullsIn k := by rw [pullsIn_eq, pullsIn_eq, ht.sink]
  sent i hij := by rw [sentData_eq, sentData_eq, ht.src, sentS_srcNe i j hij]
  ifc := by rw [recvData_eq, sentData_eq, recvS_dualJ j, ht.ifc, sentS_srcEq]
  turn := matchP_turns hm

theorem plug_proj (H : HypP M1 M2) (j : Nat) :
    ∀ s, SReach (plug j M1 M2) s → ∃ s1 s2, SReach M1 s1 ∧ SReach M2 s2 ∧ ProjP j s s1 s2 := by
  intro s hs
  obtain ⟨s1, s2, hr1, hr2, hm, ht⟩ := plug_inv_tr H j s hs
  exact ⟨s1, s2, hr1, hr2, .of hm ht⟩

theorem plug_noApp (j : Nat) (h : ∀ st l b st' l', M2.step st l ≠ .call (.app b) st' l') :
    ∀ st l b st' l', (plug j M1 M2).step st l ≠ .call (.app b) st' l' :=
  fun st l _ _ _ hc => let ⟨_, _, _, _, _, h2, _⟩ := (ComposeTerm.plug_step_inv j st l).call hc; h _ _ _ _ _ h2

theorem UpSide.plug (H : HypP M1 M2) (j : Nat) (U2 : UpSide M2) : UpSide (Cb.plug j M1 M2) := by
  refine ⟨plug_noApp j U2.noApp, ?_, plug_basicSafe H j⟩
  intro s hs hstk
  obtain ⟨s1, s2, _, hr2, hm, _⟩ := plug_inv_tr H j s hs
  rw [hm.gh.sink 0]
  exact U2.sync s2 hr2 (matchP_top hm hstk).2

def OnlySlots {St Loc α β : Type} (P : Nat → Prop) (M : Machine St Loc α β) : Prop :=
  ∀ s, SReach M s → ∀ i, ¬ P i → s.g.ph.srcPh i = .idle

theorem OnlySlots.plug {P : Nat → Prop} (H : HypP M1 M2) (j : Nat) (h : OnlySlots P M2) :
    OnlySlots (fun i => P i ∧ i ≠ j) (Cb.plug j M1 M2) := by
  intro s hs i hi
  obtain ⟨s1, s2, _, hr2, hm, _⟩ := plug_inv_tr H j s hs
  by_cases hij : i = j
  · subst hij; exact hm.gh.srcj
  · rw [hm.gh.src i hij]
    exact h s2 hr2 i (fun hp => hi ⟨hp, hij⟩)

theorem OnlySlots.noUpstream {St Loc α β : Type} {P : Nat → Prop} {M : Machine St Loc α β} (h : OnlySlots P M)
    (hP : ∀ i, ¬ P i) : ComposeFull.NoUpstream M := fun s hs i => h s hs i (hP i)

theorem hypP_of (U1 : UpSide M1) (hN : ComposeFull.NoUpstream M1) (h2 : ∀ s, SReach M2 s → BasicSafe s) : HypP M1 M2 :=
  ⟨hN, U1.noApp, .inr U1.sync, U1.safe, h2⟩

end Consequences

theorem Concat.onlySlots {α : Type} (n : Nat) (hn : 0 < n) : OnlySlots (· < n) (Concat.machine α n) := by
  intro s hs i hi
  exact (ConcatK.K_reach n hn s hs (Concat.concat_basicSafe n hn s hs).2).1 i (by omega)

section Worked
open ComposeFull

theorem concat2_plugged {SA LA SB LB αA αB β : Type} {A : Machine SA LA αA β} {B : Machine SB LB αB β}
    (UA : UpSide A) (NA : NoUpstream A) (UB : UpSide B) (NB : NoUpstream B) :
    UpSide (plug 0 A (plug 1 B (Concat.machine β 2))) ∧ NoUpstream (plug 0 A (plug 1 B (Concat.machine β 2))) ∧
      ∀ s, SReach (plug 0 A (plug 1 B (Concat.machine β 2))) s → Safe s := by
  have HB : HypP B (Concat.machine β 2) := hypP_of UB NB (Concat.concat_basicSafe 2 (by decide))
  have UP : UpSide (plug 1 B (Concat.machine β 2)) := UpSide.plug HB 1 (Concat.upSide 2 (by decide))
  have HA : HypP A (plug 1 B (Concat.machine β 2)) := hypP_of UA NA (plug_basicSafe HB 1)
  have UQ := UpSide.plug HA 0 UP
  have NQ : NoUpstream (plug 0 A (plug 1 B (Concat.machine β 2))) :=
    (OnlySlots.plug HA 0 (OnlySlots.plug HB 1 (Concat.onlySlots 2 (by decide)))).noUpstream (fun i h => by omega)
  exact ⟨UQ, NQ, safe_of_noUpstream NQ UQ.safe⟩

/-- `pipe!(concat!(from_iter(a), pipe!(from_iter(b), map f)), take n, for_each g)`: phase-level safe at every reachable
configuration, and fully safe (C01–C05, C17) -/
theorem concat_fromIter_pipe_take_forEach {ιa ιb α β : Type} (nexta : ιa → Option (β × ιa)) (a0 : ιa)
    (nextb : ιb → Option (α × ιb)) (b0 : ιb) (f : α → β) (n : Nat) :
    ∀ s, SReach (compose (compose
        (plug 0 (FromIter.machine Unit nexta a0)
          (plug 1 (compose (FromIter.machine Unit nextb b0) (Relay.machine (Relay.map f))) (Concat.machine β 2)))
        (Take.machine β n)) (ForEach.machine β)) s → BasicSafe s ∧ Safe s ∧ SafeFor 4 s ∧ SafeFor 5 s := by
  have hmap := Relay.pipeable (Relay.map f) (Relay.map_ok f)
  have UB : UpSide (compose (FromIter.machine Unit nextb b0) (Relay.machine (Relay.map f))) :=
    (FromIter.upSide nextb b0).compose' hmap
  have NB : NoUpstream (compose (FromIter.machine Unit nextb b0) (Relay.machine (Relay.map f))) :=
    (FromIter.noUpstream nextb b0).compose (hyp_of_roles (FromIter.upSide nextb b0) hmap.downSide)
  obtain ⟨UQ, _, _⟩ := concat2_plugged (FromIter.upSide nexta a0) (FromIter.noUpstream nexta a0) UB NB
  intro s hs
  have := closed_pipeline_full UQ (Take.pipeable n) s hs
  exact ⟨this.1.basic, this⟩

end Worked

end PlugSafe
end Cb

#print axioms Cb.PlugSafe.plug_inv_tr
#print axioms Cb.PlugSafe.plug_basicSafe
#print axioms Cb.PlugSafe.plug_proj
#print axioms Cb.PlugSafe.UpSide.plug
#print axioms Cb.PlugSafe.OnlySlots.plug
#print axioms Cb.PlugSafe.Concat.onlySlots
#print axioms Cb.PlugSafe.concat2_plugged
#print axioms Cb.PlugSafe.concat_fromIter_pipe_take_forEach
