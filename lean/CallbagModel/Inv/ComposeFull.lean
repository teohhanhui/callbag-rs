import CallbagModel.Inv.ComposeComplete
import CallbagModel.Inv.Ghost2
/-!
# FULL safety (both ghost layers: C04 in full, C05) of pipelines

Every second-layer violation needs BOTH ends of the operator to be active:

* `errNotRelayed i`  needs a sink that sent `Error` (so a sink that was live) and an upstream `i` that is live;
* `errLost e k`      needs an upstream that sent `Error e` (so an upstream that was live) and a sink `k` that was live;
* `errSibling e i`, `orphan i`  need an upstream `i` that is live.

Hence an operator none of whose upstreams is ever live (`NoUpstream`: a pipeline whose head is `from_iter`), or none of
whose sinks is ever greeted (`SinkQuiet`: a pipeline whose tail is `for_each`), is fully safe as soon as it is phase-level safe; both
properties are inherited by `compose` from the head resp. the tail.  This gives full safety of closed pipelines of any length and of
every pipeline `pipe!(from_iter(it), stage₁, …, stageₙ)` seen as a source.

For an OPEN pipeline both ends can be active.  There the second layer follows from phase-level safety when the error paths of the
operator are direct (`DirectPaths`: the handler of a sink's `Error e` only passes it upstream, the handler of an upstream's `Error e` only
passes it downstream), which `compose` inherits: `FullStage`, closed under `compose`, with relays and `take` as instances (`compose_safe`).
-/
namespace Cb

theorem zero_of_succ {φ : Type} {ph : Nat → φ} {a b : φ} (hab : a ≠ b) (h : ∀ i, ph (i + 1) = a) {i : Nat} (hi : ph i = b) :
    i = 0 := by
  cases i with
  | zero => rfl
  | succ i => exact absurd ((h i).symm.trans hi) hab

namespace ComposeFull
open ComposeSafe ComposeComplete

section Quiet
variable {St Loc α β : Type}

def NoUpstream (M : Machine St Loc α β) : Prop := ∀ s, SReach M s → ∀ i, s.g.ph.srcPh i = .idle

/-- no sink is ever greeted -/
def SinkQuiet (M : Machine St Loc α β) : Prop :=
  ∀ s, SReach M s → ∀ k, s.g.ph.sinkPh k = .idle ∨ s.g.ph.sinkPh k = .subscribed

theorem xquiet_of_noUpstream (M : Machine St Loc α β) (h : NoUpstream M) : ∀ s, SReach M s → Quiet s.g := by
  have nl : ∀ s, SReach M s → ∀ i, s.g.ph.srcPh i ≠ .live := fun s hs i => by rw [h s hs i]; decide
  apply reach_ind
  · exact ⟨rfl, rfl⟩
  · intro a b ha ih hstep
    cases hstep with
    | tau _ => exact ih
    | @call st l stk g tr o s' l' hst => exact Quiet.onOut ih M.shape o fun i _ _ _ _ hl => absurd hl (nl _ ha i)
    | @ret st l stk g tr hst => exact Quiet.onRetO ih (noOrphan_of_noLive (nl _ ha)) _
    | panic _ => exact ih
  · intro a b m ha ih hstep
    cases hstep with
    | @call st stk g tr c i hc hl =>
      cases i with
      | srcDown j d => exact absurd (legal_srcDown hl) (nl _ ha j)
      | subscribe k => exact ih
      | srcGreet j => exact ih
      | sinkUp k u => cases u <;> exact ih
    | ret hl => exact ih

theorem safe_of_noUpstream {M : Machine St Loc α β} (h : NoUpstream M) (hb : ∀ s, SReach M s → BasicSafe s) :
    ∀ s, SReach M s → Safe s := by
  intro s hs
  refine ⟨?_, (hb s hs).2⟩
  simp [G.viols, (hb s hs).1, (xquiet_of_noUpstream M h s hs).1]

theorem xquiet_of_sinkQuiet (M : Machine St Loc α β) (h : SinkQuiet M) :
    ∀ s, SReach M s → s.g.xviols = [] ∧ s.g.pend = none ∧ s.g.sinkErr = none := by
  have nlive : ∀ s, SReach M s → ∀ k, s.g.ph.sinkPh k ≠ .live := fun s hs k => by
    rcases h s hs k with h | h <;> rw [h] <;> decide
  apply reach_ind
  · exact ⟨rfl, rfl, rfl⟩
  · intro a b ha ih hstep
    cases hstep with
    | tau _ => exact ih
    | @call st l stk g tr o s' l' hst =>
      obtain ⟨hx, hp, hs⟩ := ih
      simp only at hx hp hs
      obtain ⟨h1, h2⟩ := onOut_sinkErr_pend M.shape g o
      exact ⟨(onOut_xviols M.shape g o (fun _ _ _ => hs) (fun _ _ _ _ e h hse => by rw [hs] at hse; cases hse)).trans hx,
        h2.trans hp, h1.trans hs⟩
    | @ret st l stk g tr hst =>
      obtain ⟨hx, hp, hs⟩ := ih
      simp only at hx hp hs
      obtain ⟨_, _, f3, f4⟩ := onRetO_fields g stk.length
      refine ⟨(onRetO_xviols g _ (fun e h ks hpe => by rw [hp] at hpe; cases hpe) fun _ hopen => ?_).trans hx,
        f3.elim (fun h => h.trans hp) id, f4.elim (fun h => h.trans hs) id⟩
      -- no orphan: if no sink is open every sink is idle, so nothing has happened at all
      have hidle : ∀ k, g.ph.sinkPh k = .idle := fun k =>
        (h _ ha k).resolve_right ((Ph.anySinkOpen_false_iff g.ph).1 hopen k).1
      exact liveSrcs_eq_nil fun i => by rw [(idle_empty M ha hidle).2 i]; decide
    | panic _ => exact ih
  · intro a b m ha ih hstep
    cases hstep with
    | @call st stk g tr c i hc hl =>
      obtain ⟨hx, hp, hs⟩ := ih
      simp only at hx hp hs ⊢
      cases i with
      | sinkUp k u => exact absurd (legal_sinkUp hl) (nlive _ ha k)
      | subscribe k => exact ⟨hx, hp, hs⟩
      | srcGreet j => exact ⟨hx, hp, hs⟩
      | srcDown j d =>
        cases d with
        | data x => exact ⟨hx, hp, hs⟩
        | term => exact ⟨hx, hp, hs⟩
        | err e =>
          rw [onIn_srcErr, livesOf_eq_nil (nlive _ ha)]
          exact ⟨hx, hp, hs⟩
    | ret hl => exact ih

theorem safe_of_sinkQuiet {M : Machine St Loc α β} (h : SinkQuiet M) (hb : ∀ s, SReach M s → BasicSafe s) :
    ∀ s, SReach M s → Safe s := by
  intro s hs
  refine ⟨?_, (hb s hs).2⟩
  simp [G.viols, (hb s hs).1, (xquiet_of_sinkQuiet M h s hs).1]

end Quiet

section Criteria
variable {St Loc S1 L1 S2 L2 α β γ : Type}

theorem noUpstream_of_noSub {M : Machine St Loc α β} (h : ∀ st l i st' l', M.step st l ≠ .call (.subSrc i) st' l') :
    NoUpstream M := by
  refine ph_inv (fun g => ∀ i, g.srcPh i = .idle) Ph.srcPh_empty ?_ ?_
  · intro g o st l st' l' ih hst i
    exact onOut_srcPh_idle_ne _ _ _ (ih i) (fun ho => h _ _ _ _ _ (ho ▸ hst))
  · intro g c i ih hl j
    rcases g.onIn_srcPh i j with h | ⟨rfl, _⟩ | ⟨d, rfl, _⟩
    · rw [h]; exact ih j
    · have := legal_srcGreet hl; rw [ih j] at this; cases this
    · have := legal_srcDown hl; rw [ih j] at this; cases this

theorem sinkQuiet_of_noGreet {M : Machine St Loc α β} (h : ∀ st l k st' l', M.step st l ≠ .call (.greet k) st' l') :
    SinkQuiet M := by
  refine ph_inv (fun g => ∀ k, g.sinkPh k = .idle ∨ g.sinkPh k = .subscribed) (fun k => .inl (Ph.sinkPh_empty k)) ?_ ?_
  · intro g o st l st' l' ih hst k
    exact onOut_sinkPh_quiet _ _ k (ih k) (fun ho => h _ _ _ _ _ (ho ▸ hst))
  · intro g c i ih hl j
    rcases g.onIn_sinkPh i j with h | ⟨_, h⟩ | ⟨u, rfl, _⟩
    · rw [h]; exact ih j
    · exact .inr h
    · have := legal_sinkUp hl
      rcases ih j with hk | hk <;> rw [hk] at this <;> cases this

theorem NoUpstream.compose {M1 : Machine S1 L1 α β} {M2 : Machine S2 L2 β γ} (h : NoUpstream M1) (H : Hyp M1 M2) :
    NoUpstream (Cb.compose M1 M2) := by
  intro s hs i
  obtain ⟨s1, s2, hr1, _, hm⟩ := compose_inv H s hs
  rw [hm.gh.src i]; exact h s1 hr1 i

theorem SinkQuiet.compose {M1 : Machine S1 L1 α β} {M2 : Machine S2 L2 β γ} (h : SinkQuiet M2) (H : Hyp M1 M2) :
    SinkQuiet (Cb.compose M1 M2) := by
  intro s hs k
  obtain ⟨s1, s2, _, hr2, hm⟩ := compose_inv H s hs
  rw [hm.gh.sink k]; exact h s2 hr2 k

theorem FromIter.noUpstream {ι α α' : Type} (next : ι → Option (α × ι)) (it0 : ι) :
    NoUpstream (FromIter.machine α' next it0) := by
  apply noUpstream_of_noSub
  intro st l i st' l' h
  rcases FromIter.calls h with ho | ⟨d, ho⟩ <;> cases ho

theorem ForEach.sinkQuiet {α : Type} : SinkQuiet (ForEach.machine α) := by
  apply sinkQuiet_of_noGreet
  intro st l k st' l' h
  rcases ForEach.calls h with ho | ho | ⟨a, ho⟩ <;> cases ho

end Criteria

section QuietPipes
variable {S1 L1 S2 L2 α β γ : Type}

theorem full_of_safe {St Loc α β : Type} {s : Sys St Loc α β} (h : Safe s) : Safe s ∧ SafeFor 4 s ∧ SafeFor 5 s :=
  ⟨h, h.safeFor 4, h.safeFor 5⟩

theorem head_pipeline_safe {M1 : Machine S1 L1 α β} {M2 : Machine S2 L2 β γ} (U : UpSide M1) (hN : NoUpstream M1)
    (D : DownSide M2) : ∀ s, SReach (compose M1 M2) s → Safe s :=
  safe_of_noUpstream (hN.compose (hyp_of_roles U D)) (compose_safe_of_roles U D)

theorem tail_pipeline_safe {M1 : Machine S1 L1 α β} {M2 : Machine S2 L2 β γ} (U : UpSide M1) (D : DownSide M2)
    (hQ : SinkQuiet M2) : ∀ s, SReach (compose M1 M2) s → Safe s :=
  safe_of_sinkQuiet (hQ.compose (hyp_of_roles U D)) (compose_safe_of_roles U D)

/-- **closed pipelines of any length, in full**: `pipe!(head, stage₁, …, stageₙ, for_each(f))` for ANY head-capable head (`from_iter`,
`concat!`, `flatten`, …): C01–C05 and C17 -/
theorem closed_pipeline_full {Msrc : Machine S1 L1 α β} {Mmid : Machine S2 L2 β γ} (hsrc : UpSide Msrc) (hmid : Pipeable Mmid) :
    ∀ s, SReach (compose (compose Msrc Mmid) (ForEach.machine γ)) s → Safe s ∧ SafeFor 4 s ∧ SafeFor 5 s :=
  fun s hs => full_of_safe (tail_pipeline_safe (hsrc.compose' hmid) ForEach.downSide ForEach.sinkQuiet s hs)

theorem closed_pipeline_full₀ {Msrc : Machine S1 L1 α β} (hsrc : UpSide Msrc) :
    ∀ s, SReach (compose Msrc (ForEach.machine β)) s → Safe s ∧ SafeFor 4 s ∧ SafeFor 5 s :=
  fun s hs => full_of_safe (tail_pipeline_safe hsrc ForEach.downSide ForEach.sinkQuiet s hs)

/-- **`pipe!(from_iter(it), stage₁, …, stageₙ)` as a source, in full**: against every conformant sink -/
theorem fromIter_pipeline_full {ι α α' β S L : Type} (next : ι → Option (α × ι)) (it0 : ι)
    {Mmid : Machine S L α β} (hmid : Pipeable Mmid) :
    ∀ s, SReach (compose (FromIter.machine α' next it0) Mmid) s → Safe s ∧ SafeFor 4 s ∧ SafeFor 5 s :=
  fun s hs => full_of_safe (head_pipeline_safe (FromIter.upSide next it0) (FromIter.noUpstream next it0) hmid.downSide s hs)

end QuietPipes

/-! ## Second-layer safety from phase-level safety, for operators with DIRECT error paths

The general statement "`M₁`, `M₂` fully safe ⇒ `compose M₁ M₂` fully safe" is false (see the end of this file).  `DirectPaths` says
syntactically that the error paths are direct. -/
section Direct
variable {St Loc α β : Type}

structure DirectPaths (M : Machine St Loc α β) where
  /-- locations of a handler that is passing `Error e` upstream -/
  relUp : Nat → Loc → Prop
  /-- locations of a handler that is passing `Error e` downstream -/
  fwdDown : Nat → Loc → Prop
  up_enter : ∀ e, relUp e (M.enter (.sinkUp 0 (.err e)))
  up_step : ∀ e st l, relUp e l → match M.step st l with
    | .tau _ l' => relUp e l'
    | .call o _ _ => o = .srcUp 0 (.err e)
    | .ret => False
    | .panic _ => True
  down_enter : ∀ e, fwdDown e (M.enter (.srcDown 0 (.err e)))
  down_step : ∀ e st l, fwdDown e l → match M.step st l with
    | .tau _ l' => fwdDown e l'
    | .call o _ _ => o = .down 0 (.err e)
    | .ret => False
    | .panic _ => True

/-- only sink 0 and upstream 0 are ever used -/
def Linear (M : Machine St Loc α β) : Prop :=
  ∀ s, SReach M s → (∀ k, s.g.ph.sinkPh (k + 1) = .idle) ∧ (∀ i, s.g.ph.srcPh (i + 1) = .idle)

def OrphanTop (M : Machine St Loc α β) : Prop := ∀ s, SReach M s → s.stack = [] → NoOrphan s.g.ph

end Direct

section DirectSafe
variable {St Loc α β : Type} {M : Machine St Loc α β}

def Over (q : SrcPh) : Prop := q = .ended ∨ q = .disposed

theorem Over.not_live {q : SrcPh} (h : Over q) : q ≠ .live := by rcases h with h | h <;> rw [h] <;> decide

theorem Over.onOut {β : Type} {g : Ph} (o : Out β) {i : Nat} (h : Over (g.srcPh i)) : Over ((g.onOut o).srcPh i) := by
  rcases h with h | h
  · exact .inl (onOut_srcPh_ended _ _ _ h)
  · exact .inr (onOut_srcPh_disposed _ _ _ h)

theorem Over.onIn {α β : Type} {sh : Shape} {g : Ph} {c : Ctx β} {m : In α} {i : Nat} (hl : legalIn sh g c m = true)
    (h : Over (g.srcPh i)) : Over ((g.onIn m).srcPh i) := by
  rcases h with h | h
  · exact .inl (onIn_srcPh_ended _ _ _ _ _ hl h)
  · exact .inr (onIn_srcPh_disposed _ _ _ _ _ hl h)

def TopIs (P : Loc → Prop) : List (Frame Loc β) → Prop
  | .run l :: _ => P l
  | _ => False

theorem not_topIs_turn {P : Loc → Prop} {stk : List (Frame Loc β)} {c : Ctx β} (hc : ctxOf stk = some c) : ¬ TopIs P stk := by
  match stk, hc with
  | [], _ => exact id
  | .wait _ _ :: _, _ => exact id

theorem DirectPaths.up_tau (D : DirectPaths M) {e st l s' l'} (hst : M.step st l = .tau s' l') (h : D.relUp e l) :
    D.relUp e l' := by have := D.up_step e st l h; rwa [hst] at this

theorem DirectPaths.up_call (D : DirectPaths M) {e st l o s' l'} (hst : M.step st l = .call o s' l') (h : D.relUp e l) :
    o = .srcUp 0 (.err e) := by have := D.up_step e st l h; rwa [hst] at this

theorem DirectPaths.up_ret (D : DirectPaths M) {e st l} (hst : M.step st l = .ret) (h : D.relUp e l) : False := by
  have := D.up_step e st l h; rwa [hst] at this

theorem DirectPaths.down_tau (D : DirectPaths M) {e st l s' l'} (hst : M.step st l = .tau s' l') (h : D.fwdDown e l) :
    D.fwdDown e l' := by have := D.down_step e st l h; rwa [hst] at this

theorem DirectPaths.down_call (D : DirectPaths M) {e st l o s' l'} (hst : M.step st l = .call o s' l') (h : D.fwdDown e l) :
    o = .down 0 (.err e) := by have := D.down_step e st l h; rwa [hst] at this

theorem DirectPaths.down_ret (D : DirectPaths M) {e st l} (hst : M.step st l = .ret) (h : D.fwdDown e l) : False := by
  have := D.down_step e st l h; rwa [hst] at this

/-- the second-layer invariant, at EVERY reachable configuration -/
structure X (D : DirectPaths M) (s : Sys St Loc α β) : Prop where
  clean : s.g.xviols = []
  se : ∀ e h, s.g.sinkErr = some (e, h) → Over (s.g.ph.srcPh 0) ∨ TopIs (D.relUp e) s.stack
  pe : ∀ e h ks, s.g.pend = some (e, h, ks) → (∀ k ∈ ks, k = 0) ∧ Over (s.g.ph.srcPh 0) ∧
    ((s.g.ph.sinkPh 0 = .doneBySrc ∧ s.g.finOf 0 = some (Fin.err e)) ∨
     (s.g.ph.sinkPh 0 = .live ∧ TopIs (D.fwdDown e) s.stack))

theorem direct_X (D : DirectPaths M) (hb : ∀ s, SReach M s → BasicSafe s) (hlin : Linear M) (hor : OrphanTop M) :
    ∀ s, SReach M s → X D s := by
  apply reach_ind
  · exact ⟨rfl, fun e h hs => (by cases hs), fun e h ks hp => (by cases hp)⟩
  · intro a b ha ih hstep
    have hbb := hb b (reach_op ha hstep)
    cases hstep with
    | @tau st l stk g tr s' l' hst =>
      refine ⟨ih.clean, fun e h hs => (ih.se e h hs).imp_right (D.up_tau hst), fun e h ks hp => ?_⟩
      obtain ⟨h1, h2, h3⟩ := ih.pe e h ks hp
      exact ⟨h1, h2, h3.imp_right (.imp_right (D.down_tau hst))⟩
    | @call st l stk g tr o s' l' hst =>
      have hv : (g.ph.onOut o).viols = [] := onOut_ph M.shape g o ▸ hbb.1
      have live0 : ∀ i, g.ph.srcPh i = .live → i = 0 := fun i => zero_of_succ (by decide) (hlin _ ha).2
      -- a sink's error is pending only while the handler relaying it is on top, and that handler makes no other call
      have relay : ∀ i, g.ph.srcPh i = .live → ∀ e h, g.sinkErr = some (e, h) → o = .srcUp 0 (.err e) := by
        intro i hli e h hs
        cases live0 i hli
        exact (ih.se e h hs).elim (fun hov => absurd hli hov.not_live) (D.up_call hst)
      refine ⟨?_, ?_, ?_⟩
      · show (g.onOut M.shape o).xviols = []
        rw [onOut_xviols, ih.clean]
        · intro i ho hli
          cases hs : g.sinkErr with
          | none => rfl
          | some p => have := relay i hli p.1 p.2 hs; rw [ho] at this; cases this
        · intro i e' ho hli e h hs
          have := relay i hli e h hs; rw [ho] at this; cases this; rfl
      · intro e h hs
        rw [(onOut_sinkErr_pend _ _ _).1] at hs
        left
        simp only [onOut_ph]
        rcases ih.se e h hs with hov | hr
        · exact hov.onOut o
        · cases D.up_call hst hr
          rw [(Ph.onOut_srcUp_ok _ _ _ hv).2]
          exact .inr (by simp [Ph.afterUp])
      · intro e h ks hp
        rw [(onOut_sinkErr_pend _ _ _).2] at hp
        obtain ⟨h1, h2, h3⟩ := ih.pe e h ks hp
        refine ⟨h1, by simp only [onOut_ph]; exact h2.onOut o, .inl ?_⟩
        rcases h3 with ⟨h3, h4⟩ | ⟨h3, hr⟩
        · refine ⟨by simp only [onOut_ph]; exact onOut_sinkPh_doneBySrc _ _ _ h3, ?_⟩
          rw [onOut_finOf_same _ _ _ _ (fun d _ => by rw [h3]; decide)]
          exact h4
        · cases D.down_call hst hr
          exact ⟨by simp only [onOut_ph, (Ph.onOut_down_ok _ _ _ hv).2]; simp [isFinal], onOut_finOf_err M.shape _ _ _ h3⟩
    | @ret st l stk g tr hst =>
      obtain ⟨f1, f2, f3, f4⟩ := onRetO_fields g stk.length
      have nolive : Over (g.ph.srcPh 0) → liveSrcs g.ph = [] := fun hov =>
        liveSrcs_eq_nil fun i hi => hov.not_live (zero_of_succ (by decide) (hlin _ ha).2 hi ▸ hi)
      -- no handler of an error returns before it has passed the error on
      have se0 : ∀ e h, g.sinkErr = some (e, h) → Over (g.ph.srcPh 0) := fun e h hs =>
        (ih.se e h hs).resolve_right (D.up_ret hst)
      have pe0 : ∀ e h ks, g.pend = some (e, h, ks) → (∀ k ∈ ks, k = 0) ∧ Over (g.ph.srcPh 0) ∧
          g.ph.sinkPh 0 = .doneBySrc ∧ g.finOf 0 = some (Fin.err e) := fun e h ks hp =>
        let ⟨h1, h2, h3⟩ := ih.pe e h ks hp
        ⟨h1, h2, h3.resolve_right fun hr => D.down_ret hst hr.2⟩
      refine ⟨?_, ?_, ?_⟩
      · show (g.onRetO stk.length).xviols = []
        rw [onRetO_xviols, ih.clean]
        · intro e h ks hp _
          obtain ⟨h1, h2, _, h4⟩ := pe0 e h ks hp
          exact ⟨fun k hk => by rw [h1 k hk]; exact .inl h4, nolive h2⟩
        · intro hn hopen
          have := hor _ (reach_op ha (.ret hst)) (List.eq_nil_of_length_eq_zero hn)
          simp only [f1] at this
          exact liveSrcs_eq_nil (this hopen)
      · intro e h hs
        simp only [f1]
        exact .inl (se0 e h (f4.elim (fun f => f ▸ hs) fun f => by rw [f] at hs; cases hs))
      · intro e h ks hp
        obtain ⟨h1, h2, h3, h4⟩ := pe0 e h ks (f3.elim (fun f => f ▸ hp) fun f => by rw [f] at hp; cases hp)
        exact ⟨h1, by simpa only [f1] using h2, .inl ⟨by simpa only [f1] using h3, by simpa only [G.finOf, f2] using h4⟩⟩
    | panic hst => exact absurd hbb.2 (by simp)
  · intro a b m ha ih hstep
    cases hstep with
    | @call st stk g tr c i hc hl =>
      have hlin' := hlin _ ha
      simp only at hlin'
      have hnt : ∀ P : Loc → Prop, ¬ TopIs P stk := fun P => not_topIs_turn hc
      obtain ⟨hx, hfin, hse, hpe⟩ := onIn_fields g stk.length i
      have hse0 : ∀ e h, g.sinkErr = some (e, h) → Over (g.ph.srcPh 0) := fun e h hs =>
        (ih.se e h hs).resolve_right (hnt _)
      have hpe0 : ∀ e h ks, g.pend = some (e, h, ks) → (∀ k ∈ ks, k = 0) ∧ Over (g.ph.srcPh 0) ∧
          g.ph.sinkPh 0 = .doneBySrc ∧ g.finOf 0 = some (Fin.err e) := fun e h ks hp =>
        let ⟨h1, h2, h3⟩ := ih.pe e h ks hp
        ⟨h1, h2, h3.resolve_right fun hr => hnt _ hr.2⟩
      refine ⟨by show (g.onIn stk.length i).xviols = []; rw [hx]; exact ih.clean, ?_, ?_⟩
      · intro e h hs
        simp only [onIn_ph] at hs ⊢
        by_cases hi : ∃ k e', i = .sinkUp k (.err e')
        · obtain ⟨k, e', rfl⟩ := hi
          rw [onIn_sinkErr] at hs
          simp only [Option.some.injEq, Prod.mk.injEq] at hs
          obtain ⟨rfl, _⟩ := hs
          cases zero_of_succ (by decide) hlin'.1 (legal_sinkUp hl)
          exact .inr (D.up_enter e')
        · rw [hse fun k e' he => hi ⟨k, e', he⟩] at hs
          exact .inl ((hse0 e h hs).onIn hl)
      · intro e h ks hp
        simp only [onIn_ph] at hp ⊢
        by_cases hi : ∃ j e', i = .srcDown j (.err e')
        · obtain ⟨j, e', rfl⟩ := hi
          cases zero_of_succ (by decide) hlin'.2 (legal_srcDown hl)
          have hq : Over ((g.ph.onIn (.srcDown 0 (.err e') : In α)).srcPh 0) := .inl (by simp [Ph.onIn])
          have hp0 : ∀ k, (g.ph.onIn (.srcDown 0 (.err e') : In α)).sinkPh k = g.ph.sinkPh k := fun k => by simp [Ph.onIn]
          rw [onIn_srcErr] at hp
          split at hp
          · simp only at hp
            obtain ⟨h1, _, h3, h4⟩ := hpe0 e h ks hp
            exact ⟨h1, hq, .inl ⟨by rw [hp0]; exact h3, by simpa [G.finOf, hfin] using h4⟩⟩
          · rename_i hcond
            simp only [Option.some.injEq, Prod.mk.injEq] at hp
            obtain ⟨rfl, _, rfl⟩ := hp
            have hmem : ∀ k ∈ livesOf g.ph, k = 0 := fun k hk =>
              zero_of_succ (by decide) hlin'.1 ((mem_livesOf _ _).1 hk)
            have hlive : g.ph.sinkPh 0 = .live := by
              simp only [Bool.or_eq_true, List.isEmpty_iff, not_or] at hcond
              cases hls : livesOf g.ph with
              | nil => exact absurd hls hcond.1
              | cons k r =>
                have hk : k ∈ livesOf g.ph := by rw [hls]; exact List.mem_cons_self
                have := hmem k hk; subst this
                exact (mem_livesOf _ _).1 hk
            exact ⟨hmem, hq, .inr ⟨by rw [hp0]; exact hlive, D.down_enter _⟩⟩
        · rw [hpe fun j e' he => hi ⟨j, e', he⟩] at hp
          obtain ⟨h1, h2, h3, h4⟩ := hpe0 e h ks hp
          exact ⟨h1, h2.onIn hl, .inl ⟨onIn_sinkPh_doneBySrc _ _ _ _ _ hl h3, by simpa [G.finOf, hfin] using h4⟩⟩
    | @ret st stk g tr o l hl =>
      refine ⟨ih.clean, fun e h hs => .inl ((ih.se e h hs).resolve_right id), fun e h ks hp => ?_⟩
      obtain ⟨h1, h2, h3⟩ := ih.pe e h ks hp
      exact ⟨h1, h2, .inl (h3.resolve_right fun hr => hr.2)⟩

/-- **second-layer safety from phase-level safety**: an operator with direct error paths that uses one sink and one upstream, is
phase-level safe and leaves no orphan at top level is fully safe -/
theorem direct_safe (D : DirectPaths M) (hb : ∀ s, SReach M s → BasicSafe s) (hlin : Linear M) (hor : OrphanTop M) :
    ∀ s, SReach M s → Safe s := by
  intro s hs
  refine ⟨?_, (hb s hs).2⟩
  simp [G.viols, (hb s hs).1, (direct_X D hb hlin hor s hs).clean]

end DirectSafe

section DirectCompose
variable {S1 L1 S2 L2 α β γ : Type} {M1 : Machine S1 L1 α β} {M2 : Machine S2 L2 β γ}

/-- the error paths of a pipeline: up through `M₂` then `M₁`, down through `M₁` then `M₂` -/
def DirectPaths.compose (D1 : DirectPaths M1) (D2 : DirectPaths M2) : DirectPaths (Cb.compose M1 M2) where
  relUp e cfs := match cfs with
    | .hi l :: _ => D2.relUp e l
    | .lo l :: _ => D1.relUp e l
    | [] => False
  fwdDown e cfs := match cfs with
    | .hi l :: _ => D2.fwdDown e l
    | .lo l :: _ => D1.fwdDown e l
    | [] => False
  up_enter e := D2.up_enter e
  down_enter e := D1.down_enter e
  up_step e st cfs h := by
    obtain ⟨s1, s2⟩ := st
    match cfs, h with
    | .lo l :: rest, h =>
      have h1 := D1.up_step e s1 l h
      cases hs : M1.step s1 l with
      | tau s1' l' => rw [hs] at h1; rw [compose_lo_tau hs]; exact h1
      | ret => rw [hs] at h1; exact h1.elim
      | panic m => rw [compose_lo_panic hs]; trivial
      | call o s1' l' => rw [hs] at h1; subst h1; rw [compose_lo_srcUp hs]
    | .hi l :: rest, h =>
      have h2 := D2.up_step e s2 l h
      cases hs : M2.step s2 l with
      | tau s2' l' => rw [hs] at h2; rw [compose_hi_tau hs]; exact h2
      | ret => rw [hs] at h2; exact h2.elim
      | panic m => rw [compose_hi_panic hs]; trivial
      | call o s2' l' => rw [hs] at h2; subst h2; rw [compose_hi_srcUp hs]; exact D1.up_enter e
  down_step e st cfs h := by
    obtain ⟨s1, s2⟩ := st
    match cfs, h with
    | .lo l :: rest, h =>
      have h1 := D1.down_step e s1 l h
      cases hs : M1.step s1 l with
      | tau s1' l' => rw [hs] at h1; rw [compose_lo_tau hs]; exact h1
      | ret => rw [hs] at h1; exact h1.elim
      | panic m => rw [compose_lo_panic hs]; trivial
      | call o s1' l' => rw [hs] at h1; subst h1; rw [compose_lo_down hs]; exact D2.down_enter e
    | .hi l :: rest, h =>
      have h2 := D2.down_step e s2 l h
      cases hs : M2.step s2 l with
      | tau s2' l' => rw [hs] at h2; rw [compose_hi_tau hs]; exact h2
      | ret => rw [hs] at h2; exact h2.elim
      | panic m => rw [compose_hi_panic hs]; trivial
      | call o s2' l' => rw [hs] at h2; subst h2; rw [compose_hi_down hs]

theorem Linear.compose (h1 : Linear M1) (h2 : Linear M2) (H : Hyp M1 M2) : Linear (Cb.compose M1 M2) := by
  intro s hs
  obtain ⟨s1, s2, hr1, hr2, hm⟩ := compose_inv H s hs
  exact ⟨fun k => by rw [hm.gh.sink]; exact (h2 s2 hr2).1 k, fun i => by rw [hm.gh.src]; exact (h1 s1 hr1).2 i⟩

theorem OrphanTop.compose (h1 : OrphanTop M1) (h2 : OrphanTop M2) (H : Hyp M1 M2) : OrphanTop (Cb.compose M1 M2) := by
  intro s hs hstk hopen i
  obtain ⟨s1, s2, hr1, hr2, hk1, hk2, _, _, hgh, _, _⟩ := proj_top H hs hstk
  rw [hgh.src i]
  have hopen2 : s2.g.ph.anySinkOpen = false :=
    Bool.eq_false_iff.2 fun h => Bool.eq_false_iff.1 hopen (anySinkOpen_of_sink hgh.sink h)
  have hq := h2 s2 hr2 hk2 hopen2 0
  have hnsub : s2.g.ph.srcPh 0 ≠ .subscribed := by
    intro hsub
    obtain ⟨l, r, he⟩ := subscribed_top M2 H.lg2 hr2 0 hsub
    rw [hk2] at he; cases he
  -- no sink of `M₁` is open either: it could only be `M₂`, whose upstream would then be subscribed or live
  have hopen1 : s1.g.ph.anySinkOpen = false :=
    Bool.eq_false_iff.2 fun h => (slot_open_of hgh.sink1 hgh.ifc h).elim hnsub hq
  exact h1 s1 hr1 hk1 hopen1 i

end DirectCompose

/-- a stage whose second layer follows from its first -/
structure FullStage {St Loc α β : Type} (M : Machine St Loc α β) : Prop where
  pipe : Pipeable M
  lin : Linear M
  orphan : OrphanTop M
  direct : Nonempty (DirectPaths M)

theorem FullStage.safe {St Loc α β : Type} {M : Machine St Loc α β} (h : FullStage M) : ∀ s, SReach M s → Safe s :=
  let ⟨D⟩ := h.direct
  direct_safe D h.pipe.safe h.lin h.orphan

theorem FullStage.compose {S1 L1 S2 L2 α β γ : Type} {M1 : Machine S1 L1 α β} {M2 : Machine S2 L2 β γ}
    (h1 : FullStage M1) (h2 : FullStage M2) : FullStage (Cb.compose M1 M2) :=
  have H : Hyp M1 M2 := hyp_of_roles h1.pipe.upSide h2.pipe.downSide
  let ⟨D1⟩ := h1.direct
  let ⟨D2⟩ := h2.direct
  ⟨h1.pipe.compose h2.pipe, h1.lin.compose h2.lin H, h1.orphan.compose h2.orphan H, ⟨D1.compose D2⟩⟩

/-- **FULL assume–guarantee for pipelines of direct stages** -/
theorem compose_safe {S1 L1 S2 L2 α β γ : Type} {M1 : Machine S1 L1 α β} {M2 : Machine S2 L2 β γ}
    (h1 : FullStage M1) (h2 : FullStage M2) :
    ∀ s, SReach (compose M1 M2) s → Safe s ∧ SafeFor 4 s ∧ SafeFor 5 s :=
  fun s hs => full_of_safe ((h1.compose h2).safe s hs)

section Instances
variable {St Loc α β : Type}

theorem linear_of {M : Machine St Loc α β} (hm : M.shape.multiSink = false)
    (h1 : ∀ st l i st' l', M.step st l ≠ .call (.subSrc (i + 1)) st' l') : Linear M := by
  refine ph_inv (fun g => (∀ k, g.sinkPh (k + 1) = .idle) ∧ ∀ i, g.srcPh (i + 1) = .idle)
    ⟨fun _ => Ph.sinkPh_empty _, fun _ => Ph.srcPh_empty _⟩ ?_ ?_
  · intro g o st l st' l' ih hst
    exact ⟨fun k => onOut_sinkPh_idle_keep _ _ _ (ih.1 k),
      fun i => onOut_srcPh_idle_ne _ _ _ (ih.2 i) (fun ho => h1 _ _ _ _ _ (ho ▸ hst))⟩
  · intro g c i ih hl
    -- a legal call addresses sink 0 or upstream 0
    refine ⟨fun j => ?_, fun j => ?_⟩
    · rcases g.onIn_sinkPh i (j + 1) with h | ⟨rfl, _⟩ | ⟨u, rfl, _⟩
      · rw [h]; exact ih.1 j
      · simp only [legalIn, Bool.and_eq_true, beq_iff_eq, Bool.or_eq_true, hm] at hl
        rcases hl.2 with hk | hk <;> cases hk
      · have := legal_sinkUp hl; rw [ih.1 j] at this; cases this
    · rcases g.onIn_srcPh i (j + 1) with h | ⟨rfl, _⟩ | ⟨d, rfl, _⟩
      · rw [h]; exact ih.2 j
      · have := legal_srcGreet hl; rw [ih.2 j] at this; cases this
      · have := legal_srcDown hl; rw [ih.2 j] at this; cases this

def Relay.directPaths {σ α β : Type} (k : Relay.Kind σ α β) : DirectPaths (Relay.machine k) where
  relUp e l := l = .u0 (.err e)
  fwdDown e l := l = .fwd (.err e)
  up_enter _ := rfl
  down_enter _ := rfl
  up_step e st l h := by
    subst h
    by_cases hc : (k.slotted && !st.slot) = true <;> simp [Relay.machine, Relay.step, hc]
  down_step e st l h := by subst h; simp only [Relay.machine, Relay.step]

theorem Relay.fullStage {σ α β : Type} (k : Relay.Kind σ α β) (hk : k.slotted = false → ∀ s a, (k.xfer s a).2 ≠ none) :
    FullStage (Relay.machine k) := by
  refine ⟨Relay.pipeable k hk, linear_of rfl (Relay.oneSrc k), ?_, ⟨Relay.directPaths k⟩⟩
  intro s hs hstk
  exact (Lands.full_at_turn (Relay.inv_init k) XOkRelay.init (fun s hi => (Relay.inv_turn k s hi).1) (Relay.macro_step k hk) hs
    (envTurn_of_top (Relay.relay_basicSafe k hk s hs).2 hstk)).2.1.orphan

def Take.directPaths {α : Type} (max : Nat) : DirectPaths (Take.machine α max) where
  relUp e l := l = .x0 (.err e) ∨ l = .x1 (.err e)
  fwdDown e l := l = .fwd (.err e)
  up_enter _ := .inl rfl
  down_enter _ := rfl
  up_step e st l h := by
    rcases h with h | h <;> subst h
    · simp [Take.machine, Take.step]
    · by_cases hc : st.tb = true <;> simp [Take.machine, Take.step, hc]
  down_step e st l h := by subst h; simp only [Take.machine, Take.step]

theorem Take.fullStage {α : Type} (max : Nat) : FullStage (Take.machine α max) := by
  refine ⟨Take.pipeable max, linear_of rfl (Take.oneSrc max), ?_, ⟨Take.directPaths max⟩⟩
  intro s hs hstk
  exact (Lands.full_at_turn (Take.inv_init max) XOkRelay.init (fun s hi => (Take.inv_turn max s hi).1) (Take.macro_step max) hs
    (envTurn_of_top (Take.take_basicSafe max s hs).2 hstk)).2.1.orphan

end Instances

/-- `pipe!(·, map(f), filter(p), take(n))` as an OPERATOR, against every conformant upstream and every conformant sink: C01–C05, C17 -/
theorem map_filter_take_full {α β : Type} (f : α → β) (p : β → Bool) (n : Nat) :
    ∀ s, SReach (compose (compose (Relay.machine (Relay.map f)) (Relay.machine (Relay.filter p))) (Take.machine β n)) s →
      Safe s ∧ SafeFor 4 s ∧ SafeFor 5 s :=
  compose_safe ((Relay.fullStage (Relay.map f) (Relay.map_ok f)).compose
    (Relay.fullStage (Relay.filter p) (Relay.filter_ok p))) (Take.fullStage n)

/-- five stages, bracketed to the right -/
example {α β γ : Type} (k : Nat) (r : β → α → β) (seed : β) (f : β → γ) (p : γ → Bool) (n : Nat) :
    ∀ s, SReach (compose (Relay.machine (Relay.skip (α := α) k)) (compose (Relay.machine (Relay.scan r seed))
        (compose (Relay.machine (Relay.map f)) (compose (Relay.machine (Relay.filter p)) (Take.machine γ n))))) s → Safe s :=
  ((Relay.fullStage (Relay.skip k) (Relay.skip_ok k)).compose
    ((Relay.fullStage (Relay.scan r seed) (Relay.scan_ok r seed)).compose
      ((Relay.fullStage (Relay.map f) (Relay.map_ok f)).compose
        ((Relay.fullStage (Relay.filter p) (Relay.filter_ok p)).compose (Take.fullStage n))))).safe

/-! ## Why there is no `compose_safe` from `Safe M₁`, `Safe M₂` and the `Pipeable` side conditions alone

Both executions below are runs of a pipeline `compose M₁ M₂` in which neither component records any violation (under EVERY conformant
environment each is `Safe`), the side conditions of `compose_basicSafe` hold, and the pipeline's monitor records a second-layer violation.

1. `errLost`.  `M₁`: on `Error e` from its upstream it first delivers one more `Data` to its sink and then `Error e` (its own check
   passes: its sink ends up with exactly `Error e`, or has disposed).  `M₂ = take(n)` with one item to go.  The external upstream
   sends `Error e` while the external sink is live (the pipeline's check is armed for that sink); `M₁` delivers the datum; `take`
   completes: `Terminate` to the external sink, `Terminate` upstream (so `M₁`'s sink has disposed — exempt from `M₁`'s check).  When
   the handler returns the external sink has received `Terminate`, not `Error e`: `errLost e 0` for the pipeline.
2. `errNotRelayed`.  `M₂`: on `Error e` from its sink it first sends `Pull` upstream and only then `Error e` (no check of `M₂` looks at a
   `Pull`).  `M₁ = take(n)` with one item to go, `relayErr` on both.  The external sink sends `Error e`; `M₂` pulls; `M₁` pulls the
   external upstream, which answers with the last item; `take` delivers it and completes: `Terminate` to the external upstream —
   while the pipeline is still inside the handler of the sink's `Error e` and that upstream was live: `errNotRelayed 0` for the
   pipeline.  (`M₁` has received no error from ITS sink, so its own monitor is silent.)

`DirectPaths` excludes exactly these: nothing happens between the arrival of an `Error` and its being passed on. -/

end ComposeFull
end Cb

#print axioms Cb.ComposeFull.safe_of_noUpstream
#print axioms Cb.ComposeFull.safe_of_sinkQuiet
#print axioms Cb.ComposeFull.closed_pipeline_full
#print axioms Cb.ComposeFull.fromIter_pipeline_full
#print axioms Cb.ComposeFull.direct_safe
#print axioms Cb.ComposeFull.FullStage.compose
#print axioms Cb.ComposeFull.compose_safe
#print axioms Cb.ComposeFull.Relay.fullStage
#print axioms Cb.ComposeFull.Take.fullStage
#print axioms Cb.ComposeFull.map_filter_take_full
