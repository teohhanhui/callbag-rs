import CallbagModel.Inv.FlatPlugSafe
import CallbagModel.Inv.FlattenK
import CallbagModel.Inv.EndOnPull
/-!
# What `flatten(map(g)(outer))` computes: `flat_headOkT`

For a closed head `Mo` of `ys` that delivers data only when pulled (`PullOnly`, `Inv/PullOnly.lean`) and closed heads
`atInit Mi (initOf a)` of `g a`, the network `flatPlug Mo Mi initOf` is a closed head of `ys.flatMap g`, in the strengthened sense `HeadOkT`
of `Inv/PlugConcat.lean` (so that it composes with stages, with `concat!`, and is closed by `for_each`).

Without `PullOnly Mo` the statement is FALSE.  `HeadOkT` quantifies over EVERY conformant sink, and flatten SWITCHES: an outer datum that
arrives while an inner source is live terminates that inner source.  Take `outer = concat!(take(1)(from_iter([1,2])), from_iter([5]))`
(a `HeadOkT` head for `[1, 5]` by `concat2_headOkT`) and `g a = from_iter([a, a+1])`, against a LAZY sink (one `Pull` at a time, from
top level only):

1. the sink pulls; flatten (no inner) pulls the outer; `concat` remembers `got_pull`, pulls `take`, `take` pulls its source, gets `1`,
   delivers `1`; flatten subscribes inner 1 `= from_iter([1,2])`, pulls it, inner 1 delivers `1`; the sink receives `1` and returns
   WITHOUT pulling; inner 1 stays live;
2. control unwinds to `take`, which has its one item: `Terminate` upstream and downstream — unsolicited; `concat` subscribes its
   second member and, `got_pull` being sticky, pulls it although no `Pull` is outstanding; the member delivers `5` — an outer datum
   that answers no `Pull` of flatten;
3. flatten, inner 1 still live, terminates inner 1 (switch), subscribes inner 2 `= from_iter([5,6])`, pulls it: the sink receives `5`.

The sink has received `[1, 5]`, not a prefix of `[1, 2, 5, 6]`.  What the statement needs in addition is that the OUTER source delivers
data only in answer to a `Pull` (true of `from_iter` followed by stages; not of `concat!` whose first member ends unsolicited, i.e. ends
with a `take`).  Closed with `for_each` the program above IS correct — `for_each` pulls from inside every data handler, so an inner
source is exhausted before control returns to `take` — but that depends on the eagerness of the sink and cannot be proved through a
guarantee that holds against every conformant sink.

The proof combines the projection with traces (`flatPlug_inv_tr`, `Inv/FlatPlugSafe.lean`) with the invariants of flatten under
the assumption `Cnd` (`Inv/FlattenK.lean`); `Cnd` holds of flatten's trace because the outer source is `PullOnly` and no component
delivers an `Error`.

Is the result `PullOnly` again?  NOT in general: flatten pulls a new inner source as soon as it greets, and re-pulls the outer source
as soon as an inner source ends.  Take `outer = from_iter([1,2])`, `g a = take(1)(from_iter([a, a+1]))`, and a lazy sink (one `Pull`
at a time, from top level): the sink pulls; flatten pulls the outer, gets `1`, subscribes inner 1, pulls it, forwards `1` — the sink's
`Pull` is served, the sink returns without pulling; `take(1)` now ends inner 1 unsolicited; flatten re-pulls the outer (`it2`), which
delivers `2` from its loop; flatten subscribes inner 2, pulls it and forwards `2`: a datum that answers no `Pull` of the sink.
(The data are still `[1, 2] = [1,2].flatMap g`; only `PullOnly` fails.)  It holds if the inner sources end only when pulled
(`from_iter` does): `flatPlug_pullOnly` of `Inv/FlatDemand.lean`, on which `flatRep` over a take-free program rests (`Prog3.ok2`).
-/
namespace Cb
namespace FlatPlugFun
open ComposeSafe ComposeFun ComposeComplete PlugSafe PlugConcat FlatPlugSafe ComposeFull ConcatN

theorem getD_map_of_getElem? {X Y : Type} {l : List X} {f : X → Y} {j : Nat} {a : X} (h : l[j]? = some a) (d : Y) :
    (l.map f).getD j d = f a := by
  simp [List.getD_eq_getElem?_getD, List.getElem?_map, h]

theorem flatMap_prefix {as ys : List Int} (g : Int → List Int) (h : as <+: ys) : as.flatMap g <+: ys.flatMap g := by
  obtain ⟨t, rfl⟩ := h
  rw [List.flatMap_append]
  exact List.prefix_append _ _

section Main
variable {So Lo Si Li αo αi : Type} {Mo : Machine So Lo αo Int} {Mi : Machine Si Li αi Int} {initOf : Int → Si}

structure ProjF (Mo : Machine So Lo αo Int) (Mi : Machine Si Li αi Int) (initOf : Int → Si)
    (s : NSys So Lo Si Li) (sO : Sys So Lo αo Int) (sF : FSys) (fam : Fam Si Li αi) : Prop where
  rO : SReach Mo sO
  rF : SReach (Flatten.machine Int) sF
  m : MatchF Mi initOf s sO sF fam
  t : TrF s.st.pending s.tr sO.tr sF.tr fam
  c : FK.Cnd sF.tr

/-- the outer source sits at upstream 0 of `flatten`, the inner source `j + 1` at its upstream `j + 1`: `Ifc` of `Inv/ComposeSafe.lean` -/
theorem ifcO {pd : Option Int} {tr : List (Ev Int Int)} {s : NSys So Lo Si Li} {sO : Sys So Lo αo Int} {sF : FSys} {fam : Fam Si Li αi}
    (ho : OuterRel s sO sF) (ht : TrF pd tr sO.tr sF.tr fam) : Ifc 0 sO sF :=
  ⟨ht.ifcO.symm, ho.ifcO⟩

theorem ifcI {pd : Option Int} {tr : List (Ev Int Int)} {trO : List (Ev αo Int)} {s : NSys So Lo Si Li} {sF : FSys} {fam : Fam Si Li αi}
    (hi : InnerRel Mi initOf s sF fam) (ht : TrF pd tr trO sF.tr fam) {j : Nat} {a : Int} {sI : Sys Si Li αi Int}
    (hf : fam (j + 1) = some (a, sI)) : Ifc (j + 1) sI sF :=
  ⟨by have := ht.ifcI j; rwa [hf] at this, by have := hi.ifcI j; rwa [hf] at this⟩

theorem srcEq_of_none {pd : Option Int} {tr : List (Ev Int Int)} {trO : List (Ev αo Int)} {trF : List (Ev Int Int)} {fam : Fam Si Li αi}
    (ht : TrF pd tr trO trF fam) {j : Nat} (hf : fam (j + 1) = none) : srcEq (j + 1) (srcEvs trF) = [] := by
  have := ht.ifcI j; rwa [hf] at this

theorem projF (H : HypF Mo Mi initOf) (PO : PullOnly Mo) (NEO : NoErr Mo) (NEI : ∀ a, NoErr (atInit Mi (initOf a))) :
    ∀ s, SReach (flatPlug Mo Mi initOf) s → ∃ sO sF fam, ProjF Mo Mi initOf s sO sF fam := by
  intro s hs
  obtain ⟨sO, sF, fam, hrO, hrF, hm, htr⟩ := flatPlug_inv_tr H s hs
  refine ⟨sO, sF, fam, hrO, hrF, hm, htr, (ifcO hm.outer htr).pOk (PO sO hrO), ?_⟩
  rintro ⟨i, e, hi⟩
  cases i with
  | zero => exact (ifcO hm.outer htr).noErr (NEO sO hrO) e hi
  | succ j =>
    cases hf : fam (j + 1) with
    | none => exact nomatch srcEq_of_none htr hf ▸ mem_srcEq_down hi
    | some p => exact (ifcI hm.inner htr hf).noErr (NEI p.1 p.2 (hm.inner.rI _ _ _ hf)) e hi

theorem ctx_proj (j : Nat) {kI : List (Nat × Frame Li Int)} (h : ∀ p ∈ kI, ∃ o l, p.2 = Frame.wait o l ∧ Internal1 o) :
    (ctxOf (proj j kI)).isSome = true := by
  rcases proj_head j h with hp | ⟨o, l, r, hp, _⟩ <;> rw [hp] <;> rfl

variable {s : NSys So Lo Si Li} {sO : Sys So Lo αo Int} {sF : FSys} {fam : Fam Si Li αi}

theorem ProjF.turn (h : ProjF Mo Mi initOf s sO sF fam) (ht : EnvTurn s) :
    EnvTurn sO ∧ EnvTurn sF ∧ ∀ j a sI, fam j = some (a, sI) → EnvTurn sI := by
  obtain ⟨topI, kI, hsm, hstk, _, _⟩ := h.m.stk
  have hpO := h.m.outer.pO
  have hpF := h.m.core.pF
  have hpI := h.m.inner.pI
  obtain ⟨st, stk, g, tr, p⟩ := s
  obtain ⟨stO, kO, gO, trO, pO⟩ := sO
  obtain ⟨stF, kF, gF, trF, pF⟩ := sF
  simp only at hsm hpO hpF hstk
  have hctx := ht.2
  simp only at hctx
  cases hsm with
  | turn hrel =>
    obtain ⟨h1, h2, h3⟩ := hrel.turnsF
    refine ⟨⟨hpO, h1⟩, ⟨hpF, h2⟩, fun j a sI hf => ⟨hpI j a sI hf, ?_⟩⟩
    rw [hstk j a sI hf, istack_none]
    exact ctx_proj j h3
  | runO hrel => simp [ctxOf] at hctx
  | runI hrel => simp [ctxOf] at hctx
  | runF hrel => simp [ctxOf] at hctx

theorem ProjF.top (h : ProjF Mo Mi initOf s sO sF fam) (ht : s.stack = []) :
    sO.stack = [] ∧ sF.stack = [] ∧ ∀ j a sI, fam j = some (a, sI) → sI.stack = [] := by
  obtain ⟨topI, kI, hsm, hstk, _, _⟩ := h.m.stk
  obtain ⟨st, stk, g, tr, p⟩ := s
  obtain ⟨stO, kO, gO, trO, pO⟩ := sO
  obtain ⟨stF, kF, gF, trF, pF⟩ := sF
  simp only at hsm hstk ht
  subst ht
  cases hsm with
  | turn hrel =>
    cases hrel with
    | nil => exact ⟨rfl, rfl, fun j a sI hf => by rw [hstk j a sI hf]; rfl⟩

theorem ProjF.recv (h : ProjF Mo Mi initOf s sO sF fam) : recvData 0 s.tr = recvData 0 sF.tr := by
  rw [recvData_eq, recvData_eq, h.t.sink]

theorem ProjF.ifcO (h : ProjF Mo Mi initOf s sO sF fam) : Ifc 0 sO sF := FlatPlugFun.ifcO h.m.outer h.t

theorem ProjF.ifcI (h : ProjF Mo Mi initOf s sO sF fam) {j : Nat} {a : Int} {sI : Sys Si Li αi Int} (hf : fam (j + 1) = some (a, sI)) :
    Ifc (j + 1) sI sF :=
  FlatPlugFun.ifcI h.m.inner h.t hf

theorem ProjF.outerData (h : ProjF Mo Mi initOf s sO sF fam) : sentS 0 (srcEvs sF.tr) = recvData 0 sO.tr :=
  sentData_eq 0 sF.tr ▸ h.ifcO.sent

theorem ProjF.innerData (h : ProjF Mo Mi initOf s sO sF fam) (j : Nat) :
    sentData (j + 1) sF.tr = match fam (j + 1) with
      | some (_, sI) => recvData 0 sI.tr
      | none => [] := by
  cases hf : fam (j + 1) with
  | none => rw [sentData_eq, ← sentS_srcEq, srcEq_of_none h.t hf]; rfl
  | some p => exact (h.ifcI hf).sent

theorem ProjF.innerEnded (h : ProjF Mo Mi initOf s sO sF fam) (j : Nat) (he : sF.g.ph.srcPh (j + 1) = .ended) :
    ∃ a sI, fam (j + 1) = some (a, sI) ∧ sI.g.ph.sinkPh 0 = .doneBySrc := by
  cases hf : fam (j + 1) with
  | none => have := h.m.inner.ifcI j; rw [hf, he] at this; cases this
  | some p => exact ⟨p.1, p.2, rfl, (h.ifcI hf).ended he⟩

/-- **`flatten(map(g)(outer))`** for an outer head that delivers only when pulled: the network is a head of `ys.flatMap g` -/
theorem flat_headOkT {ys : List Int} {g : Int → List Int} (hO : HeadOkT Mo ys) (NO : NoUpstream Mo) (PO : PullOnly Mo)
    (hI : ∀ a, HeadOkT (atInit Mi (initOf a)) (g a)) (NI : ∀ a, NoUpstream (atInit Mi (initOf a))) :
    HeadOkT (flatPlug Mo Mi initOf) (ys.flatMap g) ∧ NoUpstream (flatPlug Mo Mi initOf) := by
  have H : HypF Mo Mi initOf := ⟨hO.head.up, NO, fun a => (hI a).head.up, NI⟩
  have UQ := flatPlug_upSide H
  have hproj := projF H PO hO.noErr (fun a => (hI a).noErr)
  have data : ∀ s, SReach (flatPlug Mo Mi initOf) s → EnvTurn s →
      ∃ (sO : Sys So Lo αo Int) (sF : FSys) (fam : Fam Si Li αi), ProjF Mo Mi initOf s sO sF fam ∧ EnvTurn sO ∧
        recvData 0 s.tr <+: (recvData 0 sO.tr).flatMap g ∧
        (s.g.ph.sinkPh 0 = .doneBySrc → recvData 0 s.tr = (recvData 0 sO.tr).flatMap g ∧ sO.g.ph.sinkPh 0 = .doneBySrc) := by
    intro s hs ht
    obtain ⟨sO, sF, fam, hp⟩ := hproj s hs
    obtain ⟨htO, htF, htI⟩ := hp.turn ht
    obtain ⟨hk, _, _⟩ := FK.E1_reach sF hp.rF hp.c
    obtain ⟨m, hm, hd, hcnt⟩ := FK.E2T_of_turn hp.rF htF hp.c
    have hlen : m = (recvData 0 sO.tr).length := by rw [← hp.outerData, ← sentData_eq]; exact hcnt.symm
    -- inner source `j + 1` was created for the `j`-th outer datum
    have hborn : ∀ j a sI, fam (j + 1) = some (a, sI) → ((recvData 0 sO.tr).map g).getD j [] = g a :=
      fun j a sI hf => getD_map_of_getElem? (hp.outerData ▸ hp.t.born j a sI hf) []
    have hpre : ∀ j, sentData (j + 1) sF.tr <+: ((recvData 0 sO.tr).map g).getD j [] := by
      intro j
      rw [hp.innerData j]
      cases hf : fam (j + 1) with
      | none => exact List.nil_prefix
      | some p => rw [hborn j p.1 p.2 hf]; exact (hI p.1).head.spec p.2 (hp.m.inner.rI _ _ _ hf) (htI _ _ _ hf)
    have hfull : ∀ j, sF.g.ph.srcPh (j + 1) = .ended → sentData (j + 1) sF.tr = ((recvData 0 sO.tr).map g).getD j [] := by
      intro j he
      obtain ⟨a, sI, hf, hdI⟩ := hp.innerEnded j he
      rw [hborn j a sI hf, hp.innerData j, hf]
      exact (hI a).doneT sI (hp.m.inner.rI _ _ _ hf) (htI _ _ _ hf) hdI
    have hflat : (recvData 0 sO.tr).flatMap g = catN (fun j => ((recvData 0 sO.tr).map g).getD j []) m := by
      rw [hlen, ← List.length_map g, catN_getD, List.flatMap_def]
    -- as for `concat`: the inner sources before the last one complete, the last one a prefix (`catN_prefix`)
    refine ⟨sO, sF, fam, hp, htO, ?_, ?_⟩
    · rw [hp.recv, hd, hflat]
      exact catN_prefix (i0 := m - 1) (fun j h1 _ => hfull j (hk.ended (j + 1) (by omega) (by omega))) (fun _ => hpre _)
        (fun j h1 h2 => by omega)
    · intro hdone
      have hdF : sF.g.ph.sinkPh 0 = .doneBySrc := by rw [← hp.m.core.sink 0]; exact hdone
      obtain ⟨h0, hall⟩ := hk.tc hdF
      refine ⟨?_, hp.ifcO.ended h0⟩
      rw [hp.recv, hd, hflat]
      exact catN_congr fun j hj => hfull j (hall (j + 1) (by omega) (by omega))
  have doneT : DoneTurn (flatPlug Mo Mi initOf) (ys.flatMap g) := by
    intro s hs ht hd
    obtain ⟨sO, sF, fam, hp, htO, _, h2⟩ := data s hs ht
    obtain ⟨h3, h4⟩ := h2 hd
    rw [h3, hO.doneT sO hp.rO htO h4]
  refine ⟨⟨⟨UQ, ?_, fun s hs hstk => doneT s hs (envTurn_of_top (UQ.safe s hs).2 hstk), ?_⟩, doneT, ?_⟩, flatPlug_noUpstream H⟩
  · intro s hs ht
    obtain ⟨sO, sF, fam, hp, htO, h1, _⟩ := data s hs ht
    exact h1.trans (flatMap_prefix g (hO.head.spec sO hp.rO htO))
  · intro s hs hstk hl
    obtain ⟨sO, sF, fam, hp⟩ := hproj s hs
    obtain ⟨hkO, hkF, hkI⟩ := hp.top hstk
    cases hap : aP s.tr with
    | false => rfl
    | true =>
      exfalso
      have hapF : aP sF.tr = true := by simpa [aP, hp.t.sink] using hap
      have hlF : sF.g.ph.sinkPh 0 = .live := by rw [← hp.m.core.sink 0]; exact hl
      obtain ⟨hk, _, _⟩ := FK.E1_reach sF hp.rF hp.c
      obtain ⟨hq, hio, _⟩ := FK.D_reach sF hp.rF hp.c
      rw [hkF] at hq
      have hQ := hq.resolve_left (by simp [FK.Exc])
      obtain ⟨hq1, hq2⟩ := hQ hapF
      -- a `Pull` of the sink is legal here: what `Flatten.CallOk` says of it is the mode `live`
      have hmode : Flatten.Live sF.st sF.g.ph sF.stack := by
        obtain ⟨stF, kF, gF, trF, pF⟩ := sF
        obtain rfl : kF = [] := hkF
        obtain rfl : pF = none := hp.m.core.pF
        exact (FK.callOk_turn (c := .top) (i := .sinkUp 0 .pull) hp.rF rfl (legalIn_sinkUp.2 ⟨hlF, .inl (.inl rfl)⟩)).2
      obtain ⟨_, hoo, h3, _, _⟩ := hmode
      cases hin : sF.st.inner with
      | some k =>
        obtain ⟨hk0, _, hkl⟩ := h3 k hin
        obtain ⟨j, rfl⟩ : ∃ j, k = j + 1 := ⟨k - 1, by omega⟩
        have hpull := hq1 _ hin
        cases hf : fam (j + 1) with
        | none => have hifc := hp.m.inner.ifcI j; rw [hf, hkl] at hifc; cases hifc
        | some p =>
          obtain ⟨a, sI⟩ := p
          have hsv := (hI a).head.served sI (hp.m.inner.rI _ _ _ hf) (hkI _ _ _ hf) ((hp.ifcI hf).live hkl)
          rw [← (hp.ifcI hf).lastPull, hpull] at hsv; cases hsv
      | none =>
        have hout : sF.st.outer = true := by
          rcases hio hlF with h | h
          · exact h
          · rw [hin] at h; cases h
        have hsv := hO.head.served sO hp.rO hkO (hp.ifcO.live (hoo.1 hout))
        rw [← hp.ifcO.lastPull, ← bP, hq2 hin hout] at hsv; cases hsv
  · intro s hs ⟨k, e, hk'⟩
    obtain ⟨sO, sF, fam, hp⟩ := hproj s hs
    rw [hp.t.sink] at hk'
    exact (FK.E1_reach sF hp.rF hp.c).1.eo ⟨k, e, hk'⟩

end Main

end FlatPlugFun
end Cb

#print axioms Cb.FlatPlugFun.flat_headOkT
