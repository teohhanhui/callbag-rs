import CallbagModel.Inv.Ghost2
import CallbagModel.Inv.FromIter
/-!
# from_iter: the FULL safety invariant (both ghost layers: C01–C05, C17)

`from_iter` has no upstream: every `srcPh i` is idle for ever, so there are no orphans, no `srcDown` is ever legal (the
pending upstream-error check `pend` stays `none`) and no `srcUp` is ever performed (`sinkErr` is irrelevant).  The invariant
is the phase-level one of `Inv/FromIter.lean` together with `Quiet s.g`: no second-layer violation is recorded and nothing is
pending.
-/
namespace Cb.FromIterFull
open Cb.FromIter

/-- from_iter: under every conformant environment the source never violates any clause of C01–C05 and never panics. -/
theorem fromIter_safe {ι α α' : Type} (next : ι → Option (α × ι)) (it0 : ι) :
    ∀ s, SReach (machine α' next it0) s → Safe s :=
  Lands.safe (inv_init next it0) ⟨rfl, rfl⟩ inv_turn (fun _ h => h.1) macro_step

end Cb.FromIterFull

#print axioms Cb.FromIterFull.fromIter_safe
