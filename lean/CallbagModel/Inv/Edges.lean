import CallbagModel.Ops.ForEach
import CallbagModel.Ops.FromIter
import CallbagModel.Ops.Relay
import CallbagModel.Ops.Take
import CallbagModel.Ops.Concat
import CallbagModel.Ops.Flatten
/-!
# The control-flow graphs of `for_each`, `from_iter`, the relays, `take`, `concat` and `flatten`, as relations

`Tau st l st' l'`, `Call st l o st' l'` and `Ret st l` have one constructor per branch of `step` that ends in a `.tau`, a `.call` or
`.ret`, with the branch condition as its hypothesis (the panicking branches are not recorded). `Edge st l a` is the one of the three
that the shape of `a` selects (`Act.Edge`), and `step st l = a` implies `Edge st l a` (`edge`, `Edge.of`; the converse is not needed and not
proved).
A small-step invariant inverts `h : M.step st l = .tau s' l'` (or `.call …`, `.ret`) by `cases Edge.of h`: the type of `Edge.of h`
unfolds to the relation of that kind, so `cases` meets its constructors only, with the successor state and location substituted.
What is asked of every `.tau` and every `.call` of a machine (`Act.Sat`; a potential, `Inv/ComposeTerm.lean`) is asked of `Tau` and `Call`:
`(edge st l).sat`.
-/
namespace Cb

section
variable {S L β : Type} {T : S → L → Prop} {C : Out β → S → L → Prop} {a : Act S L β}

def Act.Edge (T : S → L → Prop) (C : Out β → S → L → Prop) (R : Prop) : Act S L β → Prop
  | .tau s l => T s l
  | .call o s l => C o s l
  | .ret => R
  | .panic _ => True

def Act.Sat (T : S → L → Prop) (C : Out β → S → L → Prop) : Act S L β → Prop
  | .tau s l => T s l
  | .call o s l => C o s l
  | _ => True

theorem Act.Sat.tau (h : a.Sat T C) {s : S} {l : L} (e : a = .tau s l) : T s l := by subst e; exact h

theorem Act.Sat.call (h : a.Sat T C) {o : Out β} {s : S} {l : L} (e : a = .call o s l) : C o s l := by subst e; exact h

theorem Act.Sat.of (tau : ∀ {s l}, a = .tau s l → T s l) (call : ∀ {o s l}, a = .call o s l → C o s l) : a.Sat T C := by
  cases a with
  | tau => exact tau rfl
  | call => exact call rfl
  | ret | panic => trivial

theorem Act.Edge.sat {R : Prop} (h : a.Edge T C R) : a.Sat T C := by
  cases a with
  | tau | call => exact h
  | ret | panic => trivial

end

namespace ForEach
variable {α : Type}

inductive Tau (st : St) : Loc α → St → Loc α → Prop
  | g0 : Tau st .g0 { st with tb := true } .pull

inductive Call (st : St) : Loc α → Out α → St → Loc α → Prop
  | sub0 : Call st .sub0 (.subSrc 0) st .done
  | pull : st.tb = true → Call st .pull (.srcUp 0 .pull) st .done
  | d0 (a : α) : Call st (.d0 a) (.app a) st .pull

inductive Ret : Loc α → Prop
  | done : Ret .done

def Edge (st : St) (l : Loc α) : Act St (Loc α) α → Prop := Act.Edge (Tau st l) (Call st l) (Ret l)

theorem edge (st : St) (l : Loc α) : Edge st l ((machine α).step st l) := by
  cases l with
  | pull =>
    simp only [machine, step]; split
    · exact .pull ‹_›
    · trivial
  | _ => constructor

theorem Edge.of {st : St} {l : Loc α} {a : Act St (Loc α) α} (h : (machine α).step st l = a) : Edge st l a :=
  h ▸ edge st l

end ForEach

namespace FromIter
variable {ι α : Type}

inductive Tau (next : ι → Option (α × ι)) (st : St ι α) : Loc → St ι α → Loc → Prop
  | t0 (u : Up) : st.completed = false → Tau next st (.t0 u) st (.t1 u)
  | t1_pull : Tau next st (.t1 .pull) { st with gotPull := true } .pl1
  | t1_stop (u : Up) : u ≠ .pull → Tau next st (.t1 u) { st with completed := true } .done
  | pl1 : st.inLoop = false → Tau next st .pl1 st .pl2
  | pl2 : st.resDone = false → Tau next st .pl2 st .l0
  | l0 : Tau next st .l0 { st with inLoop := true } .w0
  | w0 : st.gotPull = true → Tau next st .w0 st .w1
  | w0_idle : st.gotPull = false → Tau next st .w0 st .lend
  | w1 : st.completed = false → Tau next st .w1 st .w2
  | w1_completed : st.completed = true → Tau next st .w1 st .lend
  | w2 : Tau next st .w2 { st with gotPull := false } .w3
  | w3_some (a : α) (it' : ι) : next st.it = some (a, it') →
      Tau next st .w3 { st with it := it', res := some a, resDone := false, nexts := st.nexts + 1 } .w4
  | w3_none : next st.it = none → Tau next st .w3 { st with res := none, resDone := true, nexts := st.nexts + 1 } .w4
  | lend : Tau next st .lend { st with inLoop := false } .done

inductive Call (st : St ι α) : Loc → Out α → St ι α → Loc → Prop
  | sub0 : Call st .sub0 (.greet 0) st .done
  | w4_term : st.resDone = true → Call st .w4 (.down 0 .term) st .lend
  | w4_data (a : α) : st.resDone = false → st.res = some a → Call st .w4 (.down 0 (.data a)) { st with res := none } .w0

inductive Ret (st : St ι α) : Loc → Prop
  | done : Ret st .done
  | t0_completed (u : Up) : st.completed = true → Ret st (.t0 u)
  | pl1_inLoop : st.inLoop = true → Ret st .pl1
  | pl2_resDone : st.resDone = true → Ret st .pl2

def Edge (next : ι → Option (α × ι)) (st : St ι α) (l : Loc) : Act (St ι α) Loc α → Prop :=
  Act.Edge (Tau next st l) (Call st l) (Ret st l)

theorem edge (α' : Type) (next : ι → Option (α × ι)) (it0 : ι) (st : St ι α) (l : Loc) :
    Edge next st l ((machine α' next it0).step st l) := by
  cases l with
  | t0 u =>
    simp only [machine, step]; split
    · exact .t0_completed u ‹_›
    · exact .t0 u (Bool.eq_false_iff.2 ‹_›)
  | t1 u => cases u <;> first | exact .t1_pull | exact .t1_stop _ nofun
  | pl1 =>
    cases h : st.inLoop <;> simp only [machine, step, h, Bool.not_false, Bool.not_true, ↓reduceIte]
    · exact .pl1 h
    · exact .pl1_inLoop h
  | pl2 =>
    cases h : st.resDone <;> simp only [machine, step, h, Bool.not_false, Bool.not_true, ↓reduceIte]
    · exact .pl2 h
    · exact .pl2_resDone h
  | w0 =>
    simp only [machine, step]; split
    · exact .w0 ‹_›
    · exact .w0_idle (Bool.eq_false_iff.2 ‹_›)
  | w1 =>
    cases h : st.completed <;> simp only [machine, step, h, Bool.not_false, Bool.not_true, ↓reduceIte]
    · exact .w1 h
    · exact .w1_completed h
  | w3 =>
    simp only [machine, step]; split
    · exact .w3_some _ _ ‹_›
    · exact .w3_none ‹_›
  | w4 =>
    simp only [machine, step]; split
    · exact .w4_term ‹_›
    · split
      · exact .w4_data _ (Bool.eq_false_iff.2 ‹_›) ‹_›
      · trivial
  | _ => constructor

theorem Edge.of {α' : Type} {next : ι → Option (α × ι)} {it0 : ι} {st : St ι α} {l : Loc} {a : Act (St ι α) Loc α}
    (h : (machine α' next it0).step st l = a) : Edge next st l a :=
  h ▸ edge α' next it0 st l

end FromIter

namespace Relay
variable {σ α β : Type}

inductive Tau (k : Kind σ α β) (st : St σ) : Loc α β → St σ → Loc α β → Prop
  | g0_slot : k.slotted = true → Tau k st .g0 { st with slot := true } .g1
  | g0 : k.slotted = false → Tau k st .g0 st .g1
  | d0_emit (a : α) (b : β) : (k.xfer st.priv a).2 = some b → Tau k st (.d0 a) { st with priv := (k.xfer st.priv a).1 } (.emit b)
  | d0_drop (a : α) : (k.xfer st.priv a).2 = none → Tau k st (.d0 a) { st with priv := (k.xfer st.priv a).1 } .repull

inductive Call (k : Kind σ α β) (st : St σ) : Loc α β → Out β → St σ → Loc α β → Prop
  | sub0 : Call k st .sub0 (.subSrc 0) st .done
  | g1 : Call k st .g1 (.greet 0) st .done
  | emit (b : β) : Call k st (.emit b) (.down 0 (.data b)) st .done
  | repull : st.slot = true → Call k st .repull (.srcUp 0 .pull) st .done
  | fwd (d : Down β) : Call k st (.fwd d) (.down 0 d) st .done
  | u0 (u : Up) : (k.slotted && !st.slot) = false → Call k st (.u0 u) (.srcUp 0 u) st .done

inductive Ret : Loc α β → Prop
  | done : Ret .done

def Edge (k : Kind σ α β) (st : St σ) (l : Loc α β) : Act (St σ) (Loc α β) β → Prop :=
  Act.Edge (Tau k st l) (Call k st l) (Ret l)

theorem edge (k : Kind σ α β) (st : St σ) (l : Loc α β) : Edge k st l ((machine k).step st l) := by
  cases l with
  | g0 =>
    simp only [machine, step]; split
    · exact .g0_slot ‹_›
    · exact .g0 (Bool.eq_false_iff.2 ‹_›)
  | d0 a =>
    simp only [machine, step]; split
    · exact .d0_emit a _ ‹_›
    · exact .d0_drop a ‹_›
  | repull =>
    simp only [machine, step]; split
    · exact .repull ‹_›
    · trivial
  | u0 u =>
    simp only [machine, step]; split
    · trivial
    · exact .u0 u (Bool.eq_false_iff.2 ‹_›)
  | _ => constructor

theorem Edge.of {k : Kind σ α β} {st : St σ} {l : Loc α β} {a : Act (St σ) (Loc α β) β} (h : (machine k).step st l = a) :
    Edge k st l a :=
  h ▸ edge k st l

end Relay

namespace Take
variable {α : Type}

inductive Tau (max : Nat) (st : St) : Loc α → St → Loc α → Prop
  | greet0 : Tau max st .greet0 { st with tb := true } .greet1
  | d0 (a : α) : st.taken < max → Tau max st (.d0 a) { st with taken := st.taken + 1 } (.d2 a (st.taken + 1))
  | d1 (a : α) : Tau max st (.d1 a) { st with taken := st.taken + 1 } (.d2 a (st.taken + 1))
  | d3 : Tau max st (.d3 max) st .d3b
  | d3b : st.fin = false → Tau max st .d3b st .d4
  | d4 : Tau max st .d4 { st with fin := true } .d5
  | p0 : st.taken < max → Tau max st .p0 st .p1
  | x0 (u : Up) : Tau max st (.x0 u) { st with fin := true } (.x1 u)

inductive Call (st : St) : Loc α → Out α → St → Loc α → Prop
  | sub0 : Call st .sub0 (.subSrc 0) st .done
  | greet1 : Call st .greet1 (.greet 0) st .done
  | d2 (a : α) (t : Nat) : Call st (.d2 a t) (.down 0 (.data a)) st (.d3 t)
  | d5 : st.tb = true → Call st .d5 (.srcUp 0 .term) st .d6
  | d6 : Call st .d6 (.down 0 .term) st .done
  | fwd (d : Down α) : Call st (.fwd d) (.down 0 d) st .done
  | p1 : st.tb = true → Call st .p1 (.srcUp 0 .pull) st .done
  | x1 (u : Up) : st.tb = true → Call st (.x1 u) (.srcUp 0 u) st .done

inductive Ret (max : Nat) (st : St) : Loc α → Prop
  | done : Ret max st .done
  | d0_full (a : α) : ¬ st.taken < max → Ret max st (.d0 a)
  | d3_more (t : Nat) : t ≠ max → Ret max st (.d3 t)
  | d3b_fin : st.fin = true → Ret max st .d3b
  | p0_full : ¬ st.taken < max → Ret max st .p0

def Edge (max : Nat) (st : St) (l : Loc α) : Act St (Loc α) α → Prop := Act.Edge (Tau max st l) (Call st l) (Ret max st l)

theorem edge (max : Nat) (st : St) (l : Loc α) : Edge max st l ((machine α max).step st l) := by
  cases l with
  | d0 a =>
    simp only [machine, step, ↓reduceIte]; split
    · exact .d0 a ‹_›
    · exact .d0_full a ‹_›
  | d3 t =>
    simp only [machine, step]; split
    · exact ‹t = max› ▸ .d3
    · exact .d3_more t ‹_›
  | d3b =>
    simp only [machine, step]; split
    · exact .d3b_fin ‹_›
    · exact .d3b (Bool.eq_false_iff.2 ‹_›)
  | d5 =>
    simp only [machine, step]; split
    · exact .d5 ‹_›
    · trivial
  | p0 =>
    simp only [machine, step]; split
    · exact .p0 ‹_›
    · exact .p0_full ‹_›
  | p1 =>
    simp only [machine, step]; split
    · exact .p1 ‹_›
    · trivial
  | x1 u =>
    simp only [machine, step]; split
    · exact .x1 u ‹_›
    · trivial
  | _ => constructor

theorem Edge.of {max : Nat} {st : St} {l : Loc α} {a : Act St (Loc α) α} (h : (machine α max).step st l = a) : Edge max st l a :=
  h ▸ edge max st l

end Take

namespace Concat
variable {α : Type}

inductive Tau (st : St) : Loc α → St → Loc α → Prop
  | g0 {j} : Tau st (.g0 j) { st with slot := some j } .g1
  | g1 : st.i ≠ 0 → Tau st .g1 st .g2
  | g2 : st.gotPull = true → Tau st .g2 st .g3
  | t0 : Tau st .t0 { st with i := st.i + 1 } .next
  | p0 : Tau st .p0 { st with gotPull := true } (.u1 .pull)

inductive Call (n : Nat) (st : St) : Loc α → Out α → St → Loc α → Prop
  | last : st.i = n → Call n st .next (.down 0 .term) st .done
  | sub : st.i ≠ n → Call n st .next (.subSrc st.i) st .done
  | greet : st.i = 0 → Call n st .g1 (.greet 0) st .done
  | repull {s} : st.slot = some s → Call n st .g3 (.srcUp s .pull) st .done
  | fwd {d} : Call n st (.fwd d) (.down 0 d) st .done
  | up {s u} : st.slot = some s → Call n st (.u1 u) (.srcUp s u) st .done

inductive Ret (st : St) : Loc α → Prop
  | done : Ret st .done
  | g2 : st.gotPull = false → Ret st .g2

theorem Call.tail {n : Nat} {st st' : St} {l l' : Loc α} {o : Out α} (h : Call n st l o st' l') : st' = st ∧ l' = .done := by
  cases h <;> exact ⟨rfl, rfl⟩

def Edge (n : Nat) (st : St) (l : Loc α) : Act St (Loc α) α → Prop := Act.Edge (Tau st l) (Call n st l) (Ret st l)

theorem edge (n : Nat) (st : St) (l : Loc α) : Edge n st l ((machine α n).step st l) := by
  cases l with
  | next =>
    simp only [machine, step]; split
    · exact .last (beq_iff_eq.1 ‹_›)
    · exact .sub fun e => ‹¬_› (beq_iff_eq.2 e)
  | g1 =>
    simp only [machine, step]; split
    · exact .greet (beq_iff_eq.1 ‹_›)
    · exact .g1 fun e => ‹¬_› (beq_iff_eq.2 e)
  | g2 =>
    simp only [machine, step]; split
    · exact .g2 ‹_›
    · exact .g2 (Bool.eq_false_iff.2 ‹_›)
  | g3 =>
    simp only [machine, step]; split
    · exact .repull ‹_›
    · trivial
  | u1 u =>
    simp only [machine, step]; split
    · exact .up ‹_›
    · trivial
  | _ => constructor

theorem Edge.of {n : Nat} {st : St} {l : Loc α} {a : Act St (Loc α) α} (h : (machine α n).step st l = a) : Edge n st l a :=
  h ▸ edge n st l

end Concat

namespace Flatten
variable {α : Type}

inductive Tau (st : St) : Loc α → St → Loc α → Prop
  | og0 : Tau st .og0 { st with outer := true } .og1
  | od0 : st.inner = none → Tau st .od0 st .od1
  | oe0 {e} : st.inner = none → Tau st (.oe0 e) st (.oe1 e)
  | ot0 : st.inner ≠ none → Tau st .ot0 { st with outer := false } .done
  | ig0 {j} : Tau st (.ig0 j) { st with inner := some j } .ig1
  | ie0 {e} : st.outer = false → Tau st (.ie0 e) st (.ie1 e)
  | it0 : st.outer = true → Tau st .it0 st .it1
  | it1 : Tau st .it1 { st with inner := none } .it2
  | p0 : st.inner = none → Tau st .p0 st .p1
  | x0 : st.inner = none → Tau st .x0 st .x1

inductive Call (st : St) : Loc α → Out α → St → Loc α → Prop
  | sub0 : Call st .sub0 (.subSrc 0) st .done
  | og1 : Call st .og1 (.greet 0) st .done
  | od0 {k} : st.inner = some k → Call st .od0 (.srcUp k .term) st .od1
  | od1 : Call st .od1 (.subSrc st.nextId) { st with nextId := st.nextId + 1 } .done
  | oe0 {e k} : st.inner = some k → Call st (.oe0 e) (.srcUp k .term) st (.oe1 e)
  | oe1 {e} : Call st (.oe1 e) (.down 0 (.err e)) st .done
  | ot0 : st.inner = none → Call st .ot0 (.down 0 .term) st .done
  | ig1 {k} : st.inner = some k → Call st .ig1 (.srcUp k .pull) st .done
  | fwd {a} : Call st (.fwd a) (.down 0 (.data a)) st .done
  | ie0 {e} : st.outer = true → Call st (.ie0 e) (.srcUp 0 .term) st (.ie1 e)
  | ie1 {e} : Call st (.ie1 e) (.down 0 (.err e)) st .done
  | it0 : st.outer = false → Call st .it0 (.down 0 .term) st .done
  | it2 : st.outer = true → Call st .it2 (.srcUp 0 .pull) st .done
  | p0 {k} : st.inner = some k → Call st .p0 (.srcUp k .pull) st .done
  | p1 : st.outer = true → Call st .p1 (.srcUp 0 .pull) st .done
  | x0 {k} : st.inner = some k → Call st .x0 (.srcUp k .term) st .x1
  | x1 : st.outer = true → Call st .x1 (.srcUp 0 .term) st .done

inductive Ret (st : St) : Loc α → Prop
  | done : Ret st .done
  | p1 : st.outer = false → Ret st .p1
  | x1 : st.outer = false → Ret st .x1

def Edge (st : St) (l : Loc α) : Act St (Loc α) α → Prop := Act.Edge (Tau st l) (Call st l) (Ret st l)

theorem edge (st : St) (l : Loc α) : Edge st l ((machine α).step st l) := by
  rcases st with ⟨outer, inner, n⟩
  cases l with
  | od0 => cases inner; exact .od0 rfl; exact .od0 rfl
  | oe0 e => cases inner; exact .oe0 rfl; exact .oe0 rfl
  | ot0 => cases inner; exact .ot0 rfl; exact .ot0 nofun
  | ig1 => cases inner; trivial; exact .ig1 rfl
  | ie0 e => cases outer; exact .ie0 rfl; exact .ie0 rfl
  | it0 => cases outer; exact .it0 rfl; exact .it0 rfl
  | it2 => cases outer; trivial; exact .it2 rfl
  | p0 => cases inner; exact .p0 rfl; exact .p0 rfl
  | p1 => cases outer; exact .p1 rfl; exact .p1 rfl
  | x0 => cases inner; exact .x0 rfl; exact .x0 rfl
  | x1 => cases outer; exact .x1 rfl; exact .x1 rfl
  | _ => constructor

theorem Edge.of {st : St} {l : Loc α} {a : Act St (Loc α) α} (h : (machine α).step st l = a) : Edge st l a :=
  h ▸ edge st l

end Flatten

end Cb
