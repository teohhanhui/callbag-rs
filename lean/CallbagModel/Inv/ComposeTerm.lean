import CallbagModel.Inv.ComposeSafe
import CallbagModel.Ops.Take
import CallbagModel.Ops.FromIter
import CallbagModel.Ops.Relay
import CallbagModel.Ops.ForEach
import CallbagModel.Ops.Plug
import CallbagModel.Ops.Concat
/-!
# Termination: potentials

`Pot M cost`: a potential for the machine `M` — a state part `Ψ`, the potential `ρ st l` of the RUNNING handler at location `l` in
state `st`, and the potential `ω l` of a handler WAITING to be resumed at `l` (`ρ st l < ω l` for every state) — such that every `tau`
decreases `Ψ + ρ`, and a call `o` with continuation `l'` leaves `Ψ + ω l' + cost o` strictly below: `cost o` is what the callee may
spend.  The conditions are asked of every location and every state satisfying `good` (no reachability, no invariants), so potentials
compose syntactically: `Pot.compose`, `Pot.plug` — the callee's cost across the internal interface is the `ω` of its entry location.

Loops are paid for by the state part: `from_iter`'s `while` loop by the remaining items of the iterator; relays, `for_each`, `take` and
`concat` have loop-free handlers.  The parameters of a component's potential are the costs of its neighbours' entry points; for a linear
chain they are resolved from the ends (`HeadPot`): the cost of a terminal flows downstream-to-upstream independently of everything else,
the cost of a `Pull` depends on it (a `Pull` may run `from_iter`'s loop up to the delivery of the terminal), the cost of a greeting and
of a datum depend on the cost of a `Pull` (`for_each` pulls, a filter re-pulls).
-/
namespace Cb

namespace ComposeTerm

section Framework
variable {St Loc α β : Type}

structure Pot (M : Machine St Loc α β) (cost : Out β → Nat) where
  /-- a condition on the state under which the inequalities are asked; preserved by the steps (`True` for all operators; for the network
  `flatPlug` it says that the inner sources are numbered from 1) -/
  good : St → Prop
  Ψ : St → Nat
  ρ : St → Loc → Nat
  ω : Loc → Nat
  le : ∀ st l, ρ st l < ω l
  tau : ∀ st l s' l', M.step st l = .tau s' l' → good st → Ψ s' + ρ s' l' < Ψ st + ρ st l
  call : ∀ st l o s' l', M.step st l = .call o s' l' → good st → Ψ s' + ω l' + cost o < Ψ st + ρ st l
  good_tau : ∀ st l s' l', M.step st l = .tau s' l' → good st → good s'
  good_call : ∀ st l o s' l', M.step st l = .call o s' l' → good st → good s'

section
variable {M : Machine St Loc α β} {cost : Out β → Nat} {T : St → Loc → St → Loc → Prop} {C : St → Loc → Out β → St → Loc → Prop}
  (sat : ∀ st l, (M.step st l).Sat (T st l) (C st l)) (Ψ : St → Nat) (ρ : St → Loc → Nat) (ω : Loc → Nat) (le : ∀ st l, ρ st l < ω l)

/-- **a potential from a list of the steps**: `T st l`, `C st l` list what `M.step st l` can be (`sat`: an operator's `edge`, `Inv/Edges.lean`;
`plug_step_inv` for a composite); the inequalities, and the preservation of `good`, are asked once per listed step -/
def Pot.ofSat (good : St → Prop) (tau : ∀ {st l s' l'}, T st l s' l' → good st → good s' ∧ Ψ s' + ρ s' l' < Ψ st + ρ st l)
    (call : ∀ {st l o s' l'}, C st l o s' l' → good st → good s' ∧ Ψ s' + ω l' + cost o < Ψ st + ρ st l) : Pot M cost where
  good := good
  Ψ := Ψ
  ρ := ρ
  ω := ω
  le := le
  tau st l _ _ h hg := (tau ((sat st l).tau h) hg).2
  call st l _ _ _ h hg := (call ((sat st l).call h) hg).2
  good_tau st l _ _ h hg := (tau ((sat st l).tau h) hg).1
  good_call st l _ _ _ h hg := (call ((sat st l).call h) hg).1

/-- without a condition on the state: every operator -/
def Pot.ofEdges (tau : ∀ {st l s' l'}, T st l s' l' → Ψ s' + ρ s' l' < Ψ st + ρ st l)
    (call : ∀ {st l o s' l'}, C st l o s' l' → Ψ s' + ω l' + cost o < Ψ st + ρ st l) : Pot M cost :=
  .ofSat sat Ψ ρ ω le (fun _ => True) (fun h _ => ⟨trivial, tau h⟩) (fun h _ => ⟨trivial, call h⟩)

end

def floc : Frame Loc β → Loc
  | .run l => l
  | .wait _ l => l

variable {M : Machine St Loc α β} {cost : Out β → Nat}

def Pot.tailW (P : Pot M cost) : List (Frame Loc β) → Nat
  | [] => 0
  | f :: t => P.ω (floc f) + 1 + P.tailW t

def Pot.stackW (P : Pot M cost) (st : St) : List (Frame Loc β) → Nat
  | [] => 0
  | .run l :: t => P.ρ st l + 1 + P.tailW t
  | .wait _ l :: t => P.ω l + 1 + P.tailW t

def Pot.Φ (P : Pot M cost) (s : Sys St Loc α β) : Nat := P.Ψ s.st + P.stackW s.st s.stack

theorem Pot.stackW_run (P : Pot M cost) (st : St) (l : Loc) (t : List (Frame Loc β)) :
    P.stackW st (.run l :: t) = P.ρ st l + 1 + P.tailW t := rfl
theorem Pot.stackW_wait (P : Pot M cost) (st : St) (o : Out β) (l : Loc) (t : List (Frame Loc β)) :
    P.stackW st (.wait o l :: t) = P.ω l + 1 + P.tailW t := rfl

theorem Pot.stackW_le (P : Pot M cost) (st : St) (stk : List (Frame Loc β)) : P.stackW st stk ≤ P.tailW stk := by
  cases stk with
  | nil => exact Nat.le_refl _
  | cons f t =>
    cases f with
    | run l => have := P.le st l; simp only [stackW, tailW, floc]; omega
    | wait o l => simp only [stackW, tailW, floc]; omega

theorem Pot.opStep_good (P : Pot M cost) {s s' : Sys St Loc α β} (h : opStep M s = some s') (hg : P.good s.st) : P.good s'.st := by
  cases oStep_of_opStep h with
  | tau hst => exact P.good_tau _ _ _ _ hst hg
  | call hst => exact P.good_call _ _ _ _ _ hst hg
  | ret hst => exact hg
  | panic hst => exact hg

theorem Pot.envRet_good (P : Pot M cost) {s s' : Sys St Loc α β} (h : envMove M s .ret = some s') (hg : P.good s.st) : P.good s'.st := by
  cases (envMove_iff M .ret s s').1 h with
  | ret hl => exact hg

theorem Pot.opStep_lt (P : Pot M cost) {s s' : Sys St Loc α β} (h : opStep M s = some s') (hg : P.good s.st) : P.Φ s' < P.Φ s := by
  cases oStep_of_opStep h with
  | tau hst => have := P.tau _ _ _ _ hst hg; simp only [Φ, stackW_run]; omega
  | call hst => have := P.call _ _ _ _ _ hst hg; simp only [Φ, stackW_run, stackW_wait]; omega
  | @ret st l stk g tr hst => have := P.stackW_le st stk; simp only [Φ, stackW_run]; omega
  | @panic st l stk g tr m hst => have := P.stackW_le st stk; simp only [Φ, stackW_run]; omega

theorem Pot.envRet_lt (P : Pot M cost) {s s' : Sys St Loc α β} (h : envMove M s .ret = some s') : P.Φ s' < P.Φ s := by
  cases (envMove_iff M .ret s s').1 h with
  | @ret st stk g tr o l hl => have := P.le st l; simp only [Φ, stackW_run, stackW_wait]; omega

/-- **no divergence**: from every configuration the machine runs into one without operator step -/
theorem Pot.progress (P : Pot M cost) : ∀ s : Sys St Loc α β, P.good s.st → ∃ n, opStep M (advance M n s) = none := by
  have key : ∀ k, ∀ s : Sys St Loc α β, P.good s.st → P.Φ s = k → ∃ n, opStep M (advance M n s) = none := by
    intro k
    induction k using Nat.strongRecOn with
    | ind k ih =>
      intro s hg hs
      cases h : opStep M s with
      | none => exact ⟨0, h⟩
      | some s' =>
        obtain ⟨n, hn⟩ := ih _ (hs ▸ P.opStep_lt h hg) s' (P.opStep_good h hg) rfl
        exact ⟨n + 1, by simpa [advance, h] using hn⟩
  exact fun s hg => key _ s hg rfl

/-- `t` is reached from `s` by operator steps and environment RETURNS only -/
inductive Drain (M : Machine St Loc α β) : Sys St Loc α β → Sys St Loc α β → Prop
  | refl {s} : Drain M s s
  | op {a b c} : opStep M a = some b → Drain M b c → Drain M a c
  | ret {a b c} : envMove M a .ret = some b → Drain M b c → Drain M a c

/-- **if the environment keeps returning, everything returns**: from every configuration, operator steps and environment returns lead
to a configuration where neither is possible -/
theorem Pot.drain (P : Pot M cost) :
    ∀ s : Sys St Loc α β, P.good s.st → ∃ t, Drain M s t ∧ opStep M t = none ∧ envMove M t .ret = none := by
  have key : ∀ k, ∀ s : Sys St Loc α β, P.good s.st → P.Φ s = k → ∃ t, Drain M s t ∧ opStep M t = none ∧ envMove M t .ret = none := by
    intro k
    induction k using Nat.strongRecOn with
    | ind k ih =>
      intro s hg hs
      cases h : opStep M s with
      | some s' =>
        obtain ⟨t, h1, h2⟩ := ih _ (hs ▸ P.opStep_lt h hg) s' (P.opStep_good h hg) rfl
        exact ⟨t, .op h h1, h2⟩
      | none =>
        cases h' : envMove M s .ret with
        | some s' =>
          obtain ⟨t, h1, h2⟩ := ih _ (hs ▸ P.envRet_lt h') s' (P.envRet_good h' hg) rfl
          exact ⟨t, .ret h' h1, h2⟩
        | none => exact ⟨s, .refl, h, h'⟩
  exact fun s hg => key _ s hg rfl

theorem Drain.reach {s t : Sys St Loc α β} (h : Drain M s t) (hs : SReach M s) : SReach M t := by
  induction h with
  | refl => exact hs
  | op h _ ih => exact ih (.step hs (.op h))
  | ret h _ ih => exact ih (reach_env hs ((envMove_iff M .ret _ _).1 h))

theorem Drain.tr_ne {s t : Sys St Loc α β} (h : Drain M s t) (hs : s.tr ≠ []) : t.tr ≠ [] := by
  induction h with
  | refl => exact hs
  | op h _ ih =>
    apply ih
    cases oStep_of_opStep h <;> simp_all
  | ret h _ ih =>
    apply ih
    cases (envMove_iff M .ret _ _).1 h; simp

end Framework

section Compose

/-- what the callee of each kind of call may spend -/
structure Costs where
  sub : Nat := 0
  pull : Nat := 0
  ufin : Nat := 0
  greet : Nat := 0
  data : Nat := 0
  fin : Nat := 0
  app : Nat := 0

def Costs.of {β : Type} (c : Costs) : Out β → Nat
  | .subSrc _ => c.sub
  | .srcUp _ .pull => c.pull
  | .srcUp _ _ => c.ufin
  | .greet _ => c.greet
  | .down _ (.data _) => c.data
  | .down _ _ => c.fin
  | .app _ => c.app

/-- the upstream-side costs of `c₁`, the sink-side costs of `c₂` -/
def Costs.mix (c1 c2 : Costs) : Costs := ⟨c1.sub, c1.pull, c1.ufin, c2.greet, c2.data, c2.fin, c2.app⟩

variable {S1 L1 S2 L2 α β γ : Type} {M1 : Machine S1 L1 α β} {M2 : Machine S2 L2 β γ}

/-- the potentials of the entry points used from downstream (subscription, talkback) -/
structure Pot.UpLe {St Loc α β : Type} {M : Machine St Loc α β} {cost : Out β → Nat} (P : Pot M cost) (sub pull ufin : Nat) : Prop where
  sub : P.ω (M.enter (.subscribe 0)) ≤ sub
  pull : P.ω (M.enter (.sinkUp 0 .pull)) ≤ pull
  uterm : P.ω (M.enter (.sinkUp 0 .term)) ≤ ufin
  uerr : ∀ x, P.ω (M.enter (.sinkUp 0 (.err x))) ≤ ufin

/-- the potentials of the entry points used from upstream (greeting, deliveries) -/
structure Pot.DownLe {St Loc α β : Type} {M : Machine St Loc α β} {cost : Out β → Nat} (P : Pot M cost) (greet data fin : Nat) : Prop where
  greet : P.ω (M.enter (.srcGreet 0)) ≤ greet
  data : ∀ a, P.ω (M.enter (.srcDown 0 (.data a))) ≤ data
  term : P.ω (M.enter (.srcDown 0 .term)) ≤ fin
  err : ∀ x, P.ω (M.enter (.srcDown 0 (.err x))) ≤ fin

/-- the potentials of the entry points used by upstream `j` -/
structure Pot.DownLeAt {St Loc α β : Type} {M : Machine St Loc α β} {cost : Out β → Nat} (P : Pot M cost) (j : Nat)
    (greet data fin : Nat) : Prop where
  greet : P.ω (M.enter (.srcGreet j)) ≤ greet
  data : ∀ a, P.ω (M.enter (.srcDown j (.data a))) ≤ data
  term : P.ω (M.enter (.srcDown j .term)) ≤ fin
  err : ∀ x, P.ω (M.enter (.srcDown j (.err x))) ≤ fin

section Entry
variable {St Loc α β : Type} {M : Machine St Loc α β} {cost : Out β → Nat} {P : Pot M cost}

theorem Pot.DownLe.at0 {g d f : Nat} (h : P.DownLe g d f) : P.DownLeAt 0 g d f := ⟨h.greet, h.data, h.term, h.err⟩

theorem Pot.DownLeAt.down {j : Nat} {c : Costs} (h : P.DownLeAt j c.greet c.data c.fin) (d : Down α) :
    P.ω (M.enter (.srcDown j d)) ≤ c.of (.down 0 d : Out α) := by
  cases d with
  | data a => exact h.data a
  | term => exact h.term
  | err x => exact h.err x

theorem Pot.UpLe.up {γ : Type} {c : Costs} (h : P.UpLe c.sub c.pull c.ufin) (u : Up) :
    P.ω (M.enter (.sinkUp 0 u)) ≤ c.of (.srcUp 0 u : Out γ) := by
  cases u with
  | pull => exact h.pull
  | term => exact h.uterm
  | err x => exact h.uerr x

theorem Pot.UpLe.mono {a b c a' b' c' : Nat} (h : P.UpLe a b c) (ha : a ≤ a') (hb : b ≤ b') (hc : c ≤ c') : P.UpLe a' b' c' :=
  ⟨Nat.le_trans h.sub ha, Nat.le_trans h.pull hb, Nat.le_trans h.uterm hc, fun x => Nat.le_trans (h.uerr x) hc⟩

variable {St' Loc' β' : Type} {M' : Machine St' Loc' α β'} {cost' : Out β' → Nat} {P' : Pot M' cost'}

theorem Pot.UpLe.congr (h : ∀ i, P.ω (M.enter i) = P'.ω (M'.enter i)) {a b c : Nat} (h0 : P'.UpLe a b c) : P.UpLe a b c :=
  ⟨h _ ▸ h0.sub, h _ ▸ h0.pull, h _ ▸ h0.uterm, fun x => h _ ▸ h0.uerr x⟩

theorem Pot.DownLeAt.congr (h : ∀ i, P.ω (M.enter i) = P'.ω (M'.enter i)) {j g d f : Nat} (h0 : P'.DownLeAt j g d f) :
    P.DownLeAt j g d f :=
  ⟨h _ ▸ h0.greet, fun a => h _ ▸ h0.data a, h _ ▸ h0.term, fun x => h _ ▸ h0.err x⟩

end Entry

def eρ (P1 : Pot M1 c1) (P2 : Pot M2 c2) (st : S1 × S2) : CFr L1 L2 → Nat
  | .lo l => P1.ρ st.1 l
  | .hi l => P2.ρ st.2 l

def eω (P1 : Pot M1 c1) (P2 : Pot M2 c2) : CFr L1 L2 → Nat
  | .lo l => P1.ω l
  | .hi l => P2.ω l

def sumω (P1 : Pot M1 c1) (P2 : Pot M2 c2) : List (CFr L1 L2) → Nat
  | [] => 0
  | e :: t => eω P1 P2 e + sumω P1 P2 t

theorem eρ_lt (P1 : Pot M1 c1) (P2 : Pot M2 c2) (st : S1 × S2) (e : CFr L1 L2) : eρ P1 P2 st e < eω P1 P2 e := by
  cases e with
  | lo l => exact P1.le _ _
  | hi l => exact P2.le _ _

theorem stack_lt (P1 : Pot M1 c1) (P2 : Pot M2 c2) (st : S1 × S2) (cfs : List (CFr L1 L2)) :
    (match cfs with | [] => 0 | e :: t => eρ P1 P2 st e + sumω P1 P2 t) <
      (match cfs with | [] => 1 | e :: t => eω P1 P2 e + sumω P1 P2 t) := by
  cases cfs with
  | nil => exact Nat.one_pos
  | cons e t => exact Nat.add_lt_add_right (eρ_lt P1 P2 st e) _

section Internal
variable {c1 : Costs} {cost2 : Out γ → Nat} {j : Nat} (P1 : Pot M1 (c1.of (β := β))) (P2 : Pot M2 cost2)
  {st s' : S1 × S2} {cfs cfs' : List (CFr L1 L2)}

/-- an internal step decreases the potential: the callee's entry `ω` is within the cost the caller's potential allows for the call -/
theorem CTau.lt (hd : P2.DownLeAt j c1.greet c1.data c1.fin) (hs : P1.ω (M1.enter (.subscribe 0)) ≤ cost2 (.subSrc j))
    (hu : ∀ u, P1.ω (M1.enter (.sinkUp 0 u)) ≤ cost2 (.srcUp j u)) :
    CTau j M1 M2 st cfs s' cfs' → P1.good st.1 ∧ P2.good st.2 →
    P1.Ψ s'.1 + P2.Ψ s'.2 + (match cfs' with | [] => 0 | e :: t => eρ P1 P2 s' e + sumω P1 P2 t) <
      P1.Ψ st.1 + P2.Ψ st.2 + (match cfs with | [] => 0 | e :: t => eρ P1 P2 st e + sumω P1 P2 t) := by
  intro h hg
  cases h with
  | lo hst => have := P1.tau _ _ _ _ hst hg.1; simp only [eρ]; omega
  | hi hst => have := P2.tau _ _ _ _ hst hg.2; simp only [eρ]; omega
  | @pop e e' rest => have := eρ_lt P1 P2 st e'; simp only [sumω]; omega
  | greet hst =>
    have hc := P1.call _ _ _ _ _ hst hg.1
    have := P2.le st.2 (M2.enter (.srcGreet j))
    have := hd.greet
    simp only [eρ, eω, sumω, Costs.of] at hc ⊢; omega
  | @down l rest d s1 l' hst =>
    have hc := P1.call _ _ _ _ _ hst hg.1
    have := P2.le st.2 (M2.enter (.srcDown j d))
    have := hd.down d
    simp only [eρ, eω, sumω] at hc ⊢; omega
  | sub hst =>
    have hc := P2.call _ _ _ _ _ hst hg.2
    have := P1.le st.1 (M1.enter (.subscribe 0))
    simp only [eρ, eω, sumω] at hc ⊢; omega
  | @up l rest u s2 l' hst =>
    have hc := P2.call _ _ _ _ _ hst hg.2
    have := P1.le st.1 (M1.enter (.sinkUp 0 u))
    have := hu u
    simp only [eρ, eω, sumω] at hc ⊢; omega

theorem CTau.good (h : CTau j M1 M2 st cfs s' cfs') (hg : P1.good st.1 ∧ P2.good st.2) : P1.good s'.1 ∧ P2.good s'.2 := by
  cases h with
  | lo hst => exact ⟨P1.good_tau _ _ _ _ hst hg.1, hg.2⟩
  | hi hst => exact ⟨hg.1, P2.good_tau _ _ _ _ hst hg.2⟩
  | pop => exact hg
  | greet hst => exact ⟨P1.good_call _ _ _ _ _ hst hg.1, hg.2⟩
  | down hst => exact ⟨P1.good_call _ _ _ _ _ hst hg.1, hg.2⟩
  | sub hst => exact ⟨hg.1, P2.good_call _ _ _ _ _ hst hg.2⟩
  | up hst => exact ⟨hg.1, P2.good_call _ _ _ _ _ hst hg.2⟩

end Internal

theorem CCall.lt {c1 c2 : Costs} (P1 : Pot M1 (c1.of (β := β))) (P2 : Pot M2 (c2.of (β := γ))) {st s' : S1 × S2}
    {cfs cfs' : List (CFr L1 L2)} {o : Out γ} : CCall M1 M2 st cfs o s' cfs' → P1.good st.1 ∧ P2.good st.2 →
    P1.Ψ s'.1 + P2.Ψ s'.2 + (match cfs' with | [] => 1 | e :: t => eω P1 P2 e + sumω P1 P2 t) + (c1.mix c2).of o <
      P1.Ψ st.1 + P2.Ψ st.2 + (match cfs with | [] => 0 | e :: t => eρ P1 P2 st e + sumω P1 P2 t) := by
  intro h hg
  cases h with
  | sub hst => have hc := P1.call _ _ _ _ _ hst hg.1; simp only [eω, eρ, Costs.of, Costs.mix] at hc ⊢; omega
  | @up l rest i u s1 l' hst =>
    have hc := P1.call _ _ _ _ _ hst hg.1
    cases u <;> (simp only [eω, eρ, Costs.of, Costs.mix] at hc ⊢; omega)
  | greet hst => have hc := P2.call _ _ _ _ _ hst hg.2; simp only [eω, eρ, Costs.of, Costs.mix] at hc ⊢; omega
  | @down l rest k d s2 l' hst =>
    have hc := P2.call _ _ _ _ _ hst hg.2
    cases d <;> (simp only [eω, eρ, Costs.of, Costs.mix] at hc ⊢; omega)
  | app hst => have hc := P2.call _ _ _ _ _ hst hg.2; simp only [eω, eρ, Costs.of, Costs.mix] at hc ⊢; omega

theorem CCall.good {c1 c2 : Out _ → Nat} (P1 : Pot M1 c1) (P2 : Pot M2 c2) {st s' : S1 × S2}
    {cfs cfs' : List (CFr L1 L2)} {o : Out γ} (h : CCall M1 M2 st cfs o s' cfs') (hg : P1.good st.1 ∧ P2.good st.2) :
    P1.good s'.1 ∧ P2.good s'.2 := by
  cases h with
  | sub hst => exact ⟨P1.good_call _ _ _ _ _ hst hg.1, hg.2⟩
  | up hst => exact ⟨P1.good_call _ _ _ _ _ hst hg.1, hg.2⟩
  | greet hst => exact ⟨hg.1, P2.good_call _ _ _ _ _ hst hg.2⟩
  | down hst => exact ⟨hg.1, P2.good_call _ _ _ _ _ hst hg.2⟩
  | app hst => exact ⟨hg.1, P2.good_call _ _ _ _ _ hst hg.2⟩

/-- **potentials compose**: the running component frame counts with its `ρ`, the waiting ones with their `ω` -/
def Pot.compose {c1 c2 : Costs} (P1 : Pot M1 (c1.of (β := β))) (P2 : Pot M2 (c2.of (β := γ)))
    (h1 : P2.DownLe c1.greet c1.data c1.fin) (h2 : P1.UpLe c2.sub c2.pull c2.ufin) : Pot (Cb.compose M1 M2) ((c1.mix c2).of (β := γ)) where
  good st := P1.good st.1 ∧ P2.good st.2
  Ψ st := P1.Ψ st.1 + P2.Ψ st.2
  ρ st cfs := match cfs with
    | [] => 0
    | e :: t => eρ P1 P2 st e + sumω P1 P2 t
  ω cfs := match cfs with
    | [] => 1
    | e :: t => eω P1 P2 e + sumω P1 P2 t
  le := stack_lt P1 P2
  tau st cfs _ _ h := ((compose_step_inv st cfs).tau h).lt P1 P2 h1.at0 h2.sub h2.up
  call st cfs _ _ _ h := ((compose_step_inv st cfs).call h).lt P1 P2
  good_tau st cfs _ _ h := ((compose_step_inv st cfs).tau h).good P1 P2
  good_call st cfs _ _ _ h := ((compose_step_inv st cfs).call h).good P1 P2

theorem Pot.compose_upLe {c1 c2 : Costs} (P1 : Pot M1 (c1.of (β := β))) (P2 : Pot M2 (c2.of (β := γ)))
    (h1 : P2.DownLe c1.greet c1.data c1.fin) (h2 : P1.UpLe c2.sub c2.pull c2.ufin) {a b c : Nat} (he : P2.UpLe a b c) :
    (P1.compose P2 h1 h2).UpLe a b c :=
  ⟨he.sub, he.pull, he.uterm, he.uerr⟩

theorem Pot.compose_downLe {c1 c2 : Costs} (P1 : Pot M1 (c1.of (β := β))) (P2 : Pot M2 (c2.of (β := γ)))
    (h1 : P2.DownLe c1.greet c1.data c1.fin) (h2 : P1.UpLe c2.sub c2.pull c2.ufin) {a b c : Nat} (he : P1.DownLe a b c) :
    (P1.compose P2 h1 h2).DownLe a b c :=
  ⟨he.greet, he.data, he.term, he.err⟩

def Pot.weaken {St Loc α β : Type} {M : Machine St Loc α β} {cost cost' : Out β → Nat} (P : Pot M cost) (h : ∀ o, cost' o ≤ cost o) :
    Pot M cost' where
  good := P.good
  Ψ := P.Ψ
  ρ := P.ρ
  ω := P.ω
  le := P.le
  tau := P.tau
  call st l o s' l' hs hg := by have := P.call st l o s' l' hs hg; have := h o; omega
  good_tau := P.good_tau
  good_call := P.good_call

theorem Pot.weaken_ω {St Loc α β : Type} {M : Machine St Loc α β} {cost cost' : Out β → Nat} (P : Pot M cost)
    (h : ∀ o, cost' o ≤ cost o) : (P.weaken h).ω = P.ω := rfl

theorem Pot.UpLe.weaken {St Loc α β : Type} {M : Machine St Loc α β} {cost cost' : Out β → Nat} {P : Pot M cost} {a b c : Nat}
    (h0 : P.UpLe a b c) (h : ∀ o, cost' o ≤ cost o) : (P.weaken h).UpLe a b c :=
  ⟨h0.sub, h0.pull, h0.uterm, h0.uerr⟩

/-- **potentials of plugged machines**: as for `compose`; the external calls are those of `M₂` -/
def Pot.plug {c1 : Costs} {cost2 : Out γ → Nat} (j : Nat) (P1 : Pot M1 (c1.of (β := β))) (P2 : Pot M2 cost2)
    (h1 : P2.DownLeAt j c1.greet c1.data c1.fin) (h2s : P1.ω (M1.enter (.subscribe 0)) ≤ cost2 (.subSrc j))
    (h2u : ∀ u, P1.ω (M1.enter (.sinkUp 0 u)) ≤ cost2 (.srcUp j u)) : Pot (Cb.plug j M1 M2) cost2 :=
  .ofSat (plug_step_inv j) (fun st => P1.Ψ st.1 + P2.Ψ st.2)
    (fun st cfs => match cfs with
      | [] => 0
      | e :: t => eρ P1 P2 st e + sumω P1 P2 t)
    (fun cfs => match cfs with
      | [] => 1
      | e :: t => eω P1 P2 e + sumω P1 P2 t)
    (stack_lt P1 P2) (fun st => P1.good st.1 ∧ P2.good st.2) (fun h hg => ⟨h.good P1 P2 hg, h.lt P1 P2 h1 h2s h2u hg⟩)
    (fun h hg => by
      obtain ⟨l, rest, s2, l', rfl, hst, rfl, rfl⟩ := h
      have := P2.call _ _ _ _ _ hst hg.2
      exact ⟨⟨hg.1, P2.good_call _ _ _ _ _ hst hg.2⟩, by simp only [eω, eρ]; omega⟩)

theorem Pot.plug_enter {c1 : Costs} {cost2 : Out γ → Nat} (j : Nat) (P1 : Pot M1 (c1.of (β := β))) (P2 : Pot M2 cost2)
    (h1 : P2.DownLeAt j c1.greet c1.data c1.fin) (h2s : P1.ω (M1.enter (.subscribe 0)) ≤ cost2 (.subSrc j))
    (h2u : ∀ u, P1.ω (M1.enter (.sinkUp 0 u)) ≤ cost2 (.srcUp j u)) (i : In β) :
    (P1.plug j P2 h1 h2s h2u).ω ((Cb.plug j M1 M2).enter i) = P2.ω (M2.enter i) := by
  cases i <;> rfl

end Compose

section Operators

def FromIter.ρ (c : Costs) (resDone : Bool) : FromIter.Loc → Nat
  | .done => 0
  | .sub0 => c.greet + 2
  | .t0 .pull => c.fin + 12
  | .t0 _ => 2
  | .t1 .pull => c.fin + 11
  | .t1 _ => 1
  | .pl1 => c.fin + 10
  | .pl2 => c.fin + 9
  | .l0 => c.fin + 8
  | .w0 => c.fin + 7
  | .w1 => c.fin + 6
  | .w2 => c.fin + 5
  | .w3 => c.fin + 4
  | .w4 => if resDone then c.fin + 3 else c.fin + c.data + 9
  | .lend => 1

/-- **`from_iter`** over an iterator with a measure (`len` decreases with every item): the `while` loop is paid for by the remaining
items, `c.data + 6` each; a `Pull` (which may run the loop up to the delivery of the terminal) costs `c.fin + 13` -/
def FromIter.pot {ι α : Type} (α' : Type) (next : ι → Option (α × ι)) (it0 : ι) (len : ι → Nat)
    (hlen : ∀ it a it', next it = some (a, it') → len it' < len it) (c : Costs) :
    Pot (FromIter.machine α' next it0) (c.of (β := α)) :=
  .ofEdges (fun st l => (FromIter.edge α' next it0 st l).sat) (fun st => (c.data + 6) * len st.it) (fun st => FromIter.ρ c st.resDone)
    (fun l => FromIter.ρ c false l + 1)
    (fun st l => by
      cases l with
      | t0 u => cases u <;> exact Nat.lt_succ_self _
      | t1 u => cases u <;> exact Nat.lt_succ_self _
      | w4 => simp only [FromIter.ρ, Bool.false_eq_true, if_false]; split <;> omega
      | _ => exact Nat.lt_succ_self _)
    (fun {st} _ _ _ h => by
      cases h with
      | t0 u _ => cases u <;> simp only [FromIter.ρ] <;> omega
      | t1_stop u hu => cases u <;> simp_all [FromIter.ρ]
      | w3_some a it' hn =>
        -- one item of the iterator is spent
        have h2 := Nat.mul_le_mul_left (c.data + 6) (hlen _ _ _ hn)
        rw [Nat.mul_succ] at h2
        simp only [FromIter.ρ, Bool.false_eq_true, if_false]; omega
      | _ => simp only [FromIter.ρ, *, if_true] <;> omega)
    (fun h => by cases h <;> simp only [FromIter.ρ, Costs.of, *, Bool.false_eq_true, if_false, if_true] <;> omega)

theorem FromIter.pot_upLe {ι α : Type} (α' : Type) (next : ι → Option (α × ι)) (it0 : ι) (len : ι → Nat)
    (hlen : ∀ it a it', next it = some (a, it') → len it' < len it) (c : Costs) :
    (FromIter.pot α' next it0 len hlen c).UpLe (c.greet + 3) (c.fin + 13) 3 :=
  ⟨Nat.le_refl _, Nat.le_refl _, Nat.le_refl _, fun _ => Nat.le_refl _⟩

/-- **`for_each`**: loop-free handlers; a datum costs the closure, a `Pull` and 5 -/
def ForEach.pot (α : Type) (c : Costs) : Pot (ForEach.machine α) (c.of (β := α)) where
  good _ := True
  good_tau _ _ _ _ _ _ := trivial
  good_call _ _ _ _ _ _ _ := trivial
  Ψ _ := 0
  ρ _ l := match l with
    | .done => 0
    | .sub0 => c.sub + 2
    | .g0 => c.pull + 3
    | .pull => c.pull + 2
    | .d0 _ => c.pull + c.app + 4
  ω l := match l with
    | .done => 1
    | .sub0 => c.sub + 3
    | .g0 => c.pull + 4
    | .pull => c.pull + 3
    | .d0 _ => c.pull + c.app + 5
  le st l := by cases l <;> simp
  tau st l s' l' h _ := by
    cases l <;> simp only [ForEach.machine, ForEach.step] at h
    case done => simp at h
    case sub0 => simp at h
    case g0 => simp only [Act.tau.injEq] at h; obtain ⟨rfl, rfl⟩ := h; simp
    case pull => split at h <;> simp at h
    case d0 a => simp at h
  call st l o s' l' h _ := by
    cases l <;> simp only [ForEach.machine, ForEach.step] at h
    case done => simp at h
    case sub0 => simp only [Act.call.injEq] at h; obtain ⟨rfl, rfl, rfl⟩ := h; simp [Costs.of]; omega
    case g0 => simp at h
    case pull =>
      split at h
      · simp only [Act.call.injEq] at h; obtain ⟨rfl, rfl, rfl⟩ := h; simp [Costs.of]; omega
      · simp at h
    case d0 a => simp only [Act.call.injEq] at h; obtain ⟨rfl, rfl, rfl⟩ := h; simp [Costs.of]; omega

theorem ForEach.pot_downLe (α : Type) (c : Costs) : (ForEach.pot α c).DownLe (c.pull + 4) (c.pull + c.app + 5) 1 :=
  ⟨Nat.le_refl _, fun _ => Nat.le_refl _, Nat.le_refl _, fun _ => Nat.le_refl _⟩

theorem ForEach.pot_upLe (α : Type) (c : Costs) : (ForEach.pot α c).UpLe (c.sub + 3) 1 1 :=
  ⟨Nat.le_refl _, Nat.le_refl _, Nat.le_refl _, fun _ => Nat.le_refl _⟩

/-- the potential of a relay's handlers at each location; `r` is what the data handler may spend on re-pulling after a dropped datum -/
def Relay.ρ {α β : Type} (c : Costs) (r : Nat) : Relay.Loc α β → Nat
  | .sub0 => c.sub + 2
  | .done => 0
  | .g0 => c.greet + 3
  | .g1 => c.greet + 2
  | .d0 _ => c.data + r + 3
  | .emit _ => c.data + 2
  | .repull => c.pull + 2
  | .fwd d => c.of (Out.down 0 d : Out β) + 2
  | .u0 u => c.of (Out.srcUp 0 u : Out β) + 2

/-- **relays** (`map`, `filter`, `scan`, `skip`): loop-free handlers.  The allowance `r` for re-pulling is `c.pull` — or nothing, for a
relay that never drops (`map`, `scan`) -/
def Relay.pot {σ α β : Type} (k : Relay.Kind σ α β) (c : Costs) (r : Nat) (hr : c.pull ≤ r ∨ ∀ s a, (k.xfer s a).2 ≠ none) :
    Pot (Relay.machine k) (c.of (β := β)) :=
  .ofEdges (fun st l => (Relay.edge k st l).sat) (fun _ => 0) (fun _ => Relay.ρ c r) (fun l => Relay.ρ c r l + 1)
    (fun _ _ => Nat.lt_succ_self _)
    (fun h => by
      cases h with
      | d0_drop a hn =>
        -- a dropped datum is re-pulled: within `r`, or the relay never drops
        rcases hr with hr | hr
        · simp only [Relay.ρ]; omega
        · exact absurd hn (hr _ _)
      | _ => simp only [Relay.ρ]; omega)
    (fun h => by cases h <;> simp only [Relay.ρ, Costs.of] <;> omega)

theorem Relay.pot_upLe {σ α β : Type} (k : Relay.Kind σ α β) (c : Costs) (r : Nat)
    (hr : c.pull ≤ r ∨ ∀ s a, (k.xfer s a).2 ≠ none) : (Relay.pot k c r hr).UpLe (c.sub + 3) (c.pull + 3) (c.ufin + 3) :=
  ⟨Nat.le_refl _, Nat.le_refl _, Nat.le_refl _, fun _ => Nat.le_refl _⟩

theorem Relay.pot_downLe {σ α β : Type} (k : Relay.Kind σ α β) (c : Costs) (r : Nat)
    (hr : c.pull ≤ r ∨ ∀ s a, (k.xfer s a).2 ≠ none) : (Relay.pot k c r hr).DownLe (c.greet + 4) (c.data + r + 4) (c.fin + 3) :=
  ⟨Nat.le_refl _, fun _ => Nat.le_refl _, Nat.le_refl _, fun _ => Nat.le_refl _⟩

def TakeB.ρ {α : Type} (c : Costs) : Take.Loc α → Nat
  | .sub0 => c.sub + 2
  | .done => 0
  | .greet0 => c.greet + 3
  | .greet1 => c.greet + 2
  | .d0 _ => 3
  | .d1 _ => c.fin + c.ufin + c.data + 10
  | .d2 _ _ => c.fin + c.ufin + c.data + 9
  | .d3 _ => c.fin + c.ufin + 7
  | .d3b => c.fin + c.ufin + 6
  | .d4 => c.fin + c.ufin + 5
  | .d5 => c.fin + c.ufin + 4
  | .d6 => c.fin + 2
  | .fwd d => c.of (Out.down 0 d : Out α) + 2
  | .p0 => c.pull + 3
  | .p1 => c.pull + 2
  | .x0 u => c.of (Out.srcUp 0 u : Out α) + 3
  | .x1 u => c.of (Out.srcUp 0 u : Out α) + 2

/-- **`take(max)`**: loop-free handlers; every delivery it lets through, and its own end-of-life handling (the `Terminate` upstream and the
`Terminate` downstream), are paid for by the budget `Ψ = (max - taken) * (c.fin + c.ufin + c.data + 12)`; a delivery INTO it costs 4 -/
def TakeB.pot (α : Type) (max : Nat) (c : Costs) : Pot (Take.machine α max) (c.of (β := α)) :=
  .ofEdges (fun st l => (Take.edge max st l).sat) (fun st => (c.fin + c.ufin + c.data + 12) * (max - st.taken)) (fun _ => TakeB.ρ c)
    (fun l => TakeB.ρ c l + 1) (fun _ _ => Nat.lt_succ_self _)
    (fun {st} _ _ _ h => by
      cases h with
      | d0 a ht =>
        -- one unit of the budget is spent
        have : max - st.taken = (max - (st.taken + 1)) + 1 := by omega
        simp only [TakeB.ρ]; rw [this, Nat.mul_succ]; omega
      | d1 a =>
        have := Nat.mul_le_mul_left (c.fin + c.ufin + c.data + 12) (Nat.sub_le_sub_left (Nat.le_add_right st.taken 1) max)
        simp only [TakeB.ρ]; omega
      | _ => simp only [TakeB.ρ]; omega)
    (fun h => by cases h <;> simp only [TakeB.ρ, Costs.of] <;> omega)

theorem TakeB.pot_upLe (α : Type) (max : Nat) (c : Costs) : (TakeB.pot α max c).UpLe (c.sub + 3) (c.pull + 4) (c.ufin + 4) :=
  ⟨Nat.le_refl _, Nat.le_refl _, Nat.le_refl _, fun _ => Nat.le_refl _⟩

theorem TakeB.pot_downLe (α : Type) (max : Nat) (c : Costs) : (TakeB.pot α max c).DownLe (c.greet + 4) 4 (c.fin + 3) :=
  ⟨Nat.le_refl _, fun _ => Nat.le_refl _, Nat.le_refl _, fun _ => Nat.le_refl _⟩

end Operators

section Heads
variable {St Loc α β : Type}

/-- a closed head has a potential for every cost of its sink's entry points (greeting `g`, datum `d`, terminal `f`); the costs of its own
entry points: subscription `fs g f`, `Pull` `fp f` (it depends on the cost of the terminal only), `Terminate`/`Error` `fu` -/
def HeadPot (M : Machine St Loc α β) : Prop :=
  ∃ (fs : Nat → Nat → Nat) (fp : Nat → Nat) (fu : Nat), ∀ g d f : Nat,
    ∃ P : Pot M ((⟨0, 0, 0, g, d, f, 0⟩ : Costs).of (β := β)), P.good M.init ∧ P.UpLe (fs g f) (fp f) fu

theorem HeadPot.fromIter {ι α : Type} (α' : Type) (next : ι → Option (α × ι)) (it0 : ι) (len : ι → Nat)
    (hlen : ∀ it a it', next it = some (a, it') → len it' < len it) : HeadPot (FromIter.machine α' next it0) :=
  ⟨fun g _ => g + 3, fun f => f + 13, 3, fun g d f => ⟨FromIter.pot α' next it0 len hlen ⟨0, 0, 0, g, d, f, 0⟩, trivial,
    FromIter.pot_upLe α' next it0 len hlen ⟨0, 0, 0, g, d, f, 0⟩⟩⟩

theorem HeadPot.relay {σ γ : Type} {M : Machine St Loc α β} (h : HeadPot M) (k : Relay.Kind σ β γ) :
    HeadPot (Cb.compose M (Relay.machine k)) := by
  obtain ⟨fs, fp, fu, h⟩ := h
  refine ⟨fun g f => fs (g + 4) (f + 3) + 3, fun f => fp (f + 3) + 3, fu + 3, fun g d f => ?_⟩
  obtain ⟨PA, hgA, hA⟩ := h (g + 4) (d + fp (f + 3) + 4) (f + 3)
  exact ⟨PA.compose (Relay.pot k ⟨fs (g + 4) (f + 3), fp (f + 3), fu, g, d, f, 0⟩ _ (.inl (Nat.le_refl _))) (Relay.pot_downLe k _ _ _) hA,
    ⟨hgA, trivial⟩, Pot.compose_upLe _ _ _ _ (Relay.pot_upLe k _ _ _)⟩

/-- **`take` breaks the circle**: the cost of a delivery into `take` is a constant, so below it the cost of a `Pull` no longer depends on
the cost of a delivery (`fp d f`: `from_iter` over an arbitrary iterator, `Inv/TakeTerm.lean`) -/
theorem headPot_take {M : Machine St Loc α β} {fs fp : Nat → Nat → Nat} {fu : Nat}
    (h : ∀ g d f : Nat, ∃ P : Pot M ((⟨0, 0, 0, g, d, f, 0⟩ : Costs).of (β := β)), P.good M.init ∧ P.UpLe (fs g f) (fp d f) fu)
    (max : Nat) : HeadPot (Cb.compose M (Take.machine β max)) := by
  refine ⟨fun g f => fs (g + 4) (f + 3) + 3, fun f => fp 4 (f + 3) + 4, fu + 4, fun g d f => ?_⟩
  obtain ⟨PA, hgA, hA⟩ := h (g + 4) 4 (f + 3)
  exact ⟨PA.compose (TakeB.pot β max ⟨fs (g + 4) (f + 3), fp 4 (f + 3), fu, g, d, f, 0⟩) (TakeB.pot_downLe β max _) hA,
    ⟨hgA, trivial⟩, Pot.compose_upLe _ _ _ _ (TakeB.pot_upLe β max _)⟩

theorem HeadPot.take {M : Machine St Loc α β} (h : HeadPot M) (max : Nat) : HeadPot (Cb.compose M (Take.machine β max)) := by
  obtain ⟨fs, fp, fu, h⟩ := h
  exact headPot_take (fp := fun _ => fp) h max

theorem HeadPot.closed {M : Machine St Loc α β} (h : HeadPot M) :
    ∃ P : Pot (Cb.compose M (ForEach.machine β)) ((⟨0, 0, 0, 0, 0, 0, 0⟩ : Costs).of (β := β)),
      P.good (Cb.compose M (ForEach.machine β)).init := by
  obtain ⟨fs, fp, fu, h⟩ := h
  obtain ⟨PA, hgA, hA⟩ := h (fp 1 + 4) (fp 1 + 0 + 5) 1
  exact ⟨PA.compose (ForEach.pot β ⟨fs (fp 1 + 4) 1, fp 1, fu, 0, 0, 0, 0⟩) (ForEach.pot_downLe β _) hA, hgA, trivial⟩

end Heads

section ConcatPot

/-- the costs of `concat`'s calls: a subscription to a member that does not exist costs nothing -/
def costC {α : Type} (n : Nat) (c : Costs) : Out α → Nat
  | .subSrc i => if i < n then c.sub else 0
  | o => c.of o

theorem costC_ge {α : Type} (n : Nat) (c : Costs) (o : Out α) : (⟨0, 0, 0, c.greet, c.data, c.fin, 0⟩ : Costs).of o ≤ costC n c o := by
  cases o with
  | subSrc i => exact Nat.zero_le _
  | srcUp i u => cases u <;> exact Nat.zero_le _
  | greet k => exact Nat.le_refl _
  | down k d => cases d <;> exact Nat.le_refl _
  | app b => exact Nat.zero_le _

/-- the potential of `concat`'s handlers at each location (`next`: by what it will call) -/
def Concat.ρ {α : Type} (n : Nat) (c : Costs) (i : Nat) : Concat.Loc α → Nat
  | .done => 0
  | .next => (if i = n then c.fin else if i < n then c.sub else 0) + 2
  | .g0 _ => c.greet + c.pull + 6
  | .g1 => c.greet + c.pull + 5
  | .g2 => c.pull + 3
  | .g3 => c.pull + 2
  | .fwd d => c.of (Out.down 0 d : Out α) + 2
  | .t0 => 3
  | .p0 => c.pull + 3
  | .u1 u => c.of (Out.srcUp 0 u : Out α) + 2

def Concat.ω {α : Type} (n : Nat) (c : Costs) : Concat.Loc α → Nat
  | .next => c.fin + c.sub + 3
  | l => Concat.ρ n c 0 l + 1

/-- **`concat!`** of `n` members: the handlers are loop-free; moving on to the next member (`t0`, then `next`: a subscription, inside
which that member may run) is paid for by the state part `(c.fin + c.sub + 3) * (n - i)`, so that the delivery of a member's
`Terminate` has a cost that does not depend on the other members -/
def Concat.pot (α : Type) (n : Nat) (c : Costs) : Pot (Concat.machine α n) (costC (α := α) n c) :=
  .ofEdges (fun st l => (Concat.edge n st l).sat) (fun st => (c.fin + c.sub + 3) * (n - st.i)) (fun st => Concat.ρ n c st.i) (Concat.ω n c)
    (fun st l => by
      cases l with
      | next => simp only [Concat.ρ, Concat.ω]; split <;> (try split) <;> omega
      | _ => exact Nat.lt_succ_self _)
    (fun {st} _ _ _ h => by
      cases h with
      | t0 =>
        simp only [Concat.ρ]
        by_cases h1 : st.i + 1 = n
        · have : n - st.i = 1 := by omega
          have h0 : n - (st.i + 1) = 0 := by omega
          rw [this, h0]; simp [h1]; omega
        · by_cases h2 : st.i + 1 < n
          · have : n - st.i = (n - (st.i + 1)) + 1 := by omega
            rw [this, Nat.mul_succ]; simp [h1, h2]; omega
          · have : n - st.i = 0 := by omega
            have h0 : n - (st.i + 1) = 0 := by omega
            rw [this, h0]; simp [h1, h2]
      | _ => simp only [Concat.ρ, Costs.of] <;> omega)
    (fun h => by
      cases h with
      | last hi => simp only [Concat.ρ, Concat.ω, costC, Costs.of, hi, if_true]; omega
      | sub hi => simp only [Concat.ρ, Concat.ω, costC, hi, if_false]; split <;> omega
      | @up _ u _ => cases u <;> simp only [Concat.ρ, Concat.ω, costC, Costs.of] <;> omega
      | @fwd d => cases d <;> simp only [Concat.ρ, Concat.ω, costC, Costs.of] <;> omega
      | _ => simp only [Concat.ρ, Concat.ω, costC, Costs.of] <;> omega)

theorem Concat.pot_upLe (α : Type) (n : Nat) (c : Costs) : (Concat.pot α n c).UpLe (c.fin + c.sub + 3) (c.pull + 4) (c.ufin + 3) :=
  ⟨Nat.le_refl _, Nat.le_refl _, Nat.le_refl _, fun _ => Nat.le_refl _⟩

theorem Concat.pot_downLeAt (α : Type) (n : Nat) (c : Costs) (j : Nat) :
    (Concat.pot α n c).DownLeAt j (c.greet + c.pull + 7) (c.data + 3) (c.fin + 4) :=
  ⟨Nat.le_refl _, fun _ => Nat.le_refl _, Nat.le_add_left _ _, fun _ => Nat.le_succ _⟩

section
variable {β S L : Type} {n : Nat} {c : Costs} {N : Machine S L β β}

/-- a `concat` machine of `n` slots with some of them plugged: it has a potential with the entry points and the cost function of
`Concat.pot β n c` (`Pot.plug` leaves both as they are) -/
def ConcatPot (n : Nat) (c : Costs) (N : Machine S L β β) : Prop :=
  ∃ P : Pot N (costC (α := β) n c), (∀ i, P.ω (N.enter i) = (Concat.pot β n c).ω ((Concat.machine β n).enter i)) ∧ P.good N.init

theorem ConcatPot.base (n : Nat) (c : Costs) : ConcatPot n c (Concat.machine β n) := ⟨Concat.pot β n c, fun _ => rfl, trivial⟩

/-- plugging slot `k` with a head that is charged what `Concat.pot` asks of its members and costs at most what it allows them -/
theorem ConcatPot.plug {SA LA αA : Type} {A : Machine SA LA αA β} (h : ConcatPot n c N) {k : Nat} (hk : k < n)
    (hA : ∃ PA : Pot A ((⟨0, 0, 0, c.greet + c.pull + 7, c.data + 3, c.fin + 4, 0⟩ : Costs).of (β := β)),
      PA.good A.init ∧ PA.UpLe c.sub c.pull c.ufin) : ConcatPot n c (Cb.plug k A N) := by
  obtain ⟨P, hP, gP⟩ := h
  obtain ⟨PA, gA, uA⟩ := hA
  have hd : P.DownLeAt k (c.greet + c.pull + 7) (c.data + 3) (c.fin + 4) := (Concat.pot_downLeAt β n c k).congr hP
  have hs : PA.ω (A.enter (.subscribe 0)) ≤ costC (α := β) n c (.subSrc k) := by simp only [costC, hk, if_true]; exact uA.sub
  have hu : ∀ u, PA.ω (A.enter (.sinkUp 0 u)) ≤ costC (α := β) n c (.srcUp k u) := fun u => by cases u <;> exact uA.up (γ := β) _
  exact ⟨PA.plug k P hd hs hu, fun i => (Pot.plug_enter k PA P hd hs hu i).trans (hP i), gA, gP⟩

/-- seen from its sink it is a head: `concat` allows its sink what a head is charged for (`costC_ge`) -/
theorem ConcatPot.head (h : ConcatPot n c N) :
    ∃ P : Pot N ((⟨0, 0, 0, c.greet, c.data, c.fin, 0⟩ : Costs).of (β := β)),
      P.good N.init ∧ P.UpLe (c.fin + c.sub + 3) (c.pull + 4) (c.ufin + 3) :=
  let ⟨P, hP, gP⟩ := h
  ⟨P.weaken (costC_ge n c), gP, ((Concat.pot_upLe β n c).congr hP).weaken (costC_ge n c)⟩

end

end ConcatPot

section ConcatHead
variable {SA LA SB LB αA αB β : Type} {A : Machine SA LA αA β} {B : Machine SB LB αB β}

/-- **`concat!(A, B)`** of two closed heads is a closed head with a potential -/
theorem HeadPot.concat2 (hA : HeadPot A) (hB : HeadPot B) : HeadPot (Cb.plug 0 A (Cb.plug 1 B (Concat.machine β 2))) := by
  obtain ⟨fsA, fpA, fuA, hA⟩ := hA
  obtain ⟨fsB, fpB, fuB, hB⟩ := hB
  refine ⟨fun g f => f + max (fsA (g + max (fpA (f + 4)) (fpB (f + 4)) + 7) (f + 4)) (fsB (g + max (fpA (f + 4)) (fpB (f + 4)) + 7) (f + 4)) + 3,
    fun f => max (fpA (f + 4)) (fpB (f + 4)) + 4, max fuA fuB + 3, fun g d f => ?_⟩
  obtain ⟨PA, gA, uA⟩ := hA (g + max (fpA (f + 4)) (fpB (f + 4)) + 7) (d + 3) (f + 4)
  obtain ⟨PB, gB, uB⟩ := hB (g + max (fpA (f + 4)) (fpB (f + 4)) + 7) (d + 3) (f + 4)
  -- the members are charged their maximum
  exact (((ConcatPot.base 2 ⟨max (fsA (g + max (fpA (f + 4)) (fpB (f + 4)) + 7) (f + 4)) (fsB (g + max (fpA (f + 4)) (fpB (f + 4)) + 7) (f + 4)),
      max (fpA (f + 4)) (fpB (f + 4)), max fuA fuB, g, d, f, 0⟩).plug (k := 1) (by decide)
        ⟨PB, gB, uB.mono (Nat.le_max_right _ _) (Nat.le_max_right _ _) (Nat.le_max_right _ _)⟩).plug (k := 0) (by decide)
        ⟨PA, gA, uA.mono (Nat.le_max_left _ _) (Nat.le_max_left _ _) (Nat.le_max_left _ _)⟩).head

end ConcatHead

section Consequences
variable {St Loc α β : Type} {M : Machine St Loc α β} {cost : Out β → Nat}

theorem Pot.reach_good (P : Pot M cost) (h0 : P.good M.init) : ∀ s, SReach M s → P.good s.st :=
  SReachR.ind _ h0 (fun _ _ _ ih h => P.opStep_good h ih) fun _ _ _ _ ih he _ => by cases he <;> exact ih

/-- **progress**: a safe machine with a potential runs, from every reachable configuration, into an environment turn -/
theorem progress_of_pot (P : Pot M cost) (h0 : P.good M.init) (hsafe : ∀ s, SReach M s → BasicSafe s) :
    ∀ s, SReach M s → ∃ n, EnvTurn (advance M n s) := by
  intro s hs
  obtain ⟨n, hn⟩ := P.progress s (P.reach_good h0 s hs)
  exact ⟨n, envTurn_of_stuck hn (hsafe _ (hs.advance n)).2⟩

/-- **the application returns**: a safe machine with a potential and without external upstream: from every reachable configuration,
operator steps and environment RETURNS lead back to top level -/
theorem returns_of_pot (P : Pot M cost) (h0 : P.good M.init) (hsafe : ∀ s, SReach M s → BasicSafe s)
    (hno : ∀ s, SReach M s → ∀ i, s.g.ph.srcPh i = .idle) :
    ∀ s, SReach M s → ∃ t, Drain M s t ∧ SReach M t ∧ t.stack = [] ∧ t.panicked = none ∧ (s.tr ≠ [] → t.tr ≠ []) := by
  intro s hs
  obtain ⟨t, hd, h1, h2⟩ := P.drain s (P.reach_good h0 s hs)
  have ht := hd.reach hs
  have hp := (hsafe t ht).2
  refine ⟨t, hd, ht, ?_, hp, hd.tr_ne⟩
  have hsrc := hno t ht
  have htn := envTurn_of_stuck h1 hp
  obtain ⟨st, stk, g, tr, p⟩ := t
  simp only at hp hsrc ⊢; subst hp
  cases stk with
  | nil => rfl
  | cons f r =>
    exfalso
    cases f with
    | run l => cases htn.2
    | wait o l =>
      have hl : legalRet M.shape g.ph (.inCall o : Ctx β) = true := by
        cases o <;> simp [legalRet, hsrc]
      simp [envMove, hl] at h2

end Consequences

end ComposeTerm
end Cb

#print axioms Cb.ComposeTerm.Pot.progress
#print axioms Cb.ComposeTerm.Pot.drain
#print axioms Cb.ComposeTerm.Pot.compose
#print axioms Cb.ComposeTerm.TakeB.pot
#print axioms Cb.ComposeTerm.HeadPot.relay
#print axioms Cb.ComposeTerm.HeadPot.take
#print axioms Cb.ComposeTerm.HeadPot.closed
#print axioms Cb.ComposeTerm.progress_of_pot
#print axioms Cb.ComposeTerm.returns_of_pot
