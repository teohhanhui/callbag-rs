import CallbagModel.Inv.JoinDemand
import CallbagModel.Inv.FlatPlugFun
/-!
# `flatten` under a demand: the pull discipline of `Flatten.machine`

Assumption `CndF dem tr` (closed under tails): the outer source delivers data only when pulled and no upstream sends an `Error`
(`FK.Cnd`); every inner source delivers AND ENDS only when pulled; the sink obeys the demand `dem`.

`KF_reach`: then, at every reachable configuration of `Flatten.machine Int`,
* `tf.pok`: the sink receives data only in answer to a `Pull` (`flatten` is then `PullOnly`);
* `tf.lp`: an upstream with an unserved `Pull` is the CURRENT one (`st.inner`, or the outer source 0 if there is none), and then the
  sink's `Pull` is unserved — in particular at most one upstream is being pulled;
* `pw : PullsWanted dem tr`: every `Pull` sent upstream (to an inner source or to the outer one — `p0`, `p1`, `ig1`, `it2`) was sent
  while the sink still wanted items;
* `q`: while an inner source is subscribed and has not greeted yet, the sink's `Pull` is unserved and no upstream is being pulled (`AllF`);
* `Fl`: the assertions on the running handler (`od0`/`od1`/`ig0`/`ig1`: the outer datum answered the only outstanding `Pull`;
  `it0`/`it1`/`it2`: so did the inner terminal — this is where "ends only when pulled" is used; `fwd`: so did the inner datum).

`Fl` stands in the statement because what is a property of flatten's own calls is read off it at the call: `flat_eok` below, and the
guard of each `Pull` in the cost of `flatPlug` under a demand (`Inv/FlatDemandCost.lean`).
-/
namespace Cb
namespace FlatDemand
open ComposeSafe ComposeFun ComposeComplete PlugConcat FlatPlugSafe FlatPlugFun ComposeCost JoinDemand FK

/-- the upstream that may be pulled: the current inner source, else the outer one -/
def cur (st : Flatten.St) : Nat := st.inner.getD 0

def AllF (sr : List (SrcEv Int)) : Prop := ∀ j, lastPullSrc j sr = false

def PullsWanted (dem : Demand) : List (Ev Int Int) → Prop
  | [] => True
  | e :: t => ((∃ j, e = Ev.out (.srcUp j .pull)) → wants dem (recvData 0 t).length) ∧ PullsWanted dem t

structure TF (c : Nat) (sk : List (SinkEv Int)) (sr : List (SrcEv Int)) : Prop where
  pok : POk sk
  lp : ∀ j, lastPullSrc j sr = true → j = c ∧ lastPull 0 sk = true

variable {c : Nat} {sk : List (SinkEv Int)} {sr : List (SrcEv Int)}

theorem TF.sinkNeutral (h : TF c sk sr) (e : SinkEv Int) (h1 : relS 0 e = none) (h2 : isData0 e = false) : TF c (e :: sk) sr :=
  ⟨⟨fun hd => (by rw [h2] at hd; cases hd), h.pok⟩, fun j hj => ⟨(h.lp j hj).1, by simp only [lastPull, h1, Option.getD_none]; exact (h.lp j hj).2⟩⟩

theorem TF.pull0 (h : TF c sk sr) : TF c (.up 0 .pull :: sk) sr :=
  ⟨⟨fun hd => (by simp [isData0] at hd), h.pok⟩, fun j hj => ⟨(h.lp j hj).1, by simp [lastPull, relS]⟩⟩

theorem TF.srcNeutral (h : TF c sk sr) (e : SrcEv Int) (h1 : ∀ j, relSrc j e = none) : TF c sk (e :: sr) :=
  ⟨h.pok, fun j hj => h.lp j (by simpa [lastPullSrc, h1] using hj)⟩

theorem TF.srcDown (h : TF c sk sr) (k : Nat) (d : Down Int) : TF c sk (.down k d :: sr) := by
  refine ⟨h.pok, fun j hj => ?_⟩
  by_cases hk : k = j
  · subst hk; simp [lastPullSrc, relSrc] at hj
  · exact h.lp j (by simpa [lastPullSrc, relSrc, hk] using hj)

theorem TF.pullSrc (h : TF c sk sr) (ha : lastPull 0 sk = true) : TF c sk (.up c .pull :: sr) := by
  refine ⟨h.pok, fun j hj => ?_⟩
  by_cases hk : c = j
  · exact ⟨hk.symm, ha⟩
  · exact h.lp j (by simpa [lastPullSrc, relSrc, hk] using hj)

theorem TF.out (h : TF c sk sr) (d : Down Int) (ha : isData0 (SinkEv.down 0 d) = true → lastPull 0 sk = true) (hf : AllF sr) :
    TF c (.down 0 d :: sk) sr :=
  ⟨⟨ha, h.pok⟩, fun j hj => by rw [hf j] at hj; cases hj⟩

theorem TF.recur (h : TF c sk sr) (hf : AllF sr) (c' : Nat) : TF c' sk sr :=
  ⟨h.pok, fun j hj => by rw [hf j] at hj; cases hj⟩

theorem allF_down (h : TF c sk sr) (d : Down Int) : AllF (.down c d :: sr) := by
  intro j
  by_cases hcj : c = j
  · subst hcj; simp [lastPullSrc, relSrc]
  · simp only [lastPullSrc, relSrc, if_neg hcj, Option.getD_none]
    cases hj : lastPullSrc j sr with
    | false => rfl
    | true => exact absurd (h.lp j hj).1.symm hcj

theorem AllF.neutral (hf : AllF sr) (e : SrcEv Int) (h1 : ∀ j, relSrc j e = none) : AllF (e :: sr) :=
  fun j => by simp only [lastPullSrc, h1, Option.getD_none]; exact hf j

theorem AllF.down (hf : AllF sr) (k : Nat) (d : Down Int) : AllF (.down k d :: sr) := by
  intro j
  by_cases hkj : k = j
  · subst hkj; simp [lastPullSrc, relSrc]
  · simp only [lastPullSrc, relSrc, if_neg hkj, Option.getD_none]; exact hf j

structure CndF (dem : Demand) (tr : List (Ev Int Int)) : Prop where
  c : FK.Cnd tr
  pi : ∀ j, POkSrc (j + 1) (srcEvs tr)
  ei : ∀ j, EOkSrc (j + 1) (srcEvs tr)
  dm : DemOk dem (sinkEvs tr)

theorem CndF.tail {dem : Demand} {e : Ev Int Int} {tr : List (Ev Int Int)} (h : CndF dem (e :: tr)) : CndF dem tr :=
  ⟨h.c.tail, fun j => pOkSrc_tail_ev (h.pi j), fun j => eOkSrc_tail_ev (h.ei j), h.dm.tail⟩

def NoSub (ph : Ph) : Prop := ∀ j, 1 ≤ j → ph.srcPh j ≠ .subscribed

def Fl (st : Flatten.St) (ph : Ph) (tr : List (Ev Int Int)) : List Fm → Prop
  | .run (.fwd _) :: _ => aP tr = true ∧ AllF (srcEvs tr) ∧ NoSub ph
  | .run .od0 :: _ => aP tr = true ∧ AllF (srcEvs tr)
  | .run .od1 :: _ => aP tr = true ∧ AllF (srcEvs tr)
  | .run (.ig0 _) :: _ => aP tr = true ∧ AllF (srcEvs tr) ∧ NoSub ph
  | .run .ig1 :: _ => aP tr = true ∧ AllF (srcEvs tr) ∧ NoSub ph
  | .run .it0 :: _ => aP tr = true ∧ AllF (srcEvs tr) ∧ NoSub ph
  | .run .it1 :: _ => aP tr = true ∧ AllF (srcEvs tr) ∧ NoSub ph
  | .run .it2 :: _ => aP tr = true ∧ AllF (srcEvs tr) ∧ NoSub ph
  | .run .ot0 :: _ => (st.inner = none → AllF (srcEvs tr)) ∧ NoSub ph
  | .run .p0 :: _ => aP tr = true ∧ NoSub ph
  | .run .p1 :: _ => aP tr = true ∧ NoSub ph
  | _ => True

theorem fl_wait {st : Flatten.St} {ph : Ph} {tr : List (Ev Int Int)} {stk : List Fm}
    (h : ∀ f ∈ stk, ∃ o l, f = Frame.wait o l) : Fl st ph tr stk :=
  of_waits (Fl st ph tr) h trivial fun _ _ _ => trivial

structure KF (dem : Demand) (s : FSys) : Prop where
  tf : TF (cur s.st) (sinkEvs s.tr) (srcEvs s.tr)
  pw : PullsWanted dem s.tr
  q : ∀ j, 1 ≤ j → s.g.ph.srcPh j = .subscribed → aP s.tr = true ∧ AllF (srcEvs s.tr)
  fl : Fl s.st s.g.ph s.tr s.stack

/-- in mode `live` no inner source is subscribed: each is the current one (live), dead, or not created yet -/
theorem noSub_of_live {st : Flatten.St} {g : Ph} {stk : List Fm} (H : Flatten.Live st g stk)
    (hidle : ∀ i, st.nextId ≤ i → g.srcPh i = .idle) : NoSub g := by
  intro j hj hs
  by_cases hlt : j < st.nextId
  · by_cases hin : st.inner = some j
    · rw [(H.cur j hin).2.2] at hs; cases hs
    · rcases H.old j (by omega) hlt hin with h | h <;> rw [h] at hs <;> cases hs
  · rw [hidle j (by omega)] at hs; cases hs

theorem cur_some {st : Flatten.St} {k : Nat} (h : st.inner = some k) : cur st = k := by simp [cur, h]
theorem cur_none {st : Flatten.St} (h : st.inner = none) : cur st = 0 := by simp [cur, h]

/-! A call of the operator: the frame left on top waits, so `Fl` asserts nothing there; an inner source is subscribed afterwards if it
was before or the call subscribes it. -/
section Call
variable {dem : Demand} {st : Flatten.St} {l l' : FL} {stk : List Fm} {g : G} {tr : List (Ev Int Int)} {o : Out Int}

theorem KF.call (h : KF dem ⟨st, .run l :: stk, g, tr, none⟩) (s' : Flatten.St) (hc : cur s' = cur st)
    (tf : TF (cur st) (sinkEvs (.out o :: tr)) (srcEvs (.out o :: tr)))
    (hw : ∀ j, o = .srcUp j .pull → wants dem (recvData 0 tr).length)
    (q : ∀ j, 1 ≤ j → g.ph.srcPh j = .subscribed ∨ o = .subSrc j → aP (.out o :: tr) = true ∧ AllF (srcEvs (.out o :: tr))) :
    KF dem ⟨s', .wait o l' :: stk, g.onOut (Flatten.machine Int).shape o, .out o :: tr, none⟩ :=
  ⟨hc ▸ tf, ⟨fun ⟨j, e⟩ => hw j (Ev.out.inj e), h.pw⟩,
    fun j hj hs => q j hj (onOut_srcPh_subscribed g.ph o j (onOut_ph _ g o ▸ hs)), trivial⟩

theorem KF.q_keep (h : KF dem ⟨st, .run l :: stk, g, tr, none⟩) (hno : ∀ i, 1 ≤ i → o ≠ .subSrc i)
    (hap : aP (.out o :: tr) = aP tr) (hall : AllF (srcEvs tr) → AllF (srcEvs (.out o :: tr))) (j : Nat) (hj : 1 ≤ j)
    (hs : g.ph.srcPh j = .subscribed ∨ o = .subSrc j) : aP (.out o :: tr) = true ∧ AllF (srcEvs (.out o :: tr)) :=
  hs.elim (fun hs => ⟨hap ▸ (h.q j hj hs).1, hall (h.q j hj hs).2⟩) fun hs => absurd hs (hno j hj)

theorem q_none (hns : NoSub g.ph) (hno : ∀ i, o ≠ .subSrc i) {P : Prop} (j : Nat) (hj : 1 ≤ j)
    (hs : g.ph.srcPh j = .subscribed ∨ o = .subSrc j) : P :=
  hs.elim (fun hs => absurd hs (hns j hj)) fun hs => absurd hs (hno j)

theorem KF.pull (h : KF dem ⟨st, .run l :: stk, g, tr, none⟩) (hd : DemOk dem (sinkEvs tr)) {k : Nat} (hk : cur st = k)
    (hap : aP tr = true) (hns : NoSub g.ph) :
    KF dem ⟨st, .wait (.srcUp k .pull) l' :: stk, g.onOut (Flatten.machine Int).shape (.srcUp k .pull : Out Int),
      .out (.srcUp k .pull) :: tr, none⟩ :=
  h.call st rfl (hk ▸ h.tf.pullSrc hap) (fun _ _ => recvData_eq 0 tr ▸ wants_of_lastPull hd hap) (q_none hns fun _ e => by cases e)

theorem KF.deliver (h : KF dem ⟨st, .run l :: stk, g, tr, none⟩) (d : Down Int)
    (ha : isData0 (SinkEv.down 0 d) = true → aP tr = true) (hf : AllF (srcEvs tr)) (hns : NoSub g.ph) :
    KF dem ⟨st, .wait (.down 0 d) l' :: stk, g.onOut (Flatten.machine Int).shape (.down 0 d), .out (.down 0 d) :: tr, none⟩ :=
  h.call st rfl (h.tf.out d ha hf) (fun _ e => by cases e) (q_none hns fun _ e => by cases e)

theorem KF.inp {i : In Int} (h : KF dem ⟨st, stk, g, tr, none⟩) (tf : TF (cur st) (sinkEvs (.inp i :: tr)) (srcEvs (.inp i :: tr)))
    (q : ∀ j, 1 ≤ j → (g.onIn stk.length i).ph.srcPh j = .subscribed → aP (.inp i :: tr) = true ∧ AllF (srcEvs (.inp i :: tr)))
    (fl : Fl st (g.onIn stk.length i).ph (.inp i :: tr) (.run (Flatten.enter i) :: stk)) :
    KF dem ⟨st, .run (Flatten.enter i) :: stk, g.onIn stk.length i, .inp i :: tr, none⟩ :=
  ⟨tf, ⟨fun ⟨_, e⟩ => (nomatch e), h.pw⟩, q, fl⟩

end Call

theorem KF_reach (dem : Demand) : ∀ s, SReach (Flatten.machine Int) s → CndF dem s.tr → KF dem s := by
  refine FK.reach_ind (fun s => CndF dem s.tr → KF dem s) ?_ ?_ ?_ ?_ ?_ ?_
  · intro _
    exact ⟨⟨trivial, fun j h => by simp [Sys.init, srcEvs, lastPullSrc] at h⟩, trivial,
      fun j _ h => by simp [Sys.init] at h, trivial⟩
  · intro st l stk g tr s' l' ha ih h hC
    obtain ⟨htf, hpw, hq, hfl⟩ := ih hC
    obtain ⟨hk1, hf1, _⟩ := E1_reach _ ha hC.c
    cases h with
    | og0 => exact ⟨htf, hpw, hq, trivial⟩
    | od0 h => exact ⟨htf, hpw, hq, hfl⟩
    | oe0 h => exact hf1.elim
    | ot0 h => exact ⟨htf, hpw, hq, trivial⟩
    | ig0 => exact ⟨htf.recur hfl.2.1 _, hpw, hq, hfl⟩
    | ie0 h => exact hf1.elim
    | it0 h => exact ⟨htf, hpw, hq, hfl⟩
    | it1 => exact ⟨htf.recur hfl.2.1 _, hpw, hq, hfl⟩
    | p0 h => exact ⟨htf, hpw, hq, hfl⟩
    | x0 h => exact ⟨htf, hpw, hq, trivial⟩
  · intro st l stk g tr o s' l' ha ih h _ hC
    have hK := ih hC.tail
    have hfl := hK.fl
    obtain ⟨_, hf1, _⟩ := E1_reach _ ha hC.tail.c
    cases h with
    | sub0 =>
      exact hK.call _ rfl (hK.tf.srcNeutral _ fun _ => rfl) (fun _ e => nomatch e)
        (hK.q_keep (fun i hi e => by cases e; exact absurd hi (by decide)) rfl fun h => h.neutral _ fun _ => rfl)
    | og1 => exact hK.call _ rfl (hK.tf.sinkNeutral _ rfl rfl) (fun _ e => nomatch e) (hK.q_keep (fun _ _ e => nomatch e) rfl id)
    | od0 h => simp only [Fl1] at hf1; rw [hf1.1] at h; cases h
    | od1 =>
      exact hK.call _ rfl (hK.tf.srcNeutral _ fun _ => rfl) (fun _ e => nomatch e)
        fun _ _ _ => ⟨hfl.1, hfl.2.neutral _ fun _ => rfl⟩
    | oe0 h | oe1 | ie0 h | ie1 => exact hf1.elim
    | ot0 h => exact hK.deliver _ (fun hd => by simp [isData0] at hd) (hfl.1 h) hfl.2
    | ig1 h => exact hK.pull hC.tail.dm (cur_some h) hfl.1 hfl.2.2
    | fwd => exact hK.deliver _ (fun _ => hfl.1) hfl.2.1 hfl.2.2
    | it0 h => exact hK.deliver _ (fun hd => by simp [isData0] at hd) hfl.2.1 hfl.2.2
    | it2 h => exact hK.pull hC.tail.dm (cur_none hf1.2) hfl.1 hfl.2.2
    | p0 h => exact hK.pull hC.tail.dm (cur_some h) hfl.1 hfl.2
    | p1 h => exact hK.pull hC.tail.dm (cur_none hf1.1) hfl.1 hfl.2
    | x0 h | x1 h =>
      exact hK.call _ rfl (hK.tf.srcNeutral _ fun _ => rfl) (fun _ e => nomatch e)
        (hK.q_keep (fun _ _ e => nomatch e) rfl fun h => h.neutral _ fun _ => rfl)
  · intro st l stk g tr _ ih _ hw hC
    obtain ⟨htf, hpw, hq, _⟩ := ih hC.tail
    exact ⟨htf, ⟨fun ⟨j, h⟩ => (nomatch h), hpw⟩, fun j hj hs => hq j hj (onRetO_ph g _ ▸ hs), fl_wait hw⟩
  · intro st stk g tr c i _ ih _ hl hidle hok hC
    have hK := ih hC.tail
    have htf := hK.tf
    have hq := hK.q
    cases i with
    | subscribe k =>
      refine hK.inp (htf.sinkNeutral _ rfl rfl) (fun j hj hs => ?_) trivial
      simp only [onIn_ph, Ph.onIn, Ph.srcPh_setSink] at hs
      exact hq j hj hs
    | sinkUp k u =>
      obtain ⟨rfl, H⟩ := hok
      have hns := noSub_of_live H hidle
      cases u with
      | pull =>
        refine hK.inp htf.pull0 (fun j hj hs => ?_) ⟨aP_sinkPull tr, by rw [onIn_ph]; exact hns⟩
        simp only [onIn_ph, Ph.onIn] at hs
        exact absurd hs (hns j hj)
      | term =>
        refine hK.inp (htf.sinkNeutral _ rfl rfl) (fun j hj hs => ?_) trivial
        simp only [onIn_ph, Ph.onIn, Ph.srcPh_setSink] at hs
        exact absurd hs (hns j hj)
      | err e =>
        refine hK.inp (htf.sinkNeutral _ rfl rfl) (fun j hj hs => ?_) trivial
        simp only [onIn_ph, Ph.onIn, Ph.srcPh_setSink] at hs
        exact absurd hs (hns j hj)
    | srcGreet i =>
      have hsub := legal_srcGreet hl
      have hq' : ∀ j, 1 ≤ j → (g.onIn stk.length (In.srcGreet i : In Int)).ph.srcPh j = .subscribed →
          j ≠ i ∧ g.ph.srcPh j = .subscribed := by
        intro j hj hs
        simp only [onIn_ph, Ph.onIn, Ph.srcPh_setSrc] at hs
        split at hs
        · cases hs
        · exact ⟨‹_›, hs⟩
      have htf' := htf.srcNeutral (SrcEv.greet i) fun _ => rfl
      have hqn : ∀ j, 1 ≤ j → (g.onIn stk.length (In.srcGreet i : In Int)).ph.srcPh j = .subscribed →
          aP (Ev.inp (In.srcGreet i) :: tr) = true ∧ AllF (srcEvs (Ev.inp (In.srcGreet i) :: tr)) := by
        intro j hj hs
        obtain ⟨h1, h2⟩ := hq j hj (hq' j hj hs).2
        exact ⟨h1, h2.neutral _ (fun j => rfl)⟩
      cases i with
      | zero => exact hK.inp htf' hqn trivial
      | succ i' =>
        refine hK.inp htf' hqn ?_
        obtain ⟨h1, h2⟩ := hq (i' + 1) (by omega) hsub
        refine ⟨h1, h2.neutral _ (fun j => rfl), ?_⟩
        intro j hj hs
        obtain ⟨hne, hs'⟩ := hq' j hj hs
        -- inside the subscription of `i' + 1` the inner sources before it are dead, those after it not created
        obtain ⟨_, _, hn, _, hd, _⟩ := hok
        rcases Nat.lt_or_gt_of_ne hne with hlt | hgt
        · rcases hd j hj hlt with h | h <;> rw [h] at hs' <;> cases hs'
        · rw [hidle j (by omega)] at hs'; cases hs'
    | srcDown i d =>
      have hns : NoSub g.ph := by
        cases i <;> exact noSub_of_live hok.2 hidle
      have hns' : NoSub (g.onIn stk.length (In.srcDown i d : In Int)).ph := by
        intro j hj hs
        apply hns j hj
        cases d <;> simp only [onIn_ph, Ph.onIn, Ph.srcPh_setSrc] at hs
        · exact hs
        all_goals (split at hs; cases hs; exact hs)
      have htf' := htf.srcDown i d
      have hqn : ∀ j, 1 ≤ j → (g.onIn stk.length (In.srcDown i d : In Int)).ph.srcPh j = .subscribed →
          aP (Ev.inp (In.srcDown i d) :: tr) = true ∧ AllF (srcEvs (Ev.inp (In.srcDown i d) :: tr)) :=
        fun j hj hs => absurd hs (hns' j hj)
      have hapn : aP (Ev.inp (In.srcDown i d) :: tr) = aP tr := aP_cons _ tr
      have answered : lastPullSrc i (srcEvs tr) = true →
          aP (Ev.inp (In.srcDown i d) :: tr) = true ∧ AllF (srcEvs (Ev.inp (In.srcDown i d) :: tr)) := by
        intro hb
        exact ⟨hapn ▸ (htf.lp i hb).2, (htf.lp i hb).1 ▸ allF_down htf d⟩
      cases d with
      | err e => exact absurd ⟨i, e, by simp [srcEvs, srcEv]⟩ hC.c.2
      | data x =>
        cases i with
        | zero =>
          have hb : lastPullSrc 0 (srcEvs tr) = true := by
            have := hC.c.1; simp only [srcEvs, srcEv, consOpt_some] at this; exact this.1 (by simp [isDataJ])
          exact hK.inp htf' hqn (answered hb)
        | succ i' =>
          have hb : lastPullSrc (i' + 1) (srcEvs tr) = true := by
            have := hC.pi i'; simp only [srcEvs, srcEv, consOpt_some] at this; exact this.1 (by simp [isDataJ])
          obtain ⟨a1, a2⟩ := answered hb
          exact hK.inp htf' hqn ⟨a1, a2, hns'⟩
      | term =>
        cases i with
        | zero =>
          exact hK.inp htf' hqn ⟨fun hin => cur_none hin ▸ allF_down htf Down.term, hns'⟩
        | succ i' =>
          have hb : lastPullSrc (i' + 1) (srcEvs tr) = true := by
            have := hC.ei i'; simp only [srcEvs, srcEv, consOpt_some] at this; exact this.1 (by simp [isEndJ])
          obtain ⟨a1, a2⟩ := answered hb
          exact hK.inp htf' hqn ⟨a1, a2, hns'⟩
  · intro st stk g tr o l ha ih _ _ hC
    obtain ⟨htf, hpw, hq, hfl⟩ := ih hC.tail
    obtain ⟨_, _, hnw⟩ := E1_reach _ ha hC.tail.c
    refine ⟨htf, ⟨fun ⟨j, h⟩ => (nomatch h), hpw⟩, hq, ?_⟩
    rcases hnw o l List.mem_cons_self with rfl | rfl <;> trivial

/-- the handler `ot0` is entered from the environment only: no step of `flatten` leads to it and no call continues in it -/
theorem ot0_entered {st : Flatten.St} {stk : List Fm} {g : G} {tr : List (Ev Int Int)}
    (ha : SReach (Flatten.machine Int) ⟨st, .run .ot0 :: stk, g, tr, none⟩) (hC : FK.Cnd tr) :
    ∃ g0 tr0, tr = .inp (.srcDown 0 .term) :: tr0 ∧ SReach (Flatten.machine Int) ⟨st, stk, g0, tr0, none⟩ := by
  generalize hb : (⟨st, .run .ot0 :: stk, g, tr, none⟩ : FSys) = b at ha
  cases ha with
  | init => simp [Sys.init] at hb
  | @step a _ ha' hab =>
    cases hab with
    | op h =>
      cases oStep_of_opStep h with
      | tau hst =>
        injection hb with _ h2
        injection h2 with h2
        injection h2 with h2
        subst h2
        cases Flatten.Edge.of hst
      | call hst => injection hb with _ h2; injection h2 with h2; cases h2
      | ret hst =>
        injection hb with _ h2
        obtain ⟨o, l, hf⟩ := pop_turn _ ha' (.run .ot0) (h2 ▸ List.mem_cons_self)
        cases hf
      | panic hst => injection hb with _ _ _ _ h5; cases h5
    | env h _ =>
      cases h with
      | @call st' stk' g' tr' c i hc hl =>
        injection hb with h1 h2 h3 h4
        injection h2 with h2 h2'
        injection h2 with h2
        subst h1 h2' h4
        refine ⟨g', tr', ?_, ha'⟩
        cases i with
        | subscribe k => cases h2
        | sinkUp k u => cases u <;> cases h2
        | srcGreet k => cases k <;> cases h2
        | srcDown k d => cases k <;> cases d <;> first | rfl | cases h2
      | @ret st' stk' g' tr' o l hl =>
        injection hb with h1 h2 h3 h4
        injection h2 with h2 h2'
        injection h2 with h2
        subst h1 h2 h2' h4
        rcases (E1_reach _ ha' hC.tail).2.2 o _ List.mem_cons_self with h | h <;> cases h

/-- the terminal reaches the sink only in answer to a `Pull`, if the outer source ends only when pulled: a property of the two calls
`.down 0 .term` — from `it0`, under the unserved `Pull` that `KF.fl` records, and from `ot0`, which runs right after the outer terminal
came in (`ot0_entered`), in answer to a `Pull` that was sent under an unserved `Pull` of the sink (`TF.lp`) -/
theorem flat_eok (dem : Demand) :
    ∀ s, SReach (Flatten.machine Int) s → CndF dem s.tr ∧ EOkSrc 0 (srcEvs s.tr) → EOk (sinkEvs s.tr) :=
  eOk_reach (Flatten.machine Int) (fun tr => CndF dem tr ∧ EOkSrc 0 (srcEvs tr)) (fun _ _ h => ⟨h.1.tail, eOkSrc_tail_ev h.2⟩)
    fun st l stk g tr s' l' ha hst hC => by
      cases Flatten.Edge.of hst with
      | it0 h => exact (KF_reach dem _ ha hC.1).fl.1
      | ot0 h =>
        obtain ⟨g0, tr0, rfl, ha0⟩ := ot0_entered ha hC.1.c
        have hb : lastPullSrc 0 (srcEvs tr0) = true := hC.2.1 rfl
        exact ((KF_reach dem _ ha0 hC.1.tail).tf.lp 0 hb).2

section Network
open ComposeFull
variable {So Lo Si Li αo αi : Type} {Mo : Machine So Lo αo Int} {Mi : Machine Si Li αi Int} {initOf : Int → Si}

theorem flat_proj {ys : List Int} {g : Int → List Int} (hO : HeadOkT Mo ys) (NO : NoUpstream Mo) (PO : PullOnly Mo)
    (hI : ∀ a, HeadOkT (atInit Mi (initOf a)) (g a)) (NI : ∀ a, NoUpstream (atInit Mi (initOf a))) :
    ∀ s, SReach (flatPlug Mo Mi initOf) s → ∃ sO sF fam, ProjF Mo Mi initOf s sO sF fam :=
  projF ⟨hO.head.up, NO, fun a => (hI a).head.up, NI⟩ PO hO.noErr (fun a => (hI a).noErr)

theorem cndF_of_proj {s : NSys So Lo Si Li} {sO : Sys So Lo αo Int} {sF : FSys} {fam : Fam Si Li αi}
    (hp : ProjF Mo Mi initOf s sO sF fam) (PI : ∀ a, PullOnly (atInit Mi (initOf a))) (EI : ∀ a, EndOnPull (atInit Mi (initOf a)))
    {dem : Demand} (hd : DemOk dem (sinkEvs s.tr)) : CndF dem sF.tr := by
  refine ⟨hp.c, fun j => ?_, fun j => ?_, hp.t.sink ▸ hd⟩
  · cases hf : fam (j + 1) with
    | none => exact pOkSrc_of_srcEq _ _ (srcEq_of_none hp.t hf ▸ trivial)
    | some p => exact (hp.ifcI hf).pOk (PI p.1 p.2 (hp.m.inner.rI _ _ _ hf))
  · cases hf : fam (j + 1) with
    | none => exact eOkSrc_of_srcEq _ _ (srcEq_of_none hp.t hf ▸ trivial)
    | some p => exact (hp.ifcI hf).eOk (EI p.1 p.2 (hp.m.inner.rI _ _ _ hf))

/-- **`flatten(map(g)(outer))` is `PullOnly`** when the outer source is and the inner sources deliver and end only when pulled
(`from_iter`, and anything take-free over it).  Not so for inner sources that end on their own (`take`): the execution in the header
of `Inv/FlatPlugFun.lean`. -/
theorem flatPlug_pullOnly {ys : List Int} {g : Int → List Int} (hO : HeadOkT Mo ys) (NO : NoUpstream Mo) (PO : PullOnly Mo)
    (hI : ∀ a, HeadOkT (atInit Mi (initOf a)) (g a)) (NI : ∀ a, NoUpstream (atInit Mi (initOf a)))
    (PI : ∀ a, PullOnly (atInit Mi (initOf a))) (EI : ∀ a, EndOnPull (atInit Mi (initOf a))) :
    PullOnly (flatPlug Mo Mi initOf) := by
  intro s hs
  obtain ⟨sO, sF, fam, hp⟩ := flat_proj hO NO PO hI NI s hs
  rw [hp.t.sink]
  exact (KF_reach none sF hp.rF (cndF_of_proj hp PI EI (demOk_none _))).tf.pok

/-- under a sink that obeys `dem`, every `Pull` that the `flatten` inside the network sends to the outer source or to an inner source is
sent while the sink still wants items -/
theorem flatPlug_pullsWanted {ys : List Int} {g : Int → List Int} (hO : HeadOkT Mo ys) (NO : NoUpstream Mo) (PO : PullOnly Mo)
    (hI : ∀ a, HeadOkT (atInit Mi (initOf a)) (g a)) (NI : ∀ a, NoUpstream (atInit Mi (initOf a)))
    (PI : ∀ a, PullOnly (atInit Mi (initOf a))) (EI : ∀ a, EndOnPull (atInit Mi (initOf a))) (dem : Demand) :
    ∀ s, SReach (flatPlug Mo Mi initOf) s → DemOk dem (sinkEvs s.tr) →
      ∃ sO sF fam, ProjF Mo Mi initOf s sO sF fam ∧ KF dem sF := by
  intro s hs hd
  obtain ⟨sO, sF, fam, hp⟩ := flat_proj hO NO PO hI NI s hs
  exact ⟨sO, sF, fam, hp, KF_reach dem sF hp.rF (cndF_of_proj hp PI EI hd)⟩

end Network

end FlatDemand
end Cb

#print axioms Cb.FlatDemand.KF_reach
#print axioms Cb.FlatDemand.flatPlug_pullOnly
#print axioms Cb.FlatDemand.flatPlug_pullsWanted
