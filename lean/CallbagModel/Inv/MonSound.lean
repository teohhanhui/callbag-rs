import CallbagModel.Sem
import CallbagModel.Mon
/-!
# The machine-free monitor computes the ghost of the configuration

`monRun sh evs` (Mon.lean) judges traces recorded from the real crate; the theorems of the project are about the ghost `s.g`
carried by `Sys`.  Here: on every model execution (`SReach`, conformant environment) the two are the same function of the
boundary trace — `(monRun M.shape s.tr.reverse).g = s.g`, the monitor never rejects the trace (`envOk`, `shapeOk`), never
classifies a call as cross-peer (`cross = 0`, `wide = 0`) and sees a panic exactly when the model panicked.

The monitor's abstract call stack `cs` relates to the model's stack by `absStk`: the model keeps ONE frame per open operator
handler (`.run l`, replaced by `.wait o l'` while the handler waits for a call it made), the monitor pushes `.op` at the call
and `.env o` ON TOP of it for the call made.  Hence `.run _ ↦ [.op]`, `.wait o _ ↦ [.env o, .op]`, and `opHeight` (which counts
only `.op`) is the LENGTH of the model's stack: the heights given to `G.onIn` / `G.onRetO` agree.
-/
namespace Cb

variable {St Loc α β : Type}

def absStk : List (Frame Loc β) → List (CFrame β)
  | [] => []
  | .run _ :: r => .op :: absStk r
  | .wait o _ :: r => .env o :: .op :: absStk r

theorem opHeight_absStk (stk : List (Frame Loc β)) : opHeight (absStk stk) = stk.length := by
  induction stk with
  | nil => rfl
  | cons f r ih => cases f <;> simp [absStk, opHeight, ih]

theorem ctxOfC_absStk (stk : List (Frame Loc β)) : ctxOfC (absStk stk) = ctxOf stk := by
  cases stk with
  | nil => rfl
  | cons f r => cases f <;> rfl

theorem monRun_snoc (sh : Shape) (evs : List (Ev α β)) (e : Ev α β) :
    monRun sh (evs ++ [e]) = monStep sh (monRun sh evs) e := by
  simp [monRun, List.foldl_append]

theorem legalInX_of_legalIn {sh : Shape} {g : Ph} {c : Ctx β} {i : In α} (h : legalIn sh g c i = true) :
    legalInX sh g c i = true ∧ isCross sh g c i = false ∧ isWide sh g c i = false := by
  simp [legalInX, isCross, isWide, h]

structure MonRel (m : MonSt β) (s : Sys St Loc α β) : Prop where
  g : m.g = s.g
  envOk : m.envOk = true
  shapeOk : m.shapeOk = true
  panicked : m.panicked = s.panicked.isSome
  cross : m.cross = 0
  wide : m.wide = 0
  /-- while the model has not panicked (a panic pops the frame in the model, not in the monitor; both stop there) -/
  cs : s.panicked = none → m.cs = absStk s.stack

theorem MonRel.init (M : Machine St Loc α β) : MonRel (α := α) ({} : MonSt β) (Sys.init M) :=
  ⟨rfl, rfl, rfl, rfl, rfl, rfl, fun _ => rfl⟩

theorem MonRel.live {m : MonSt β} {s : Sys St Loc α β} (hr : MonRel m s) (hp : s.panicked = none) :
    (!m.envOk || !m.shapeOk || m.panicked) = false := by
  rw [hr.envOk, hr.shapeOk, hr.panicked, hp]; rfl

theorem MonRel.opStep {M : Machine St Loc α β} {m : MonSt β} {a b : Sys St Loc α β} (hr : MonRel m a) (h : opStep M a = some b) :
    (b.tr = a.tr ∧ MonRel m b) ∨ ∃ e, b.tr = e :: a.tr ∧ MonRel (monStep M.shape m e) b := by
  obtain ⟨hp, l, r, hstk, rfl⟩ := opStep_eq_some h
  have hcs : m.cs = .op :: absStk r := by rw [hr.cs hp, hstk, absStk]
  cases M.step a.st l with
  | tau s' l' => exact .inl ⟨rfl, hr.g, hr.envOk, hr.shapeOk, hr.panicked, hr.cross, hr.wide, fun _ => hcs⟩
  | call o s' l' =>
    refine .inr ⟨.out o, rfl, ?_⟩
    simp only [monStep, hr.live hp, hcs, Bool.false_eq_true, ↓reduceIte]
    exact ⟨hr.g ▸ rfl, hr.envOk, hr.shapeOk, hr.panicked, hr.cross, hr.wide, fun _ => rfl⟩
  | ret =>
    refine .inr ⟨.retO, rfl, ?_⟩
    simp only [monStep, hr.live hp, hcs, Bool.false_eq_true, ↓reduceIte, opHeight_absStk]
    exact ⟨hr.g ▸ rfl, hr.envOk, hr.shapeOk, hr.panicked, hr.cross, hr.wide, fun _ => rfl⟩
  | panic msg =>
    refine .inr ⟨.panic, rfl, ?_⟩
    simp only [monStep, hr.live hp, Bool.false_eq_true, ↓reduceIte]
    exact ⟨hr.g, hr.envOk, hr.shapeOk, rfl, hr.cross, hr.wide, fun hn => nomatch hn⟩

theorem MonRel.envStep {M : Machine St Loc α β} {m : MonSt β} {mv : Move α} {a b : Sys St Loc α β} (hr : MonRel m a)
    (h : EnvStep M mv a b) : ∃ e, b.tr = e :: a.tr ∧ MonRel (monStep M.shape m e) b := by
  cases h with
  | @call st stk g tr c i hctx hl =>
    have hcs : m.cs = absStk stk := hr.cs rfl
    have hg : m.g = g := hr.g
    obtain ⟨hx, hcr, hwd⟩ := legalInX_of_legalIn hl
    refine ⟨.inp i, rfl, ?_⟩
    simp only [monStep, hr.live rfl, hcs, hg, ctxOfC_absStk, hctx, hx, hcr, hwd, opHeight_absStk, Bool.false_eq_true, ↓reduceIte,
      Nat.add_zero]
    exact ⟨rfl, hr.envOk, hr.shapeOk, hr.panicked, hr.cross, hr.wide, fun _ => rfl⟩
  | @ret st stk g tr o l hl =>
    have hcs : m.cs = .env o :: .op :: absStk stk := hr.cs rfl
    have hg : m.g = g := hr.g
    refine ⟨.retE, rfl, ?_⟩
    simp only [monStep, hr.live rfl, hcs, hg, hl, Bool.false_eq_true, ↓reduceIte]
    exact ⟨rfl, hr.envOk, hr.shapeOk, hr.panicked, hr.cross, hr.wide, fun _ => rfl⟩

theorem monRel_of_reach (M : Machine St Loc α β) (R : Restr St Loc α β) :
    ∀ s, SReachR M R s → MonRel (monRun M.shape s.tr.reverse) s := by
  refine SReachR.ind _ (MonRel.init M) (fun a b _ ih h => ?_) (fun a b m _ ih h _ => ?_)
  · rcases ih.opStep h with ⟨htr, hr⟩ | ⟨e, htr, hr⟩
    · rw [htr]; exact hr
    · rw [htr, List.reverse_cons, monRun_snoc]; exact hr
  · obtain ⟨e, htr, hr⟩ := ih.envStep h
    rw [htr, List.reverse_cons, monRun_snoc]; exact hr

/-- **Soundness of the machine-free monitor.**  On every execution of the model under the conformant environment, `monRun` applied to
the recorded boundary trace (chronological) computes exactly the ghost carried by the configuration, accepts the trace
(`envOk`, `shapeOk`), reports a panic iff the model panicked, and counts no cross-peer call. -/
theorem monRun_sound (M : Machine St Loc α β) :
    ∀ s, SReach M s →
      let m := monRun M.shape s.tr.reverse
      m.g = s.g ∧ m.envOk = true ∧ m.shapeOk = true ∧ m.panicked = s.panicked.isSome ∧ m.cross = 0 ∧ m.wide = 0 := by
  intro s hs
  have h := monRel_of_reach M anyEnv s hs
  exact ⟨h.g, h.envOk, h.shapeOk, h.panicked, h.cross, h.wide⟩

theorem monRun_cs (M : Machine St Loc α β) :
    ∀ s, SReach M s → s.panicked = none → (monRun M.shape s.tr.reverse).cs = absStk s.stack :=
  fun s hs hp => (monRel_of_reach M anyEnv s hs).cs hp

/-- the violations recorded by the machine-free monitor are those of the configuration (no hypothesis on `panicked` is needed: a
panic records nothing in the ghost, on either side) -/
theorem monRun_viols (M : Machine St Loc α β) :
    ∀ s, SReach M s → (monRun M.shape s.tr.reverse).g.viols = s.g.viols :=
  fun s hs => by rw [(monRun_sound M s hs).1]

theorem monRun_viols_of_not_panicked (M : Machine St Loc α β) :
    ∀ s, SReach M s → s.panicked = none → (monRun M.shape s.tr.reverse).g.viols = s.g.viols :=
  fun s hs _ => monRun_viols M s hs

theorem monRun_panicked_eq_false_iff (M : Machine St Loc α β) :
    ∀ s, SReach M s → ((monRun M.shape s.tr.reverse).panicked = false ↔ s.panicked = none) := by
  intro s hs
  rw [(monRel_of_reach M anyEnv s hs).panicked, Option.isSome_eq_false_iff, Option.isNone_iff_eq_none]

theorem safeFor_iff_monRun (M : Machine St Loc α β) (p : Nat) :
    ∀ s, SReach M s →
      (SafeFor p s ↔
        (∀ v ∈ (monRun M.shape s.tr.reverse).g.viols, v.prop ≠ p) ∧ (p = 17 → (monRun M.shape s.tr.reverse).panicked = false)) := by
  intro s hs
  rw [monRun_viols M s hs, monRun_panicked_eq_false_iff M s hs]
  exact Iff.rfl

theorem safe_iff_monRun (M : Machine St Loc α β) :
    ∀ s, SReach M s →
      (Safe s ↔ (monRun M.shape s.tr.reverse).g.viols = [] ∧ (monRun M.shape s.tr.reverse).panicked = false) := by
  intro s hs
  rw [monRun_viols M s hs, monRun_panicked_eq_false_iff M s hs]
  exact Iff.rfl

end Cb

#print axioms Cb.monRun_sound
#print axioms Cb.monRun_viols
#print axioms Cb.safeFor_iff_monRun
#print axioms Cb.safe_iff_monRun
