import CallbagModel.Inv.Ghost2
import CallbagModel.Inv.Runs
import CallbagModel.Ops.Concat
/-!
# concat: the phase-level safety invariant (every member count `n ≥ 1`)

Every call of this machine is a tail call, so every frame is `wait _ .done` and carries no assumption (`Quiet`).  The
members are subscribed strictly one after another: sources `< st.i` are ended, sources `> st.i` are idle, and the stale
talkback in the slot (between a member's `Terminate` and the next member's greeting) is never used because the sink has no
control while the top frame is `wait (subSrc _) _`.
-/
namespace Cb.Concat

variable {α : Type}

/-- the only continuations of this machine: return at once -/
def Quiet : Frame (Loc α) α → Prop
  | .wait _ .done => True
  | _ => False

inductive Mode (n : Nat) (st : St) (g : Ph) (stk : List (Frame (Loc α) α)) : Prop where
  | idle : g.sinkPh 0 = .idle → (∀ j, g.srcPh j = .idle) → st.i = 0 → stk = [] → Mode n st g stk
  | waiting : st.i < n → g.srcPh st.i = .subscribed →
      (∀ j, j < st.i → g.srcPh j = .ended) → (∀ j, st.i < j → g.srcPh j = .idle) →
      (st.i = 0 → g.sinkPh 0 = .subscribed) → (st.i ≠ 0 → g.sinkPh 0 = .live) →
      (∃ rest, stk = .wait (.subSrc st.i) .done :: rest ∧ ∀ f ∈ rest, Quiet f) → Mode n st g stk
  | live : st.i < n → st.slot = some st.i → g.sinkPh 0 = .live → g.srcPh st.i = .live →
      (∀ j, j < st.i → g.srcPh j = .ended) → (∀ j, st.i < j → g.srcPh j = .idle) →
      (∀ f ∈ stk, Quiet f) → Mode n st g stk
  | over : (g.sinkPh 0 = .doneBySelf ∨ g.sinkPh 0 = .doneBySrc) →
      (∀ j, g.srcPh j ≠ .live ∧ g.srcPh j ≠ .subscribed) →
      (∀ f ∈ stk, Quiet f) → Mode n st g stk

def Inv (n : Nat) (s : Sys St (Loc α) α α) : Prop :=
  s.panicked = none ∧ s.g.ph.viols = [] ∧ (∀ k, k ≠ 0 → s.g.ph.sinkPh k = .idle) ∧ Mode n s.st s.g.ph s.stack

theorem inv_turn (n : Nat) (s : Sys St (Loc α) α α) (h : Inv n s) : EnvTurn s ∧ BasicSafe s := by
  obtain ⟨hp, hb, _, hm⟩ := h
  refine ⟨⟨hp, ?_⟩, hb, hp⟩
  cases hm with
  | idle _ _ _ h => simp [h, ctxOf]
  | waiting _ _ _ _ _ _ h => obtain ⟨_, h, _⟩ := h; simp [h, ctxOf]
  | live _ _ _ _ _ _ h => exact ctx_isSome_of_waits (fun _ => id) h
  | over _ _ h => exact ctx_isSome_of_waits (fun _ => id) h

theorem cons_done {o : Out α} {stk : List (Frame (Loc α) α)} (h : ∀ f ∈ stk, Quiet f) :
    ∀ f ∈ (Frame.wait o Loc.done : Frame (Loc α) α) :: stk, Quiet f :=
  List.forall_mem_cons.2 ⟨by simp [Quiet], h⟩

variable {n : Nat}

theorem Inv.sink_ne_idle {s : Sys St (Loc α) α α} (h : Inv n s) (hs : s.stack ≠ []) : s.g.ph.sinkPh 0 ≠ .idle := by
  obtain ⟨_, _, _, hm⟩ := h
  cases hm with
  | idle _ _ _ h => exact absurd h hs
  | waiting _ _ _ _ h5 h6 _ =>
    by_cases h0 : s.st.i = 0
    · simp [h5 h0]
    · simp [h6 h0]
  | live _ _ h3 => simp [h3]
  | over h1 => rcases h1 with h1 | h1 <;> simp [h1]

theorem cur_of_phase {i j : Nat} {g : Ph} (hlt : ∀ j, j < i → g.srcPh j = .ended) (hgt : ∀ j, i < j → g.srcPh j = .idle)
    (hj : g.srcPh j = .live ∨ g.srcPh j = .subscribed) : j = i := by
  rcases Nat.lt_trichotomy j i with h | h | h
  · rw [hlt j h] at hj; rcases hj with hj | hj <;> cases hj
  · exact h
  · rw [hgt j h] at hj; rcases hj with hj | hj <;> cases hj

theorem done_of_quiet {o : Out α} {l : Loc α} {stk : List (Frame (Loc α) α)}
    (h : ∀ f ∈ (Frame.wait o l : Frame (Loc α) α) :: stk, Quiet f) : l = .done ∧ ∀ f ∈ stk, Quiet f := by
  have h1 := (List.forall_mem_cons.1 h).1
  refine ⟨?_, (List.forall_mem_cons.1 h).2⟩
  cases l <;> simp [Quiet] at h1 ⊢

theorem members_setSrc {g : Ph} {i : Nat} (p : SrcPh) (hlt : ∀ j, j < i → g.srcPh j = .ended)
    (hgt : ∀ j, i < j → g.srcPh j = .idle) :
    (∀ j, j < i → (g.setSrc i p).srcPh j = .ended) ∧ (∀ j, i < j → (g.setSrc i p).srcPh j = .idle) :=
  ⟨fun j hj => by rw [Ph.srcPh_setSrc, if_neg (Nat.ne_of_lt hj)]; exact hlt j hj,
    fun j hj => by rw [Ph.srcPh_setSrc, if_neg (Nat.ne_of_gt hj)]; exact hgt j hj⟩

theorem none_active_setSrc {g : Ph} {i : Nat} {p : SrcPh} (hp1 : p ≠ .live) (hp2 : p ≠ .subscribed)
    (hlt : ∀ j, j < i → g.srcPh j = .ended) (hgt : ∀ j, i < j → g.srcPh j = .idle) (j : Nat) :
    (g.setSrc i p).srcPh j ≠ .live ∧ (g.setSrc i p).srcPh j ≠ .subscribed := by
  rw [Ph.srcPh_setSrc]
  rcases Nat.lt_trichotomy j i with h | h | h
  · rw [if_neg (Nat.ne_of_lt h), hlt j h]; exact ⟨nofun, nofun⟩
  · rw [if_pos h]; exact ⟨hp1, hp2⟩
  · rw [if_neg (Nat.ne_of_gt h), hgt j h]; exact ⟨nofun, nofun⟩

theorem Mode.noOrphan {st : St} {g : Ph} {stk : List (Frame (Loc α) α)} (hm : Mode n st g stk) : NoOrphan g := by
  cases hm with
  | idle _ h2 => exact noOrphan_of_noLive fun j => by rw [h2 j]; nofun
  | waiting _ _ _ _ h5 h6 =>
    by_cases h0 : st.i = 0
    · exact noOrphan_of_open 0 (.inl (h5 h0))
    · exact noOrphan_of_open 0 (.inr (h6 h0))
  | live _ _ h3 => exact noOrphan_of_open 0 (.inr h3)
  | over _ h2 => exact noOrphan_of_noLive fun j => (h2 j).1

section run
variable {st : St}

theorem run_next (h : st.i ≠ n) : Runs (machine α n) st .next st (some (.subSrc st.i, .done)) :=
  .call (by simp [machine, step, h])

theorem run_u1 (u : Up) {j : Nat} (h : st.slot = some j) : Runs (machine α n) st (.u1 u) st (some (.srcUp j u, .done)) :=
  .call (by simp [machine, step, h])

theorem run_p0 {j : Nat} (h : st.slot = some j) :
    Runs (machine α n) st .p0 { st with gotPull := true } (some (.srcUp j .pull, .done)) :=
  .tau rfl (run_u1 .pull h)

theorem run_g0_first (j : Nat) (h : st.i = 0) :
    Runs (machine α n) st (.g0 j) { st with slot := some j } (some (.greet 0, .done)) :=
  .tau rfl (.call (by simp [machine, step, h]))

theorem run_g0_idle (j : Nat) (h : st.i ≠ 0) (hp : st.gotPull = false) :
    Runs (machine α n) st (.g0 j) { st with slot := some j } none :=
  .tau rfl (.tau (if_neg (by simpa using h)) (.ret (if_neg (by simp [hp]))))

theorem run_g0_pull (j : Nat) (h : st.i ≠ 0) (hp : st.gotPull = true) :
    Runs (machine α n) st (.g0 j) { st with slot := some j } (some (.srcUp j .pull, .done)) :=
  .tau rfl (.tau (if_neg (by simpa using h)) (.tau (if_pos hp) (.call rfl)))

theorem run_fwd (d : Down α) : Runs (machine α n) st (.fwd d) st (some (.down 0 d, .done)) := .call rfl

theorem run_t0_last (h : st.i + 1 = n) :
    Runs (machine α n) st .t0 { st with i := st.i + 1 } (some (.down 0 .term, .done)) :=
  .tau rfl (.call (by simp [machine, step, h]))

theorem run_t0_next (h : st.i + 1 ≠ n) :
    Runs (machine α n) st .t0 { st with i := st.i + 1 } (some (.subSrc (st.i + 1), .done)) :=
  .tau rfl (run_next h)

theorem run_done : Runs (machine α n) st .done st none := .ret rfl

end run

inductive Macro (n : Nat) (s : Sys St (Loc α) α α) : Move α → St → Option (Out α × Loc α) → Prop
  | sub : s.g.ph.sinkPh 0 = .idle → s.st.i = 0 → Macro n s (.call (.subscribe 0)) s.st (some (.subSrc 0, .done))
  | pull : s.g.ph.sinkPh 0 = .live → s.g.ph.srcPh s.st.i = .live →
      Macro n s (.call (.sinkUp 0 .pull)) { s.st with gotPull := true } (some (.srcUp s.st.i .pull, .done))
  | stop (u : Up) : u ≠ .pull → s.g.ph.sinkPh 0 = .live → Macro n s (.call (.sinkUp 0 u)) s.st (some (.srcUp s.st.i u, .done))
  | greet0 : s.st.i = 0 → s.g.ph.sinkPh 0 = .subscribed → s.g.ph.srcPh 0 = .subscribed →
      Macro n s (.call (.srcGreet 0)) { s.st with slot := some 0 } (some (.greet 0, .done))
  /-- a later member greets, no Pull has been seen: nothing is sent -/
  | greetIdle : s.st.i ≠ 0 → s.st.gotPull = false → s.g.ph.sinkPh 0 = .live → s.g.ph.srcPh s.st.i = .subscribed →
      Macro n s (.call (.srcGreet s.st.i)) { s.st with slot := some s.st.i } none
  /-- a later member greets, the sink has pulled before: the demand is carried across -/
  | greetPull : s.st.i ≠ 0 → s.st.gotPull = true → s.g.ph.sinkPh 0 = .live → s.g.ph.srcPh s.st.i = .subscribed →
      Macro n s (.call (.srcGreet s.st.i)) { s.st with slot := some s.st.i } (some (.srcUp s.st.i .pull, .done))
  | data (a : α) : s.g.ph.sinkPh 0 = .live → s.g.ph.srcPh s.st.i = .live →
      Macro n s (.call (.srcDown s.st.i (.data a))) s.st (some (.down 0 (.data a), .done))
  | err (e : Nat) : s.g.ph.sinkPh 0 = .live →
      Macro n s (.call (.srcDown s.st.i (.err e))) s.st (some (.down 0 (.err e), .done))
  | last : s.st.i + 1 = n → s.g.ph.sinkPh 0 = .live →
      Macro n s (.call (.srcDown s.st.i .term)) { s.st with i := s.st.i + 1 } (some (.down 0 .term, .done))
  | next : s.st.i + 1 < n → s.g.ph.sinkPh 0 = .live → s.g.ph.srcPh s.st.i = .live → s.g.ph.srcPh (s.st.i + 1) = .idle →
      Macro n s (.call (.srcDown s.st.i .term)) { s.st with i := s.st.i + 1 } (some (.subSrc (s.st.i + 1), .done))
  | ret : s.g.ph.sinkPh 0 ≠ .idle → Macro n s .ret s.st none

/-- the configuration comes as an equation for the reason given at `Take.lands` -/
theorem lands {st' : St} {stk' : List (Frame (Loc α) α)} {g g' : G} {tr' : List (Ev α α)} {t : Sys St (Loc α) α α} (ph : Ph)
    (ht : t = ⟨st', stk', g', tr', none⟩) (hph : g'.ph = ph) (hv : ph.viols = []) (hoths : ∀ k, k ≠ 0 → ph.sinkPh k = .idle)
    (hm : Mode n st' ph stk') (hne : stk' ≠ [] ∨ ph.sinkPh 0 ≠ .idle)
    (h2 : XOkRelay g → g'.ph = ph → NoOrphan g'.ph → XOkRelay g') :
    (Inv n t ∧ t.g.ph.sinkPh 0 ≠ .idle) ∧ (XOkRelay g → XOkRelay t.g) := by
  subst ht hph
  have hI : Inv n ⟨st', stk', g', tr', none⟩ := ⟨rfl, hv, hoths, hm⟩
  exact ⟨⟨hI, hne.elim hI.sink_ne_idle id⟩, fun hx => h2 hx rfl hm.noOrphan⟩

/-- That the sink is no longer idle after a macro step is read by `T0` of `Fun/Concat.lean`: the trace invariant holds from the
first macro step on. -/
theorem macro_step (hn : 0 < n) {s s' : Sys St (Loc α) α α} {m : Move α} (h : Inv n s) (hs : EnvStep (machine α n) m s s') :
    Lands (machine α n) (Macro n) (fun t => Inv n t ∧ t.g.ph.sinkPh 0 ≠ .idle) XOkRelay s s' m := by
  have hne := h.sink_ne_idle
  obtain ⟨_, hb, hoths, hm⟩ := h
  cases hs with
  | @call st stk g tr c i hc hl =>
    obtain ⟨si, sl, gp⟩ := st
    dsimp only at hb hoths hm ⊢
    cases i with
    | subscribe k =>
      simp only [legalIn, Bool.and_eq_true, beq_iff_eq, machine, Bool.or_false] at hl
      obtain ⟨⟨_, hidle⟩, rfl⟩ := hl
      cases hm with
      | idle h1 h2 h3 h4 =>
        dsimp only at h3
        subst h3 h4
        refine ⟨_, _, .sub h1 rfl, run_next (Nat.ne_of_lt hn) _ _ _, lands ((g.ph.setSink 0 .subscribed).setSrc 0 .subscribed) rfl
          (by rw [onOut_ph, onIn_ph]; exact Ph.onOut_subSrc (h2 0) (Ph.anySinkOpen_setSink _ _ (.inl rfl)))
          hb (othersIdle_setSink hoths _)
          (.waiting hn (by simp) (fun _ hj => absurd hj (Nat.not_lt_zero _)) (members_setSrc _ (fun _ hj => absurd hj (Nat.not_lt_zero _)) fun j _ => h2 j).2
            (fun _ => by simp) (fun h0 => absurd rfl h0) ⟨[], rfl, fun _ hf => nomatch hf⟩)
          (.inl (List.cons_ne_nil _ _)) ?_⟩
        intro hx _ ho
        rw [onIn_subscribe, onOut_subSrc] at ho ⊢
        exact hx.of_ph (hx.1.pend_none_of_noDone (noDone_of hoths (by rw [h1]; nofun))) ho (by rw [h1]; nofun)
      | waiting h1 h2 h3 h4 h5 h6 h7 =>
        by_cases h0 : si = 0
        · simp [h5 h0] at hidle
        · simp [h6 h0] at hidle
      | live h1 h2 h3 h4 h5 h6 h7 => simp [h3] at hidle
      | over h1 h2 h3 => rcases h1 with h1 | h1 <;> simp [h1] at hidle
    | sinkUp k u =>
      simp only [legalIn, Bool.and_eq_true, beq_iff_eq, Bool.or_eq_true] at hl
      obtain ⟨hlive, hctx⟩ := hl
      cases sink_eq_zero hoths (by rw [hlive]; nofun)
      cases hm with
      | idle h1 h2 h3 h4 => simp [h1] at hlive
      | waiting h1 h2 h3 h4 h5 h6 h7 =>
        obtain ⟨rest, rfl, _⟩ := h7
        simp [ctxOf] at hc; subst hc; simp [isTop, inGreet, inData] at hctx
      | live h1 h2 h3 h4 h5 h6 h7 =>
        dsimp only at h1 h2 h4 h5 h6
        cases u with
        | pull =>
          refine ⟨_, _, .pull h3 h4, run_p0 h2 _ _ _, lands g.ph rfl (by rw [onOut_ph, onIn_ph]; exact Ph.onOut_pull h4) hb hoths
            (.live h1 h2 h3 h4 h5 h6 (cons_done h7)) (.inl (List.cons_ne_nil _ _)) ?_⟩
          intro hx _ ho
          rw [onIn_pull, onOut_pull] at ho ⊢
          exact hx.of_ph (hx.1.pend_none_of_live si h4) ho (by rw [h3]; nofun)
        | term | err e =>
          -- the sink disposes: its message goes to the current member unchanged, which was the only live one
          refine ⟨_, _, .stop _ nofun h3, run_u1 _ h2 _ _ _, lands ((g.ph.setSink 0 .doneBySelf).setSrc si .disposed) rfl
            (by rw [onOut_ph, onIn_ph]; exact Ph.onOut_srcEnd (g := g.ph.setSink 0 .doneBySelf) h4 nofun)
            hb (othersIdle_setSink hoths _) (.over (.inl (by simp)) (none_active_setSrc nofun nofun h5 h6) (cons_done h7))
            (.inl (List.cons_ne_nil _ _)) ?_⟩
          intro ⟨hx, hse⟩ hph ho
          exact ⟨hx.relayUp _ _ 0 si _ (hse (by rw [h3]; nofun)) (hx.pend_none_of_live si h4) ho,
            fun hne => absurd (by rw [hph]; simp) hne⟩
      | over h1 h2 h3 => rcases h1 with h1 | h1 <;> simp [h1] at hlive
    | srcGreet j =>
      simp only [legalIn, Bool.and_eq_true, beq_iff_eq, machine, Bool.false_and, Bool.or_false] at hl
      obtain ⟨hsub, hin⟩ := hl
      cases hm with
      | idle h1 h2 h3 h4 => simp [h2 j] at hsub
      | waiting h1 h2 h3 h4 h5 h6 h7 =>
        dsimp only at h1 h2 h3 h4 h5 h6 h7
        obtain rfl := cur_of_phase h3 h4 (.inr hsub)
        obtain ⟨rest, rfl, hrest⟩ := h7
        have hq := cons_done (o := Out.subSrc j) hrest
        have hmem := members_setSrc .live h3 h4
        by_cases h0 : j = 0
        · subst h0
          refine ⟨_, _, .greet0 rfl (h5 rfl) h2, run_g0_first _ rfl _ _ _, lands ((g.ph.setSrc 0 .live).setSink 0 .live) rfl
            (by rw [onOut_ph, onIn_ph]; exact Ph.onOut_greet (g := g.ph.setSrc 0 .live) (h5 rfl))
            hb (othersIdle_setSink (g := g.ph.setSrc 0 .live) hoths _)
            (.live h1 rfl (by simp) (by simp) hmem.1 hmem.2 (cons_done hq)) (.inl (List.cons_ne_nil _ _)) ?_⟩
          intro hx _ ho
          rw [onIn_srcGreet, onOut_greet] at ho ⊢
          exact hx.of_ph (hx.1.pend_none_of_noDone (noDone_of hoths (by rw [h5 rfl]; nofun))) ho (by rw [h5 rfl]; nofun)
        · have hpn := fun hx : XOkRelay g => hx.1.pend_none_of_noDone (noDone_of hoths (by rw [h6 h0]; nofun))
          cases gp with
          | false =>
            refine ⟨_, _, .greetIdle h0 rfl (h6 h0) h2, run_g0_idle _ h0 rfl _ _ _, lands (g.ph.setSrc j .live) rfl
              ((onRetO_ph ..).trans (onIn_ph ..)) hb hoths (.live h1 rfl (h6 h0) (by simp) hmem.1 hmem.2 hq)
              (.inl (List.cons_ne_nil _ _)) ?_⟩
            intro hx _ ho
            rw [onRetO_ph] at ho
            rw [onIn_srcGreet] at ho ⊢
            exact (hx.of_ph (hpn hx) ho (by rw [h6 h0]; nofun)).onRetO _
          | true =>
            refine ⟨_, _, .greetPull h0 rfl (h6 h0) h2, run_g0_pull _ h0 rfl _ _ _, lands (g.ph.setSrc j .live) rfl
              (by rw [onOut_ph, onIn_ph]; exact Ph.onOut_pull (g := g.ph.setSrc j .live) (by simp)) hb hoths
              (.live h1 rfl (h6 h0) (by simp) hmem.1 hmem.2 (cons_done hq)) (.inl (List.cons_ne_nil _ _)) ?_⟩
            intro hx _ ho
            rw [onIn_srcGreet, onOut_pull] at ho ⊢
            exact hx.of_ph (hpn hx) ho (by rw [h6 h0]; nofun)
      | live h1 h2 h3 h4 h5 h6 h7 =>
        dsimp only at h4 h5 h6
        obtain rfl := cur_of_phase h5 h6 (.inr hsub)
        simp [h4] at hsub
      | over h1 h2 h3 => exact absurd hsub (h2 j).2
    | srcDown j d =>
      simp only [legalIn, Bool.and_eq_true, beq_iff_eq, Bool.or_eq_true] at hl
      obtain ⟨hlive, hctx⟩ := hl
      cases hm with
      | idle h1 h2 h3 h4 => simp [h2 j] at hlive
      | waiting h1 h2 h3 h4 h5 h6 h7 =>
        dsimp only at h2 h3 h4
        obtain rfl := cur_of_phase h3 h4 (.inl hlive)
        simp [h2] at hlive
      | live h1 h2 h3 h4 h5 h6 h7 =>
        dsimp only at h1 h2 h4 h5 h6
        obtain rfl := cur_of_phase h5 h6 (.inl hlive)
        have hover := none_active_setSrc (p := .ended) nofun nofun h5 h6
        -- C05: a terminal of the current member, the only live one, goes to the only sink within its handler
        have hdown : ∀ {d d' : Down α} {f : Fin} {g' : G}, finOfDown d = some f → finOfDown d' = some f →
            g' = (g.onIn stk.length (.srcDown j d)).onOut (machine α n).shape (.down 0 d') →
            XOkRelay g → g'.ph = (g.ph.setSrc j .ended).setSink 0 .doneBySrc → NoOrphan g'.ph → XOkRelay g' := by
          intro d d' f g' hd hd' hg' ⟨hx, hse⟩ hph _
          subst hg'
          obtain ⟨hx', hs'⟩ := hx.relayDown _ stk.length j d d' f hd hd' h3
            (fun _ => sink_zero_of_live hoths) (hx.pend_none_of_live j h4)
            (by rw [hph]; exact fun i => (hover i).1)
          exact ⟨hx', fun _ => hs'.trans (hse (by rw [h3]; nofun))⟩
        cases d with
        | data a =>
          refine ⟨_, _, .data a h3 h4, run_fwd _ _ _ _, lands g.ph rfl (by rw [onOut_ph, onIn_ph]; exact Ph.onOut_data h3 a) hb hoths
            (.live h1 h2 h3 h4 h5 h6 (cons_done h7)) (.inl (List.cons_ne_nil _ _)) ?_⟩
          intro hx _ ho
          rw [onIn_data, onOut_data] at ho ⊢
          exact hx.of_ph (hx.1.pend_none_of_live j h4) ho (by rw [h3]; nofun)
        | err e =>
          exact ⟨_, _, .err e h3, run_fwd _ _ _ _, lands ((g.ph.setSrc j .ended).setSink 0 .doneBySrc) rfl
            (by rw [onOut_ph, onIn_ph]; exact Ph.onOut_final (g := g.ph.setSrc j .ended) h3 rfl)
            hb (othersIdle_setSink (g := g.ph.setSrc j .ended) hoths _) (.over (.inr (by simp)) hover (cons_done h7))
            (.inl (List.cons_ne_nil _ _)) (hdown rfl rfl rfl)⟩
        | term =>
          by_cases hlast : j + 1 = n
          · exact ⟨_, _, .last hlast h3, run_t0_last hlast _ _ _, lands ((g.ph.setSrc j .ended).setSink 0 .doneBySrc) rfl
              (by rw [onOut_ph, onIn_ph]; exact Ph.onOut_final (g := g.ph.setSrc j .ended) h3 rfl)
              hb (othersIdle_setSink (g := g.ph.setSrc j .ended) hoths _) (.over (.inr (by simp)) hover (cons_done h7))
              (.inl (List.cons_ne_nil _ _)) (hdown rfl rfl rfl)⟩
          · have hidle := h6 (j + 1) (Nat.lt_succ_self j)
            have hlt : ∀ i, i < j + 1 → (g.ph.setSrc j .ended).srcPh i = .ended := fun i hi => by
              rw [Ph.srcPh_setSrc]
              by_cases hij : i = j
              · rw [if_pos hij]
              · rw [if_neg hij]; exact h5 i (Nat.lt_of_le_of_ne (Nat.le_of_lt_succ hi) hij)
            have hmem := members_setSrc .subscribed hlt fun i hi => (members_setSrc .ended h5 h6).2 i (Nat.lt_of_succ_lt hi)
            refine ⟨_, _, .next (Nat.lt_of_le_of_ne h1 hlast) h3 h4 hidle, run_t0_next hlast _ _ _,
              lands ((g.ph.setSrc j .ended).setSrc (j + 1) .subscribed) rfl
              (by rw [onOut_ph, onIn_ph]
                  exact Ph.onOut_subSrc (g := g.ph.setSrc j .ended) (by simp [hidle]) ((Ph.anySinkOpen_iff _).2 ⟨0, .inr h3⟩))
              hb hoths
              (.waiting (Nat.lt_of_le_of_ne h1 hlast) (by simp) hmem.1 hmem.2 (fun h0 => absurd h0 (Nat.succ_ne_zero j))
                (fun _ => h3) ⟨_, rfl, h7⟩) (.inl (List.cons_ne_nil _ _)) ?_⟩
            intro hx _ ho
            rw [onIn_srcTerm, onOut_subSrc] at ho ⊢
            exact hx.of_ph (hx.1.pend_none_of_live j h4) ho (by rw [h3]; nofun)
      | over h1 h2 h3 => exact absurd hlive (h2 j).1
  | @ret st stk g tr o l hl =>
    dsimp only at hb hoths hm hne ⊢
    have hne' := hne (List.cons_ne_nil _ _)
    cases hm with
    | idle _ _ _ h => simp at h
    | waiting h1 h2 h3 h4 h5 h6 h7 =>
      obtain ⟨rest, he, _⟩ := h7
      simp at he; obtain ⟨⟨rfl, rfl⟩, rfl⟩ := he
      simp [legalRet, h2, machine] at hl
    | live h1 h2 h3 h4 h5 h6 h7 =>
      obtain ⟨rfl, hq⟩ := done_of_quiet h7
      exact ⟨_, _, .ret hne', run_done _ _ _, lands g.ph rfl (onRetO_ph ..) hb hoths (.live h1 h2 h3 h4 h5 h6 hq) (.inr hne')
        (fun hx _ _ => hx.onRetO _)⟩
    | over h1 h2 h3 =>
      obtain ⟨rfl, hq⟩ := done_of_quiet h3
      exact ⟨_, _, .ret hne', run_done _ _ _, lands g.ph rfl (onRetO_ph ..) hb hoths (.over h1 h2 hq) (.inr hne')
        (fun hx _ _ => hx.onRetO _)⟩

theorem macro_inv (hn : 0 < n) {s s' : Sys St (Loc α) α α} {m : Move α} (h : Inv n s) (hs : EnvStep (machine α n) m s s') :
    Lands (machine α n) (Macro n) (Inv n) XOkRelay s s' m :=
  (macro_step hn h hs).mono fun _ => And.left

theorem inv_init (n : Nat) : Inv n (Sys.init (machine α n)) :=
  ⟨rfl, rfl, fun _ _ => by simp [Sys.init], Mode.idle (by simp [Sys.init]) (fun _ => by simp [Sys.init]) rfl rfl⟩

theorem inv_of_turn (n : Nat) (hn : 0 < n) {s : Sys St (Loc α) α α} (hs : SReach (machine α n) s) (ht : EnvTurn s) : Inv n s :=
  Lands.inv_at_turn (inv_init n) (fun s hi => (inv_turn n s hi).1) (macro_inv hn) hs ht

/-- concat: for every member count `n ≥ 1`, under every conformant environment (re-entrant sink, synchronous or
deferred members), the operator never violates the sink- or source-side protocol and never panics. -/
theorem concat_basicSafe {α : Type} (n : Nat) (hn : 0 < n) : ∀ s, SReach (machine α n) s → BasicSafe s :=
  Lands.basicSafe (inv_init n) (inv_turn n) (macro_inv hn)

end Cb.Concat

#print axioms Cb.Concat.concat_basicSafe
