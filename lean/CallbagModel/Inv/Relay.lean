import CallbagModel.Inv.Ghost2
import CallbagModel.Inv.Runs
import CallbagModel.Inv.Views
import CallbagModel.Ops.Relay
/-!
# map / filter / scan / skip: the phase-level safety invariant

Every call of the relay machine is a tail call: each frame below the top of the stack is `wait _ .done`, which assumes
nothing when it resumes.  The only numeric fact is "in the live mode a slotted kind has its slot filled", which makes the
two `expect`s (`repull`, `u0`) unreachable.  For a generic `Kind` one more hypothesis is needed: a kind that re-pulls
(`xfer` returns `none`) must be slotted — true of all four operators.

Read off `macro_step` after the safety theorem: what is known of the turn before when a relay delivers (`down_cases`), and that an
unserved `Pull` of the sink has been passed on (`pull_fwd`).
-/
namespace Cb.Relay
open ComposeComplete

variable {σ α β : Type}

/-- continuations that may sit on the stack: only finished handler bodies -/
def Benign : Frame (Loc α β) β → Prop
  | .wait _ .done => True
  | _ => False

inductive Mode (k : Kind σ α β) (st : St σ) (g : Ph) (stk : List (Frame (Loc α β) β)) : Prop where
  | m1 : g.sinkPh 0 = .idle → g.srcPh 0 = .idle → stk = [] → Mode k st g stk
  | m2 : g.sinkPh 0 = .subscribed → g.srcPh 0 = .subscribed → stk = [.wait (.subSrc 0) .done] → Mode k st g stk
  | m3 : g.sinkPh 0 = .live → g.srcPh 0 = .live → (k.slotted = true → st.slot = true) →
         (∀ f ∈ stk, Benign f) → Mode k st g stk
  | m4 : g.sinkPh 0 = .doneBySelf → g.srcPh 0 = .disposed → (∀ f ∈ stk, Benign f) → Mode k st g stk
  | m5 : g.sinkPh 0 = .doneBySrc → g.srcPh 0 = .ended → (∀ f ∈ stk, Benign f) → Mode k st g stk

def Inv (k : Kind σ α β) (s : Sys (St σ) (Loc α β) α β) : Prop :=
  s.panicked = none ∧ s.g.ph.viols = [] ∧
  (∀ i, i ≠ 0 → s.g.ph.srcPh i = .idle) ∧ (∀ j, j ≠ 0 → s.g.ph.sinkPh j = .idle) ∧
  Mode k s.st s.g.ph s.stack

theorem inv_turn (k : Kind σ α β) (s : Sys (St σ) (Loc α β) α β) (h : Inv k s) : EnvTurn s ∧ BasicSafe s := by
  obtain ⟨hp, hb, _, _, hm⟩ := h
  refine ⟨⟨hp, ?_⟩, hb, hp⟩
  cases hm with
  | m1 _ _ h => simp [h, ctxOf]
  | m2 _ _ h => simp [h, ctxOf]
  | m3 _ _ _ h => exact ctx_isSome_of_waits (fun _ => id) h
  | m4 _ _ h => exact ctx_isSome_of_waits (fun _ => id) h
  | m5 _ _ h => exact ctx_isSome_of_waits (fun _ => id) h

theorem Mode.src {k : Kind σ α β} {st : St σ} {g : Ph} {stk : List (Frame (Loc α β) β)}
    (hm : Mode k st g stk) : (g.sinkPh 0 = .live → g.srcPh 0 = .live) ∧ (g.sinkPh 0 = .doneBySrc → g.srcPh 0 = .ended) := by
  cases hm with
  | m3 h1 h2 => exact ⟨fun _ => h2, fun h => (nomatch h1.symm.trans h)⟩
  | m5 h1 h2 => exact ⟨fun h => (nomatch h1.symm.trans h), fun _ => h2⟩
  | m1 h1 | m2 h1 | m4 h1 => exact ⟨fun h => (nomatch h1.symm.trans h), fun h => (nomatch h1.symm.trans h)⟩

theorem Mode.of_subscribed {k : Kind σ α β} {st : St σ} {g : Ph} {stk : List (Frame (Loc α β) β)}
    (hm : Mode k st g stk) (h : g.sinkPh 0 = .subscribed ∨ g.srcPh 0 = .subscribed) :
    g.sinkPh 0 = .subscribed ∧ g.srcPh 0 = .subscribed ∧ stk = [.wait (.subSrc 0) .done] := by
  cases hm with
  | m2 h1 h2 h5 => exact ⟨h1, h2, h5⟩
  | m1 h1 h2 | m3 h1 h2 | m4 h1 h2 | m5 h1 h2 => rw [h1, h2] at h; rcases h with h | h <;> cases h

section step
variable (k : Kind σ α β) {st : St σ}

theorem step_u0 (u : Up) (h : k.slotted = true → st.slot = true) :
    (machine k).step st (.u0 u) = .call (.srcUp 0 u) st .done := by
  cases hk : k.slotted <;> simp [machine, step, hk, h]

theorem step_g0 : (machine k).step st .g0 = .tau ⟨k.slotted || st.slot, st.priv⟩ .g1 := by
  cases hk : k.slotted <;> simp [machine, step, hk]

theorem step_d0_pass {a : α} {b : β} (hx : (k.xfer st.priv a).2 = some b) :
    (machine k).step st (.d0 a) = .tau { st with priv := (k.xfer st.priv a).1 } (.emit b) := by
  simp [machine, step, hx]

theorem step_d0_drop {a : α} (hx : (k.xfer st.priv a).2 = none) :
    (machine k).step st (.d0 a) = .tau { st with priv := (k.xfer st.priv a).1 } .repull := by
  simp [machine, step, hx]

theorem step_repull (hs : st.slot = true) : (machine k).step st .repull = .call (.srcUp 0 .pull) st .done := by
  simp [machine, step, hs]

end step

section run
variable {k : Kind σ α β} {st : St σ}

theorem run_subscribe : Runs (machine k) st .sub0 st (some (.subSrc 0, .done)) := .call rfl

theorem run_sinkUp (u : Up) (hsl : k.slotted = true → st.slot = true) :
    Runs (machine k) st (.u0 u) st (some (.srcUp 0 u, .done)) := .call (step_u0 k u hsl)

theorem run_greet : Runs (machine k) st .g0 (if k.slotted then { st with slot := true } else st) (some (.greet 0, .done)) := by
  cases hks : k.slotted <;> exact .tau ((step_g0 k).trans (by rw [hks])) (.call rfl)

theorem run_data_some (a : α) (b : β) (hx : (k.xfer st.priv a).2 = some b) :
    Runs (machine k) st (.d0 a) { st with priv := (k.xfer st.priv a).1 } (some (.down 0 (.data b), .done)) :=
  .tau (step_d0_pass k hx) (.call rfl)

theorem run_data_none (a : α) (hx : (k.xfer st.priv a).2 = none) (hsl : st.slot = true) :
    Runs (machine k) st (.d0 a) { st with priv := (k.xfer st.priv a).1 } (some (.srcUp 0 .pull, .done)) :=
  .tau (step_d0_drop k hx) (.call (step_repull k hsl))

theorem run_fwd (d : Down β) : Runs (machine k) st (.fwd d) st (some (.down 0 d, .done)) := .call rfl

theorem run_done : Runs (machine k) st .done st none := .ret rfl

end run

inductive Macro (k : Kind σ α β) (s : Sys (St σ) (Loc α β) α β) : Move α → St σ → Option (Out β × Loc α β) → Prop where
  | subscribe : Macro k s (.call (.subscribe 0)) s.st (some (.subSrc 0, .done))
  | sinkUp (u : Up) : s.g.ph.srcPh 0 = .live → Macro k s (.call (.sinkUp 0 u)) s.st (some (.srcUp 0 u, .done))
  | greet : Macro k s (.call (.srcGreet 0)) (if k.slotted then { s.st with slot := true } else s.st) (some (.greet 0, .done))
  | dataSome (a : α) (b : β) : s.g.ph.srcPh 0 = .live → (k.xfer s.st.priv a).2 = some b →
      Macro k s (.call (.srcDown 0 (.data a))) { s.st with priv := (k.xfer s.st.priv a).1 } (some (.down 0 (.data b), .done))
  | dataNone (a : α) : s.g.ph.srcPh 0 = .live → (k.xfer s.st.priv a).2 = none →
      Macro k s (.call (.srcDown 0 (.data a))) { s.st with priv := (k.xfer s.st.priv a).1 } (some (.srcUp 0 .pull, .done))
  | term : s.g.ph.srcPh 0 = .live → Macro k s (.call (.srcDown 0 .term)) s.st (some (.down 0 .term, .done))
  | err (e : Nat) : s.g.ph.srcPh 0 = .live → Macro k s (.call (.srcDown 0 (.err e))) s.st (some (.down 0 (.err e), .done))
  | ret : Macro k s .ret s.st none

/-- the configuration comes as an equation for the reason given at `Take.lands` -/
theorem lands {k : Kind σ α β} {g g' : G} {t : Sys (St σ) (Loc α β) α β} {st : St σ} {stk : List (Frame (Loc α β) β)}
    {tr : List (Ev α β)} {p : SinkPh} {q : SrcPh} (ht : t = ⟨st, stk, g', tr, none⟩) (hg : PassTo g g' p q)
    (hm : g'.ph.sinkPh 0 = p → g'.ph.srcPh 0 = q → Mode k st g'.ph stk) : Inv k t ∧ (XOkRelay g → XOkRelay t.g) :=
  ht ▸ ⟨⟨rfl, hg.single.viols, hg.single.srcs, hg.single.sinks, hm hg.sink hg.src⟩, hg.xok⟩

theorem cons_done {o : Out β} {stk : List (Frame (Loc α β) β)} (h : ∀ f ∈ stk, Benign f) :
    ∀ f ∈ Frame.wait o .done :: stk, Benign f :=
  List.forall_mem_cons.2 ⟨trivial, h⟩

theorem slotted_of_drop (k : Kind σ α β) (hk : k.slotted = false → ∀ s a, (k.xfer s a).2 ≠ none) {s : σ} {a : α}
    (hx : (k.xfer s a).2 = none) : k.slotted = true := by
  cases h : k.slotted with
  | true => rfl
  | false => exact absurd hx (hk h s a)

theorem macro_step (k : Kind σ α β) (hk : k.slotted = false → ∀ s a, (k.xfer s a).2 ≠ none)
    {s s' : Sys (St σ) (Loc α β) α β} {m : Move α} (h : Inv k s) (hs : EnvStep (machine k) m s s') :
    Lands (machine k) (Macro k) (Inv k) XOkRelay s s' m := by
  obtain ⟨_, hb, hoth, hoths, hm⟩ := h
  cases hs with
  | @call st stk g tr c i hc hl =>
    simp only at hb hoth hoths hm
    have hS : Single g.ph := ⟨hb, hoth, hoths⟩
    cases i with
    | subscribe j =>
      simp only [legalIn, Bool.and_eq_true, beq_iff_eq, machine, Bool.or_false] at hl
      obtain ⟨⟨-, hidle⟩, rfl⟩ := hl
      cases hm with
      | m1 h1 h2 h3 =>
        exact ⟨_, _, .subscribe, run_subscribe _ _ _, lands rfl (hS.subscribe _ _ h1 h2) fun hp hq => .m2 hp hq (by rw [h3])⟩
      | m2 h1 | m3 h1 | m4 h1 | m5 h1 => cases h1.symm.trans hidle
    | sinkUp j u =>
      simp only [legalIn, Bool.and_eq_true, beq_iff_eq, Bool.or_eq_true] at hl
      obtain ⟨hlive, -⟩ := hl
      cases sink_eq_zero hoths (by rw [hlive]; decide)
      cases hm with
      | m3 h1 h2 h3 h6 =>
        by_cases hu : u = .pull
        · subst hu
          exact ⟨_, _, .sinkUp _ h2, run_sinkUp _ h3 _ _ _, lands rfl (hS.pull _ _ h1 h2) fun hp hq => .m3 hp hq h3 (cons_done h6)⟩
        · exact ⟨_, _, .sinkUp _ h2, run_sinkUp _ h3 _ _ _, lands rfl (hS.sinkEnd _ _ h1 h2 hu) fun hp hq => .m4 hp hq (cons_done h6)⟩
      | m1 h1 | m2 h1 | m4 h1 | m5 h1 => cases h1.symm.trans hlive
    | srcGreet i =>
      simp only [legalIn, Bool.and_eq_true, beq_iff_eq, machine, Bool.false_and, Bool.or_false] at hl
      obtain ⟨hsub, -⟩ := hl
      cases src_eq_zero hoth (by rw [hsub]; decide)
      obtain ⟨h1, -, h5⟩ := hm.of_subscribed (.inr hsub)
      exact ⟨_, _, .greet, run_greet _ _ _, lands rfl (hS.greet _ _ h1) fun hp hq =>
        .m3 hp hq (fun hks => by rw [if_pos hks]) (cons_done (by rw [h5]; simp [Benign]))⟩
    | srcDown i d =>
      simp only [legalIn, Bool.and_eq_true, beq_iff_eq, Bool.or_eq_true] at hl
      obtain ⟨hlive, -⟩ := hl
      cases src_eq_zero hoth (by rw [hlive]; decide)
      cases hm with
      | m3 h1 h2 h3 h6 =>
        cases d with
        | data a =>
          cases hx : (k.xfer st.priv a).2 with
          | some b =>
            exact ⟨_, _, .dataSome a b h2 hx, run_data_some a b hx _ _ _, lands rfl (hS.data _ _ h1 h2 a b) fun hp hq =>
              .m3 hp hq h3 (cons_done h6)⟩
          | none =>
            have hsl : st.slot = true := h3 (slotted_of_drop k hk hx)
            exact ⟨_, _, .dataNone a h2 hx, run_data_none a hx hsl _ _ _, lands rfl (hS.repull _ _ h1 h2 a) fun hp hq =>
              .m3 hp hq (fun _ => hsl) (cons_done h6)⟩
        | term =>
          exact ⟨_, _, .term h2, run_fwd _ _ _ _, lands rfl (hS.srcEnd _ _ h1 h2 rfl rfl) fun hp hq => .m5 hp hq (cons_done h6)⟩
        | err e =>
          exact ⟨_, _, .err e h2, run_fwd _ _ _ _, lands rfl (hS.srcEnd _ _ h1 h2 rfl rfl) fun hp hq => .m5 hp hq (cons_done h6)⟩
      | m1 _ h2 | m2 _ h2 | m4 _ h2 | m5 _ h2 => cases h2.symm.trans hlive
  | @ret st stk g tr o l hl =>
    simp only at hb hoth hoths hm
    have hS : Single g.ph := ⟨hb, hoth, hoths⟩
    -- every continuation is `done`: the handler just returns, and the mode stays
    have hdone : (∀ f ∈ Frame.wait o l :: stk, Benign f) ∧ ((∀ f ∈ stk, Benign f) → Mode k st g.ph stk) := by
      cases hm with
      | m1 _ _ h => cases h
      | m2 h1 h2 h5 =>
        cases h5
        simp [legalRet, h2, machine] at hl
      | m3 h1 h2 h3 h6 => exact ⟨h6, .m3 h1 h2 h3⟩
      | m4 h1 h2 h6 => exact ⟨h6, .m4 h1 h2⟩
      | m5 h1 h2 h6 => exact ⟨h6, .m5 h1 h2⟩
    obtain ⟨h6, hm'⟩ := hdone
    obtain ⟨hben, hrest⟩ := List.forall_mem_cons.1 h6
    cases l with
    | done =>
      exact ⟨_, _, .ret, run_done _ _ _, lands rfl ((hS.refl rfl rfl).onRetO _) fun _ _ => by rw [onRetO_ph]; exact hm' hrest⟩
    | _ => exact hben.elim

theorem inv_init (k : Kind σ α β) : Inv k (Sys.init (machine k)) :=
  ⟨rfl, rfl, fun _ _ => by simp [Sys.init], fun _ _ => by simp [Sys.init],
    Mode.m1 (by simp [Sys.init]) (by simp [Sys.init]) rfl⟩

theorem inv_of_turn (k : Kind σ α β) (hk : k.slotted = false → ∀ s a, (k.xfer s a).2 ≠ none)
    {s : Sys (St σ) (Loc α β) α β} (hs : SReach (machine k) s) (ht : EnvTurn s) : Inv k s :=
  Lands.inv_at_turn (inv_init k) (fun s hi => (inv_turn k s hi).1) (macro_step k hk) hs ht

theorem ended_of_doneBySrc (k : Kind σ α β) (hk : k.slotted = false → ∀ s a, (k.xfer s a).2 ≠ none)
    {s : Sys (St σ) (Loc α β) α β} (hs : SReach (machine k) s) (ht : EnvTurn s) (hd : s.g.ph.sinkPh 0 = .doneBySrc) :
    s.g.ph.srcPh 0 = .ended :=
  (inv_of_turn k hk hs ht).2.2.2.2.src.2 hd

/-- The generic relay: under every conformant environment it never violates the sink- or source-side protocol and never
panics, provided a kind that drops items (and therefore re-pulls through the slot) is a slotted kind. -/
theorem relay_basicSafe (k : Kind σ α β) (hk : k.slotted = false → ∀ s a, (k.xfer s a).2 ≠ none) :
    ∀ s, SReach (machine k) s → BasicSafe s :=
  Lands.basicSafe (inv_init k) (inv_turn k) (macro_step k hk)

theorem slot_of_live (k : Kind σ α β) (hk : k.slotted = false → ∀ s a, (k.xfer s a).2 ≠ none) {s : Sys (St σ) (Loc α β) α β}
    (hs : SReach (machine k) s) (ht : EnvTurn s) {j : Nat} (hl : s.g.ph.sinkPh j = .live ∨ s.g.ph.srcPh j = .live)
    (hsl : k.slotted = true) : s.st.slot = true := by
  obtain ⟨_, _, hsrc, hsink, hm⟩ := inv_of_turn k hk hs ht
  have hj : j = 0 := Decidable.byContradiction fun h => by
    rw [hsink j h, hsrc j h] at hl; rcases hl with h | h <;> cases h
  subst hj
  cases hm with
  | m3 _ _ h _ => exact h hsl
  | m1 a b _ | m2 a b _ | m4 a b _ | m5 a b _ => rw [a, b] at hl; rcases hl with h | h <;> cases h

/-- what is known when a relay delivers downstream: the delivery passes on the one that has just arrived, at a turn `s` -/
theorem down_cases (k : Kind σ α β) (hk : k.slotted = false → ∀ s a, (k.xfer s a).2 ≠ none)
    {st st' : St σ} {l l' : Loc α β} {stk : List (Frame (Loc α β) β)} {g : G} {tr : List (Ev α β)} {d : Down β}
    (hc : SReach (machine k) ⟨st, .run l :: stk, g, tr, none⟩) (hst : (machine k).step st l = .call (.down 0 d) st' l') :
    ∃ s d', SReach (machine k) s ∧ EnvTurn s ∧ tr = .inp (.srcDown 0 d') :: s.tr ∧ (d = .term → d' = .term) ∧
      (∀ x, d = .data x → ∃ a, d' = .data a) := by
  obtain ⟨s, m, hs, hi, -, hmac, heq⟩ := Lands.call_cases (inv_init k) (fun s h => (inv_turn k s h).1) (macro_step k hk) hc hst
  have ht := (inv_turn k s hi).1
  cases hmac with
  | dataSome a b _ _ => exact ⟨s, .data a, hs, ht, (List.cons.inj (congrArg Sys.tr heq)).2.symm, nofun, fun _ _ => ⟨a, rfl⟩⟩
  | term _ => exact ⟨s, .term, hs, ht, (List.cons.inj (congrArg Sys.tr heq)).2.symm, fun _ => rfl, nofun⟩
  | err e _ => exact ⟨s, .err e, hs, ht, (List.cons.inj (congrArg Sys.tr heq)).2.symm, nofun, nofun⟩

/-- at a turn, an unserved `Pull` of the sink has been passed on; the converse needs an assumption on the upstream and stands
where that is defined (`pull_back`, `Inv/PullOnly.lean`) -/
theorem pull_fwd (k : Kind σ α β) (hk : k.slotted = false → ∀ s a, (k.xfer s a).2 ≠ none) {s : Sys (St σ) (Loc α β) α β}
    (hs : SReach (machine k) s) (ht : EnvTurn s) : aP s.tr = true → bP s.tr = true :=
  (Lands.at_turn anyEnv (fun s => aP s.tr = true → bP s.tr = true) (inv_init k) nofun (fun s h => (inv_turn k s h).1)
    (macro_step k hk) (fun s m st r _ _ h _ hm _ _ => by
      cases hm with
      | subscribe | greet | ret => exact h
      | sinkUp u _ =>
        cases u with
        | pull => exact fun _ => rfl
        | term | err e => exact h
      | dataSome a b _ _ | term _ | err e _ => exact nofun
      -- the item is dropped and the relay pulls again
      | dataNone a _ _ => exact fun _ => rfl) hs ht).2

/-! The side condition of the generic theorems (a kind that drops items is slotted), for the four kinds. -/

theorem map_ok {α β : Type} (f : α → β) : (map f).slotted = false → ∀ s a, ((map f).xfer s a).2 ≠ none :=
  fun _ _ _ => by simp [map]

theorem filter_ok {α : Type} (p : α → Bool) : (filter p).slotted = false → ∀ s a, ((filter p).xfer s a).2 ≠ none :=
  fun h => by simp [filter] at h

theorem scan_ok {α β : Type} (r : β → α → β) (seed : β) :
    (scan r seed).slotted = false → ∀ s a, ((scan r seed).xfer s a).2 ≠ none :=
  fun _ _ _ => by simp [scan]

theorem skip_ok {α : Type} (n : Nat) : (skip (α := α) n).slotted = false → ∀ s a, ((skip (α := α) n).xfer s a).2 ≠ none :=
  fun h => by simp [skip] at h

theorem map_basicSafe {α β : Type} (f : α → β) : ∀ s, SReach (machine (map f)) s → BasicSafe s :=
  relay_basicSafe (map f) (map_ok f)

theorem filter_basicSafe {α : Type} (p : α → Bool) : ∀ s, SReach (machine (filter p)) s → BasicSafe s :=
  relay_basicSafe (filter p) (filter_ok p)

theorem scan_basicSafe {α β : Type} (r : β → α → β) (seed : β) : ∀ s, SReach (machine (scan r seed)) s → BasicSafe s :=
  relay_basicSafe (scan r seed) (scan_ok r seed)

theorem skip_basicSafe {α : Type} (n : Nat) : ∀ s, SReach (machine (skip (α := α) n)) s → BasicSafe s :=
  relay_basicSafe (skip n) (skip_ok n)

end Cb.Relay

#print axioms Cb.Relay.relay_basicSafe
#print axioms Cb.Relay.map_basicSafe
#print axioms Cb.Relay.filter_basicSafe
#print axioms Cb.Relay.scan_basicSafe
#print axioms Cb.Relay.skip_basicSafe
