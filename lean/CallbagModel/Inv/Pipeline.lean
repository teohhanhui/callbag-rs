import CallbagModel.Ops.Pipeline
/-!
# Pull pipelines: the demand-driven semantics `sem` against the list function `listSem`, and laziness

`sem`, `needFor`, `flatGo` and `flatCost` have their clauses stated once as equations; the proofs rewrite with those.
-/
namespace Cb

theorem sub_min (a l : Nat) : a - min a l = a - l := by
  cases Nat.le_total a l with
  | inl h => rw [Nat.min_eq_left h, Nat.sub_self, Nat.sub_eq_zero_of_le h]
  | inr h => rw [Nat.min_eq_right h]

theorem sem_src_none (xs : List Int) : sem (.src xs) none = (xs, xs.length + 1) := rfl

theorem sem_src_some (xs : List Int) (d : Nat) :
    sem (.src xs) (some d) = if d ≤ xs.length then (xs.take d, d) else (xs, xs.length + 1) := rfl

theorem sem_map (f : Int → Int) (p : Pipe) (dem : Demand) :
    sem (.map f p) dem = ((sem p dem).1.map f, (sem p dem).2) := rfl

theorem sem_filter_none (q : Int → Bool) (p : Pipe) :
    sem (.filter q p) none = ((sem p none).1.filter q, (sem p none).2) := rfl

theorem sem_filter_some (q : Int → Bool) (p : Pipe) (d : Nat) :
    sem (.filter q p) (some d) =
      ((sem p (needFor q d (listSem p))).1.filter q, (sem p (needFor q d (listSem p))).2) := by
  simp only [sem]
  cases needFor q d (listSem p) <;> rfl

theorem sem_scan (r : Int → Int → Int) (s : Int) (p : Pipe) (dem : Demand) :
    sem (.scan r s p) dem = (scanl' r s (sem p dem).1, (sem p dem).2) := rfl

theorem sem_take_none (n : Nat) (p : Pipe) : sem (.take n p) none = sem p (some n) := rfl

theorem sem_take_some (n : Nat) (p : Pipe) (d : Nat) : sem (.take n p) (some d) = sem p (some (min n d)) := rfl

theorem sem_skip_none (n : Nat) (p : Pipe) : sem (.skip n p) none = ((sem p none).1.drop n, (sem p none).2) := rfl

theorem sem_skip_some (n : Nat) (p : Pipe) (d : Nat) :
    sem (.skip n p) (some d) =
      if d = 0 then ([], 0) else ((sem p (some (d + n))).1.drop n, (sem p (some (d + n))).2) := rfl

theorem sem_concat_none (p q : Pipe) :
    sem (.concat p q) none = ((sem p none).1 ++ (sem q none).1, (sem p none).2 + (sem q none).2) := rfl

theorem sem_concat_some (p q : Pipe) (d : Nat) :
    sem (.concat p q) (some d) =
      if (sem p (some d)).1.length < d then
        ((sem p (some d)).1 ++ (sem q (some (d - (sem p (some d)).1.length))).1,
          (sem p (some d)).2 + (sem q (some (d - (sem p (some d)).1.length))).2)
      else sem p (some d) := rfl

/-- `concat` with the test read off the length `l` of what the first pipeline holds: the second is asked for what the first
could not deliver -/
theorem sem_concat_some_of_length (p q : Pipe) (d l : Nat) (hl : (sem p (some d)).1.length = min d l) :
    sem (.concat p q) (some d) =
      if l < d then ((sem p (some d)).1 ++ (sem q (some (d - l))).1, (sem p (some d)).2 + (sem q (some (d - l))).2)
      else sem p (some d) := by
  rw [sem_concat_some, hl]
  by_cases h : l < d
  · rw [Nat.min_eq_right (Nat.le_of_lt h), if_pos h]
  · rw [Nat.min_eq_left (Nat.le_of_not_lt h), if_neg h, if_neg (Nat.lt_irrefl d)]

theorem sem_flatMap_fst (g : Int → Pipe) (p : Pipe) (dem : Demand) :
    (sem (.flatMap g p) dem).1 = (flatGo (fun a d => sem (g a) d) (listSem p) dem [] 0 0).1 := rfl

/-- a source is advanced once per element delivered, plus once to discover exhaustion -/
theorem cost_src (xs : List Int) : (sem (.src xs) none).2 = xs.length + 1 := rfl

theorem cost_src_some (xs : List Int) (d : Nat) (h : d ≤ xs.length) : (sem (.src xs) (some d)).2 = d := by
  rw [sem_src_some, if_pos h]

theorem cost_src_min (xs : List Int) (d : Nat) : (sem (.src xs) (some d)).2 = min d (xs.length + 1) := by
  rw [sem_src_some]
  split
  · next h => exact (Nat.min_eq_left (Nat.le_succ_of_le h)).symm
  · next h => exact (Nat.min_eq_right (Nat.lt_of_not_le h)).symm

theorem sem_src_append (xs ys : List Int) (d : Nat) (h : d ≤ xs.length) :
    sem (.src (xs ++ ys)) (some d) = sem (.src xs) (some d) := by
  have h' : d ≤ (xs ++ ys).length := by rw [List.length_append]; exact Nat.le_trans h (Nat.le_add_right _ _)
  rw [sem_src_some, sem_src_some, if_pos h, if_pos h', List.take_append_of_le_length h]

theorem needFor_zero (q : Int → Bool) (ys : List Int) : needFor q 0 ys = some 0 := by
  cases ys <;> rfl

theorem needFor_some (q : Int → Bool) : ∀ (d : Nat) (ys : List Int) (k : Nat), needFor q d ys = some k →
    (ys.take k).filter q = (ys.filter q).take d
  | 0, ys, k, h => by
    rw [needFor_zero] at h
    cases h
    rfl
  | d + 1, [], k, h => nomatch h
  | d + 1, y :: ys, k, h => by
    by_cases hq : q y = true
    · rw [needFor, if_pos hq, Option.map_eq_some_iff] at h
      obtain ⟨k', hk', rfl⟩ := h
      rw [List.take_succ_cons, List.filter_cons_of_pos hq, List.filter_cons_of_pos hq, List.take_succ_cons,
        needFor_some q d ys k' hk']
    · rw [needFor, if_neg hq, Option.map_eq_some_iff] at h
      obtain ⟨k', hk', rfl⟩ := h
      rw [List.take_succ_cons, List.filter_cons_of_neg hq, List.filter_cons_of_neg hq,
        needFor_some q (d + 1) ys k' hk']

theorem needFor_none (q : Int → Bool) : ∀ (d : Nat) (ys : List Int), needFor q d ys = none →
    (ys.filter q).length < d
  | 0, ys, h => by
    rw [needFor_zero] at h
    cases h
  | d + 1, [], _ => Nat.succ_pos d
  | d + 1, y :: ys, h => by
    by_cases hq : q y = true
    · rw [needFor, if_pos hq, Option.map_eq_none_iff] at h
      rw [List.filter_cons_of_pos hq, List.length_cons]
      exact Nat.succ_lt_succ (needFor_none q d ys h)
    · rw [needFor, if_neg hq, Option.map_eq_none_iff] at h
      rw [List.filter_cons_of_neg hq]
      exact needFor_none q (d + 1) ys h

theorem scanl'_take (r : Int → Int → Int) : ∀ (s : Int) (ys : List Int) (d : Nat),
    scanl' r s (ys.take d) = (scanl' r s ys).take d
  | _, _, 0 => rfl
  | _, [], _ + 1 => rfl
  | s, y :: ys, d + 1 => by rw [List.take_succ_cons, scanl', scanl', List.take_succ_cons, scanl'_take r (r s y) ys d]

section FlatGo
variable (semG : Int → Demand → List Int × Nat)

theorem flatGo_zero (rest acc : List Int) (c s : Nat) :
    flatGo semG rest (some 0) acc c s = (acc, c, s, false) := by
  cases rest <;> rfl

theorem flatGo_nil_none (acc : List Int) (c s : Nat) :
    flatGo semG [] none acc c s = (acc, c, s, true) := rfl

theorem flatGo_nil_succ (d : Nat) (acc : List Int) (c s : Nat) :
    flatGo semG [] (some (d + 1)) acc c s = (acc, c, s, true) := rfl

theorem flatGo_cons_none (a : Int) (rest acc : List Int) (c s : Nat) :
    flatGo semG (a :: rest) none acc c s =
      flatGo semG rest none (acc ++ (semG a none).1) (c + (semG a none).2) (s + 1) := rfl

/-- The two branches of `flatGo` are one: if this inner meets the demand, the demand left for the inners after it is `0`, and
`flatGo` on `some 0` stops at once. -/
theorem flatGo_cons_succ (a : Int) (rest acc : List Int) (c s d : Nat) :
    flatGo semG (a :: rest) (some (d + 1)) acc c s =
      flatGo semG rest (some (d + 1 - (semG a (some (d + 1))).1.length))
        (acc ++ (semG a (some (d + 1))).1) (c + (semG a (some (d + 1))).2) (s + 1) := by
  rw [flatGo]
  · refine ite_eq_right_iff.mpr fun hc => ?_
    simp only [Option.isSome_some, Option.map_some, Bool.true_and, Bool.and_eq_true, beq_iff_eq,
      Option.some.injEq] at hc
    rw [Option.map_some, hc.1, flatGo_zero]
  · nofun

theorem flatGo_fst (L : Int → List Int) (hn : ∀ a, (semG a none).1 = L a)
    (hs : ∀ a d, (semG a (some d)).1 = (L a).take d) :
    ∀ (rest acc : List Int) (c s : Nat),
      (flatGo semG rest none acc c s).1 = acc ++ rest.flatMap L ∧
      ∀ d, (flatGo semG rest (some d) acc c s).1 = acc ++ (rest.flatMap L).take d
  | [], acc, c, s => by
    refine ⟨(List.append_nil acc).symm, fun d => ?_⟩
    cases d <;> exact (List.append_nil acc).symm
  | a :: rest, acc, c, s => by
    refine ⟨?_, fun d => ?_⟩
    · rw [flatGo_cons_none, (flatGo_fst L hn hs rest _ _ _).1, hn, List.flatMap_cons, List.append_assoc]
    · cases d with
      | zero => rw [flatGo_zero]; exact (List.append_nil acc).symm
      | succ d =>
        rw [flatGo_cons_succ, (flatGo_fst L hn hs rest _ _ _).2, hs, List.flatMap_cons, List.take_append,
          List.append_assoc, List.length_take, sub_min]
end FlatGo

theorem sem_spec (p : Pipe) :
    (sem p none).1 = listSem p ∧ ∀ d, (sem p (some d)).1 = (listSem p).take d := by
  induction p with
  | src xs =>
    refine ⟨rfl, fun d => ?_⟩
    rw [sem_src_some]
    split
    · rfl
    · next h => exact (List.take_of_length_le (Nat.le_of_not_le h)).symm
  | map f p ih =>
    refine ⟨?_, fun d => ?_⟩
    · rw [sem_map, ih.1]; rfl
    · rw [sem_map, ih.2, List.map_take]; rfl
  | filter q p ih =>
    refine ⟨?_, fun d => ?_⟩
    · rw [sem_filter_none, ih.1]; rfl
    · rw [sem_filter_some]
      simp only [listSem]
      cases hk : needFor q d (listSem p) with
      | none => rw [ih.1, List.take_of_length_le (Nat.le_of_lt (needFor_none q d _ hk))]
      | some k => rw [ih.2, needFor_some q d _ k hk]
  | scan r s p ih =>
    refine ⟨?_, fun d => ?_⟩
    · rw [sem_scan, ih.1]; rfl
    · rw [sem_scan, ih.2, scanl'_take]; rfl
  | take n p ih =>
    refine ⟨?_, fun d => ?_⟩
    · rw [sem_take_none, ih.2]; rfl
    · rw [sem_take_some, ih.2, listSem, List.take_take, Nat.min_comm]
  | skip n p ih =>
    refine ⟨?_, fun d => ?_⟩
    · rw [sem_skip_none, ih.1]; rfl
    · rw [sem_skip_some]
      split
      · next h => rw [h, List.take_zero]
      · rw [ih.2, listSem, List.drop_take, Nat.add_sub_cancel]
  | concat p q ihp ihq =>
    refine ⟨?_, fun d => ?_⟩
    · rw [sem_concat_none, ihp.1, ihq.1]; rfl
    · rw [sem_concat_some_of_length p q d _ (by rw [ihp.2, List.length_take]), listSem, List.take_append]
      split
      · rw [ihp.2, ihq.2]
      · next h => rw [ihp.2, Nat.sub_eq_zero_of_le (Nat.le_of_not_lt h), List.take_zero, List.append_nil]
  | flatMap g p ihg _ =>
    have key := flatGo_fst (fun a d => sem (g a) d) (fun a => listSem (g a))
      (fun a => (ihg a).1) (fun a d => (ihg a).2 d) (listSem p) [] 0 0
    refine ⟨?_, fun d => ?_⟩
    · rw [sem_flatMap_fst, key.1]; rfl
    · rw [sem_flatMap_fst, key.2]; rfl

/-- a consumer that pulls until the end receives exactly the list function -/
theorem sem_none (p : Pipe) : (sem p none).1 = listSem p := (sem_spec p).1

/-- a consumer that pulls `d` times receives exactly the first `d` elements of the list function (laziness yields a prefix) -/
theorem sem_some (p : Pipe) (d : Nat) : (sem p (some d)).1 = (listSem p).take d := (sem_spec p).2 d

theorem length_sem_some (p : Pipe) (d : Nat) : (sem p (some d)).1.length = min d (listSem p).length := by
  rw [sem_some, List.length_take]

/-- the order on demands: `some d₁ ≤ some d₂` iff `d₁ ≤ d₂`, and everything is `≤ none` (pull to the end) -/
def Dle : Demand → Demand → Prop
  | _, none => True
  | none, some _ => False
  | some a, some b => a ≤ b

theorem Dle.refl : ∀ d : Demand, Dle d d
  | none => trivial
  | some _ => Nat.le_refl _

theorem Dle.to_none (d : Demand) : Dle d none := by cases d <;> trivial

theorem Dle.zero : ∀ d : Demand, Dle (some 0) d
  | none => trivial
  | some _ => Nat.zero_le _

theorem Dle.map_succ : ∀ {d₁ d₂ : Demand}, Dle d₁ d₂ → Dle (d₁.map (· + 1)) (d₂.map (· + 1))
  | _, none, _ => Dle.to_none _
  | none, some _, h => h.elim
  | some _, some _, h => Nat.succ_le_succ h

theorem Dle.mono {f : Demand → Nat} (hn : ∀ a, f (some a) ≤ f none) (hs : ∀ a b, a ≤ b → f (some a) ≤ f (some b)) :
    ∀ d₁ d₂, Dle d₁ d₂ → f d₁ ≤ f d₂
  | none, none, _ => Nat.le_refl _
  | some a, none, _ => hn a
  | none, some _, h => h.elim
  | some a, some b, h => hs a b h

/-- what is left of a demand after `k` items -/
def dsub : Demand → Nat → Demand
  | none, _ => none
  | some d, k => some (d - k)

theorem dsub_zero (dem : Demand) : dsub dem 0 = dem := by cases dem <;> rfl

theorem dsub_dsub (dem : Demand) (a b : Nat) : dsub (dsub dem a) b = dsub dem (a + b) := by
  cases dem with
  | none => rfl
  | some d => simp only [dsub, Nat.sub_sub]

theorem dsub_add (off k : Nat) : dsub (some (off + k)) off = some k := by simp only [dsub, Nat.add_sub_cancel_left]

theorem dsub_of_le {a off : Nat} (h : a ≤ off) : dsub (some a) off = some 0 := by simp only [dsub, Nat.sub_eq_zero_of_le h]

theorem dle_dsub {d1 d2 : Demand} (h : Dle d1 d2) (k : Nat) : Dle (dsub d1 k) (dsub d2 k) := by
  cases d2 with
  | none => cases d1 <;> trivial
  | some b =>
    cases d1 with
    | none => exact h.elim
    | some a => simp only [Dle, dsub] at h ⊢; omega

theorem needFor_mono (q : Int → Bool) : ∀ (ys : List Int) (d₁ d₂ : Nat), d₁ ≤ d₂ →
    Dle (needFor q d₁ ys) (needFor q d₂ ys)
  | _, 0, _, _ => by rw [needFor_zero]; exact Dle.zero _
  | _, _ + 1, 0, h => absurd h (Nat.not_succ_le_zero _)
  | [], _ + 1, _ + 1, _ => Dle.to_none _
  | y :: ys, d₁ + 1, d₂ + 1, h => by
    rw [needFor, needFor]
    split
    · exact Dle.map_succ (needFor_mono q ys d₁ d₂ (Nat.le_of_succ_le_succ h))
    · exact Dle.map_succ (needFor_mono q ys (d₁ + 1) (d₂ + 1) h)

theorem needFor_lt (q : Int → Bool) : ∀ (d : Nat) (ys : List Int) (m : Nat) (ins : List Int),
    needFor q d ys = some m → ins <+: ys → (ins.filter q).length < d → ins.length < m
  | 0, _, _, _, _, _, h => absurd h (Nat.not_lt_zero _)
  | d + 1, [], m, ins, h, _, _ => nomatch h
  | d + 1, y :: ys, m, [], h, _, _ => by
    rw [needFor] at h
    split at h <;> (obtain ⟨k, _, rfl⟩ := Option.map_eq_some_iff.1 h; exact Nat.succ_pos k)
  | d + 1, y :: ys, m, x :: ins, h, hp, hl => by
    obtain ⟨rfl, hp'⟩ := List.cons_prefix_cons.1 hp
    by_cases hq : q x = true
    · rw [needFor, if_pos hq, Option.map_eq_some_iff] at h
      obtain ⟨k, hk, rfl⟩ := h
      rw [List.filter_cons_of_pos hq, List.length_cons] at hl
      exact Nat.succ_lt_succ (needFor_lt q d ys k ins hk hp' (Nat.lt_of_succ_lt_succ hl))
    · rw [needFor, if_neg hq, Option.map_eq_some_iff] at h
      obtain ⟨k, hk, rfl⟩ := h
      rw [List.filter_cons_of_neg hq] at hl
      exact Nat.succ_lt_succ (needFor_lt q (d + 1) ys k ins hk hp' hl)

theorem needFor_le_prefix (q : Int → Bool) : ∀ (ins ys : List Int), ins <+: ys →
    Dle (needFor q (ins.filter q).length ys) (some ins.length)
  | [], ys, _ => by rw [List.filter_nil, List.length_nil, needFor_zero]; exact Nat.le_refl 0
  | x :: ins, [], hp => absurd (List.prefix_nil.1 hp) (List.cons_ne_nil _ _)
  | x :: ins, y :: ys, hp => by
    obtain ⟨rfl, hp'⟩ := List.cons_prefix_cons.1 hp
    have ih := Dle.map_succ (needFor_le_prefix q ins ys hp')
    by_cases hq : q x = true
    · rw [List.filter_cons_of_pos hq, List.length_cons, needFor, if_pos hq]; exact ih
    · rw [List.filter_cons_of_neg hq]
      -- `x` is dropped: the demand stays, and `needFor` looks at it
      cases hk : (ins.filter q).length with
      | zero => rw [needFor_zero]; exact Nat.zero_le _
      | succ k => rw [hk] at ih; rw [needFor, if_neg hq]; exact ih

section FlatCost
variable (semG : Int → Demand → List Int × Nat) (oc : Demand → Nat)

/-- total cost of `flatten(map(g)(p))` over the remaining outer items: inner advances plus the advances `oc` of the outer, which is
asked for as many items as inners were started (`s` of them before), or run to its end -/
def flatCost : List Int → Demand → Nat → Nat
  | _, some 0, s => oc (some s)
  | [], _, _ => oc none
  | a :: rest, none, s => (semG a none).2 + flatCost rest none (s + 1)
  | a :: rest, some (d + 1), s =>
    if d + 1 ≤ (semG a (some (d + 1))).1.length then (semG a (some (d + 1))).2 + oc (some (s + 1))
    else (semG a (some (d + 1))).2 + flatCost rest (some (d + 1 - (semG a (some (d + 1))).1.length)) (s + 1)

theorem flatCost_zero (rest : List Int) (s : Nat) : flatCost semG oc rest (some 0) s = oc (some s) := by
  cases rest <;> rfl

theorem flatCost_cons_none (a : Int) (rest : List Int) (s : Nat) :
    flatCost semG oc (a :: rest) none s = (semG a none).2 + flatCost semG oc rest none (s + 1) := rfl

/-- as for `flatGo_cons_succ`, the two branches are one -/
theorem flatCost_cons_succ (a : Int) (rest : List Int) (d s : Nat) :
    flatCost semG oc (a :: rest) (some (d + 1)) s =
      (semG a (some (d + 1))).2 + flatCost semG oc rest (some (d + 1 - (semG a (some (d + 1))).1.length)) (s + 1) := by
  rw [flatCost]
  split
  · next h => rw [Nat.sub_eq_zero_of_le h, flatCost_zero]
  · rfl

theorem flatCost_none : ∀ (rest : List Int) (s : Nat),
    flatCost semG oc rest none s = (rest.map (fun a => (semG a none).2)).sum + oc none
  | [], _ => by simp [flatCost]
  | a :: rest, s => by simp only [flatCost, flatCost_none rest (s + 1), List.map_cons, List.sum_cons]; omega

theorem flatGo_cost : ∀ (rest : List Int) (dem : Demand) (acc : List Int) (c s : Nat),
    (flatGo semG rest dem acc c s).2.1 +
        oc (if (flatGo semG rest dem acc c s).2.2.2 then none else some (flatGo semG rest dem acc c s).2.2.1) =
      c + flatCost semG oc rest dem s
  | rest, some 0, acc, c, s => by rw [flatGo_zero, flatCost_zero]; rfl
  | [], none, acc, c, s => rfl
  | [], some (d + 1), acc, c, s => rfl
  | a :: rest, none, acc, c, s => by
    rw [flatGo_cons_none, flatGo_cost rest none, flatCost_cons_none, Nat.add_assoc]
  | a :: rest, some (d + 1), acc, c, s => by
    rw [flatGo_cons_succ, flatGo_cost rest, flatCost_cons_succ, Nat.add_assoc]

variable (hoc : ∀ d₁ d₂, Dle d₁ d₂ → oc d₁ ≤ oc d₂)
include hoc

theorem flatCost_lb : ∀ (rest : List Int) (dem : Demand) (s : Nat), oc (some s) ≤ flatCost semG oc rest dem s
  | _, some 0, _ => by rw [flatCost_zero]; exact Nat.le_refl _
  | [], none, _ => hoc _ _ trivial
  | [], some (_ + 1), _ => hoc _ _ trivial
  | a :: rest, none, s => by
    rw [flatCost_cons_none]
    exact Nat.le_trans (hoc (some s) (some (s + 1)) (Nat.le_succ s))
      (Nat.le_trans (flatCost_lb rest none (s + 1)) (Nat.le_add_left _ _))
  | a :: rest, some (d + 1), s => by
    rw [flatCost_cons_succ]
    exact Nat.le_trans (hoc (some s) (some (s + 1)) (Nat.le_succ s))
      (Nat.le_trans (flatCost_lb rest (some _) (s + 1)) (Nat.le_add_left _ _))

theorem flatCost_mono (L : Int → List Int) (hlen : ∀ a d, (semG a (some d)).1.length = min d (L a).length)
    (hm : ∀ a d₁ d₂, Dle d₁ d₂ → (semG a d₁).2 ≤ (semG a d₂).2) :
    ∀ (rest : List Int) (d₁ d₂ : Demand) (s : Nat), Dle d₁ d₂ →
      flatCost semG oc rest d₁ s ≤ flatCost semG oc rest d₂ s
  | _, some 0, d₂, s, _ => by rw [flatCost_zero]; exact flatCost_lb semG oc hoc _ _ _
  | _, none, none, _, _ => Nat.le_refl _
  | _, none, some _, _, h => h.elim
  | _, some (_ + 1), some 0, _, h => absurd h (Nat.not_succ_le_zero _)
  | [], some (_ + 1), none, _, _ => Nat.le_refl _
  | [], some (_ + 1), some (_ + 1), _, _ => Nat.le_refl _
  | a :: rest, some (d₁ + 1), none, s, _ => by
    rw [flatCost_cons_succ, flatCost_cons_none]
    exact Nat.add_le_add (hm a _ none trivial) (flatCost_mono L hlen hm rest _ none (s + 1) trivial)
  | a :: rest, some (d₁ + 1), some (d₂ + 1), s, h => by
    have h' : d₁ + 1 ≤ d₂ + 1 := h
    rw [flatCost_cons_succ, flatCost_cons_succ, hlen, hlen, sub_min, sub_min]
    exact Nat.add_le_add (hm a _ _ h) (flatCost_mono L hlen hm rest _ _ (s + 1) (Nat.sub_le_sub_right h' _))
end FlatCost

theorem sem_flatMap_cost (g : Int → Pipe) (p : Pipe) (dem : Demand) :
    (sem (.flatMap g p) dem).2 =
      flatCost (fun a d => sem (g a) d) (fun d => (sem p d).2) (listSem p) dem 0 := by
  have := flatGo_cost (fun a d => sem (g a) d) (fun d => (sem p d).2) (listSem p) dem [] 0 0
  rw [Nat.zero_add] at this
  exact this

theorem cost_mono' (p : Pipe) : ∀ d₁ d₂ : Demand, Dle d₁ d₂ → (sem p d₁).2 ≤ (sem p d₂).2 := by
  induction p with
  | src xs =>
    refine Dle.mono (fun a => ?_) (fun a b h => ?_)
    · rw [cost_src_min, cost_src]; exact Nat.min_le_right _ _
    · rw [cost_src_min, cost_src_min]
      exact Nat.le_min.mpr ⟨Nat.le_trans (Nat.min_le_left _ _) h, Nat.min_le_right _ _⟩
  | map f p ih => exact ih
  | filter q p ih =>
    refine Dle.mono (fun a => ?_) (fun a b h => ?_)
    · rw [sem_filter_some]; exact ih _ none (Dle.to_none _)
    · rw [sem_filter_some, sem_filter_some]; exact ih _ _ (needFor_mono q _ a b h)
  | scan r s p ih => exact ih
  | take n p ih =>
    refine Dle.mono (fun a => ?_) (fun a b h => ?_)
    · exact ih (some (min n a)) (some n) (Nat.min_le_left n a)
    · exact ih (some (min n a)) (some (min n b))
        (Nat.le_min.mpr ⟨Nat.min_le_left _ _, Nat.le_trans (Nat.min_le_right _ _) h⟩)
  | skip n p ih =>
    refine Dle.mono (fun a => ?_) (fun a b h => ?_)
    · rw [sem_skip_some]
      split
      · exact Nat.zero_le _
      · exact ih _ none trivial
    · rw [sem_skip_some, sem_skip_some]
      split
      · exact Nat.zero_le _
      · next ha =>
        rw [if_neg (Nat.ne_of_gt (Nat.lt_of_lt_of_le (Nat.pos_of_ne_zero ha) h))]
        exact ih (some (a + n)) (some (b + n)) (Nat.add_le_add_right h n)
  | concat p q ihp ihq =>
    refine Dle.mono (fun a => ?_) (fun a b h => ?_)
    · rw [sem_concat_some]
      split
      · exact Nat.add_le_add (ihp _ none trivial) (ihq _ none trivial)
      · exact Nat.le_trans (ihp _ none trivial) (Nat.le_add_right _ _)
    · rw [sem_concat_some_of_length p q a _ (length_sem_some p a),
        sem_concat_some_of_length p q b _ (length_sem_some p b)]
      have h1 := ihp (some a) (some b) h
      split
      · next ha =>
        rw [if_pos (Nat.lt_of_lt_of_le ha h)]
        exact Nat.add_le_add h1 (ihq (some _) (some _) (Nat.sub_le_sub_right h _))
      · split
        · exact Nat.le_trans h1 (Nat.le_add_right _ _)
        · exact h1
  | flatMap g p ihg ihp =>
    intro d₁ d₂ h
    rw [sem_flatMap_cost, sem_flatMap_cost]
    exact flatCost_mono _ _ ihp (fun a => listSem (g a)) (fun a d => length_sem_some (g a) d)
      (fun a => ihg a) _ _ _ _ h

/-- the iterator is advanced only on demand: pulling `d` times never costs more than pulling to the end -/
theorem cost_mono (p : Pipe) (d : Nat) : (sem p (some d)).2 ≤ (sem p none).2 := cost_mono' p _ _ trivial

/-- a consumer that never pulls advances no iterator -/
theorem cost_zero (p : Pipe) : (sem p (some 0)).2 = 0 := by
  induction p with
  | src xs => exact cost_src_some xs 0 (Nat.zero_le _)
  | map f p ih => exact ih
  | filter q p ih => rw [sem_filter_some, needFor_zero]; exact ih
  | scan r s p ih => exact ih
  | take n p ih => rw [sem_take_some, Nat.min_zero]; exact ih
  | skip n p ih => rfl
  | concat p q ihp ihq => rw [sem_concat_some, if_neg (Nat.not_lt_zero _)]; exact ihp
  | flatMap g p _ ihp => rw [sem_flatMap_cost, flatCost_zero]; exact ihp

/-- take over an arbitrarily long (in the limit: unbounded) iterator stops: the number of iterator advances of `take n` over a
unary chain does not depend on how long the input is beyond what is needed -/
theorem take_stops (n : Nat) (xs ys : List Int) (h : n ≤ xs.length) :
    sem (.take n (.src (xs ++ ys))) none = sem (.take n (.src xs)) none ∧ (sem (.take n (.src xs)) none).2 = n := by
  rw [sem_take_none, sem_take_none, sem_src_append xs ys n h]
  exact ⟨rfl, cost_src_some xs n h⟩

theorem take_map_stops (n : Nat) (f : Int → Int) (xs ys : List Int) (h : n ≤ xs.length) :
    sem (.take n (.map f (.src (xs ++ ys)))) none = sem (.take n (.map f (.src xs))) none := by
  rw [sem_take_none, sem_take_none, sem_map, sem_map, sem_src_append xs ys n h]

end Cb

#print axioms Cb.sem_none
#print axioms Cb.sem_some
#print axioms Cb.cost_mono'
#print axioms Cb.cost_mono
#print axioms Cb.cost_zero
#print axioms Cb.cost_src
#print axioms Cb.cost_src_some
#print axioms Cb.take_stops
#print axioms Cb.take_map_stops
