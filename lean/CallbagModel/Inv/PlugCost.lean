import CallbagModel.Inv.ConcatN
import CallbagModel.Closed.Prog2Def
import CallbagModel.Inv.ComposeCost
/-!
# The cost of joins that are run to their end: `concat!` (binary, n-ary), member by member

`CostN M nx c`: at every reachable configuration of the closed head `M` the counter `nx` (iterator advances) is at most `c`, and at top
level, once `M` has delivered its terminal, it is at least `c` — the cost under the demand "everything" (`none` of `Ops/Pipeline.lean`).

`PartK n js c M nx`: the n-ary `concat` machine with the slots in `js` plugged (in any order) by closed heads whose costs are `c i`.
`nx` of a plugged network is the SUM over the members, so the bounds add up; the lower bound uses "delivered the terminal ⇒ every member
has ended" (`K1`, `K2` of `Inv/ConcatK.lean`, no member sends `Error`).  For `flatPlug Mo Mi initOf` the cost, `flat_cost`, is the demand
`none` of `Inv/FlatDemandCost.lean` and is proved there.

This is the demand `none` only: a join under a `take` is asked for less, and the rule for that is NOT here (see the header of `Closed/Prog3.lean`
for why the obvious rule is false for members that end on their own).
-/
namespace Cb
namespace PlugCost
open ComposeFun PlugSafe PlugConcat ConcatN

structure CostN {St Loc α β : Type} (M : Machine St Loc α β) (nx : St → Nat) (c : Nat) : Prop where
  ub : ∀ s, SReach M s → nx s.st ≤ c
  lb : ∀ s, SReach M s → s.stack = [] → s.g.ph.sinkPh 0 = .doneBySrc → c ≤ nx s.st

section Partial

/-- the cost of member `i` counts once it has ended -/
def endC (ph : Ph) (c : Nat → Nat) (i : Nat) : Nat :=
  match ph.srcPh i with
  | .ended => c i
  | _ => 0

theorem endC_ended {ph : Ph} {c : Nat → Nat} {i : Nat} (h : ph.srcPh i = .ended) : endC ph c i = c i := by simp [endC, h]

structure PartK {St Loc : Type} (n : Nat) (js : List Nat) (c : Nat → Nat) (M : Machine St Loc Int Int) (nx : St → Nat) : Prop where
  up : UpSide M
  proj : ∀ s, SReach M s → ∃ sC : CSys Int, SReach (Concat.machine Int n) sC ∧ sC.panicked = none ∧ View js s sC ∧
    (∀ i ∈ js, ∀ e, SrcEv.down i (Down.err e) ∉ srcEvs sC.tr) ∧
    nx s.st ≤ (js.map c).sum ∧
    (s.stack = [] → (js.map (endC sC.g.ph c)).sum ≤ nx s.st)

theorem PartK.base (n : Nat) (hn : 0 < n) (c : Nat → Nat) : PartK n [] c (Concat.machine Int n) (fun _ => 0) := by
  refine ⟨Concat.upSide n hn, fun s hs => ?_⟩
  exact ⟨s, hs, (Concat.concat_basicSafe n hn s hs).2, .refl s, (fun i hi => by cases hi), Nat.le_refl _, fun _ => Nat.le_refl _⟩

theorem PartK.plug {SA LA αA St Loc : Type} {A : Machine SA LA αA Int} {M : Machine St Loc Int Int} {n k : Nat} {js : List Nat}
    {c : Nat → Nat} {nx : St → Nat} {nxA : SA → Nat} {ys : List Int}
    (hM : PartK n js c M nx) (hk : k ∉ js) (hA : HeadOkT A ys) (NA : ComposeFull.NoUpstream A) (cA : CostN A nxA (c k)) :
    PartK n (k :: js) c (Cb.plug k A M) (fun st => nxA st.1 + nx st.2) := by
  have H : HypP A M := hypP_of hA.head.up NA hM.up.safe
  refine ⟨UpSide.plug H k hM.up, fun s hs => ?_⟩
  obtain ⟨sA, sM, hrA, hrM, hst, _, htop, hview⟩ := View.plug H hk s hs
  obtain ⟨sC, hrC, hpC, hv, hne, hub, hlb⟩ := hM.proj sM hrM
  obtain ⟨hv', hifc⟩ := hview sC hv
  refine ⟨sC, hrC, hpC, hv', fun i hm e => ?_, ?_, fun hstk => ?_⟩
  · rcases List.mem_cons.1 hm with rfl | hm
    · exact hifc.noErr (hA.noErr sA hrA) e
    · exact hne i hm e
  · rw [hst]
    simp only [List.map_cons, List.sum_cons]
    have := cA.ub sA hrA
    omega
  · obtain ⟨hkA, hkM⟩ := htop hstk
    rw [hst]
    simp only [List.map_cons, List.sum_cons]
    have h2 := hlb hkM
    have h1 : endC sC.g.ph c k ≤ nxA sA.st := by
      unfold endC
      split
      · rename_i hp; exact cA.lb sA hrA hkA (hifc.ended hp)
      · exact Nat.zero_le _
    omega

theorem PartK.cost {St Loc : Type} {M : Machine St Loc Int Int} {n : Nat} (hn : 0 < n) {js : List Nat} {c : Nat → Nat} {nx : St → Nat}
    (hM : PartK n js c M nx) (hall : ∀ i, i < n → i ∈ js) (hlt : ∀ i ∈ js, i < n) : CostN M nx (js.map c).sum := by
  refine ⟨fun s hs => ?_, fun s hs hstk hd => ?_⟩
  · obtain ⟨sC, _, _, _, _, hub, _⟩ := hM.proj s hs
    exact hub
  · obtain ⟨sC, hrC, hpC, hv, hne, _, hlb⟩ := hM.proj s hs
    have hend := hv.all_ended hn hrC hpC (fun i hi => hne i (hall i hi)) hd
    have := hlb hstk
    rw [List.map_congr_left (f := endC sC.g.ph c) (g := c) (fun i hi => endC_ended (hend i (hlt i hi)))] at this
    exact this

end Partial

section Driver
open Closed ComposeFull

theorem sum_downFrom_getD (cs : List Nat) : ((downFrom cs.length).map (fun i => cs.getD i 0)).sum = cs.sum := by
  have key : ∀ m, m ≤ cs.length → ((downFrom m).map (fun i => cs.getD i 0)).sum = (cs.take m).sum := by
    intro m
    induction m with
    | zero => intro _; simp [downFrom]
    | succ m ih =>
      intro hm
      have hlt : m < cs.length := by omega
      simp only [downFrom, List.map_cons, List.sum_cons]
      rw [ih (by omega), List.take_add_one, List.getElem?_eq_getElem hlt, List.sum_append]
      simp [List.getD_eq_getElem?_getD, List.getElem?_eq_getElem hlt, Nat.add_comm]
  rw [key _ (Nat.le_refl _), List.take_length]

/-- **binary `concat!`**, the term of the driver: the costs add up -/
theorem concat2_cost {A B : AnyM} {ysA ysB : List Int} {cA cB : Nat}
    (hA : HeadOkT A.M ysA) (NA : NoUpstream A.M) (kA : CostN A.M A.nexts cA)
    (hB : HeadOkT B.M ysB) (NB : NoUpstream B.M) (kB : CostN B.M B.nexts cB) :
    CostN (plugM 0 A (plugM 1 B concat2M)).M (plugM 0 A (plugM 1 B concat2M)).nexts (cA + cB) := by
  have h2 : (0 : Nat) < 2 := by decide
  let c : Nat → Nat := fun i => if i = 0 then cA else cB
  have h0 := PartK.base 2 h2 c
  have h1 := h0.plug (k := 1) (nxA := B.nexts) (by simp) hB NB (by simpa [c] using kB)
  have h3 := h1.plug (k := 0) (nxA := A.nexts) (by simp) hA NA (by simpa [c] using kA)
  have := h3.cost h2 (fun i hi => by simp; omega) (fun i hi => by simp at hi; omega)
  have h4 : (([0, 1] : List Nat).map c).sum = cA + cB := by simp [c]
  rw [h4] at this
  exact this

/-- **n-ary `concat!`**, the term of the driver: the costs add up -/
theorem concatM_cost (As : List AnyM) (hne : 0 < As.length) (cs : List Nat)
    (h : ∀ i (hi : i < As.length), ∃ ys, HeadOkT As[i].M ys ∧ NoUpstream As[i].M ∧ CostN As[i].M As[i].nexts (cs.getD i 0))
    (hlen : cs.length = As.length) :
    CostN (concatM As).M (concatM As).nexts cs.sum := by
  have := concatM_fold (P := fun k acc => PartK As.length (downFrom k) (fun i => cs.getD i 0) acc.M acc.nexts)
    (Q := fun k A => ∃ ys, HeadOkT A.M ys ∧ NoUpstream A.M ∧ CostN A.M A.nexts (cs.getD k 0)) As (PartK.base As.length hne _)
    (fun k A acc hM ⟨ys, hA, NA, cA⟩ => hM.plug (not_mem_downFrom k) hA NA cA) h
  have hc := this.cost hne (fun i hi => mem_downFrom.2 hi) (fun i hi => mem_downFrom.1 hi)
  have hs : ((downFrom As.length).map (fun i => cs.getD i 0)).sum = cs.sum := by rw [← hlen]; exact sum_downFrom_getD cs
  rw [hs] at hc
  exact hc

end Driver

end PlugCost
end Cb

#print axioms Cb.PlugCost.PartK.plug
#print axioms Cb.PlugCost.PartK.cost
#print axioms Cb.PlugCost.concat2_cost
#print axioms Cb.PlugCost.concatM_cost
