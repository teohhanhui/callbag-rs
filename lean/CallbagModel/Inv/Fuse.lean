import CallbagModel.Sem
import CallbagModel.Ops.Relay
import CallbagModel.Ops.Compose
import CallbagModel.Inv.Relay
import CallbagModel.Inv.TraceGhost
import CallbagModel.Inv.Runs
/-!
# Fusion: a pipeline of two relays is, at its boundary, ONE relay with the fused transfer function

Every handler of a relay runs to exactly one call.  The run of the pipeline on an environment move is written out step by step
(`Runs.tau`, `Runs.call`) from the steps of the two relays (`Relay.step_*`) through the one-step equations of `compose`
(`compose_lo_*`, `compose_hi_*`, `Inv/Runs.lean`); it ends in the same call as the run of the fused relay on that move (`sim_step`).
-/
namespace Cb.Fuse
open Cb.Relay

variable {σ₁ σ₂ α β γ : Type}

/-- the transfer function of `op₂ ∘ op₁`: feed the datum to `k₁`; if it passes, feed the result to `k₂`; a drop at either stage is a drop -/
def fuse (k₁ : Relay.Kind σ₁ α β) (k₂ : Relay.Kind σ₂ β γ) : Relay.Kind (σ₁ × σ₂) α γ where
  slotted := k₁.slotted || k₂.slotted
  seed := (k₁.seed, k₂.seed)
  xfer s a := match (k₁.xfer s.1 a).2 with
    | some b => (((k₁.xfer s.1 a).1, (k₂.xfer s.2 b).1), (k₂.xfer s.2 b).2)
    | none => (((k₁.xfer s.1 a).1, s.2), none)

abbrev CLoc (α β γ : Type) := List (CFr (Loc α β) (Loc β γ))

abbrev comp (k₁ : Relay.Kind σ₁ α β) (k₂ : Relay.Kind σ₂ β γ) := compose (Relay.machine k₁) (Relay.machine k₂)

theorem shape_eq (k₁ : Relay.Kind σ₁ α β) (k₂ : Relay.Kind σ₂ β γ) :
    (comp k₁ k₂).shape = (Relay.machine (fuse k₁ k₂)).shape := rfl

/-- every call of a relay is a tail call: the component frames of a waiting composite are finished handler bodies -/
def DoneFr : CFr (Loc α β) (Loc β γ) → Prop
  | .lo .done => True
  | .hi .done => True
  | _ => False

/-- the composite's stack and the fused relay's stack: the same open calls, in the same order -/
inductive StkRel : List (Frame (CLoc α β γ) γ) → List (Frame (Loc α γ) γ) → Prop where
  | nil : StkRel [] []
  | cons {o cfs r r'} : (∀ f ∈ cfs, DoneFr f) → StkRel r r' → StkRel (.wait o cfs :: r) (.wait o .done :: r')

theorem StkRel.length {r : List (Frame (CLoc α β γ) γ)} {r' : List (Frame (Loc α γ) γ)} (h : StkRel r r') :
    r.length = r'.length := by
  induction h with
  | nil => rfl
  | cons _ _ ih => simp [ih]

theorem StkRel.ctx {r : List (Frame (CLoc α β γ) γ)} {r' : List (Frame (Loc α γ) γ)} (h : StkRel r r') :
    ctxOf r = ctxOf r' := by
  cases h <;> rfl

theorem StkRel.isSome {r : List (Frame (CLoc α β γ) γ)} {r' : List (Frame (Loc α γ) γ)} (h : StkRel r r') :
    (ctxOf r).isSome = true ∧ (ctxOf r').isSome = true := by
  cases h <;> simp [ctxOf]

/-- `DoneFr` as a test, so that it holds of a concrete continuation by evaluation -/
def isDone : CFr (Loc α β) (Loc β γ) → Bool
  | .lo .done | .hi .done => true
  | _ => false

theorem doneFr_of_all {cfs : CLoc α β γ} (h : cfs.all isDone = true) : ∀ f ∈ cfs, DoneFr f := by
  intro f hf
  have := List.all_eq_true.1 h f hf
  cases f with
  | lo l => cases l <;> first | trivial | cases this
  | hi l => cases l <;> first | trivial | cases this

theorem sinkPh_flag (g : Ph) (v : Viol) (k : Nat) : (g.flag v).sinkPh k = g.sinkPh k := rfl
theorem srcPh_flag (g : Ph) (v : Viol) (k : Nat) : (g.flag v).srcPh k = g.srcPh k := rfl

section
variable (k₁ : Relay.Kind σ₁ α β) (k₂ : Relay.Kind σ₂ β γ)

theorem fuse_xfer_drop {s : σ₁ × σ₂} {a : α} (h : (k₁.xfer s.1 a).2 = none) :
    (fuse k₁ k₂).xfer s a = (((k₁.xfer s.1 a).1, s.2), none) := by
  simp only [fuse, h]

theorem fuse_xfer_pass {s : σ₁ × σ₂} {a : α} {b : β} (h : (k₁.xfer s.1 a).2 = some b) :
    (fuse k₁ k₂).xfer s a = (((k₁.xfer s.1 a).1, (k₂.xfer s.2 b).1), (k₂.xfer s.2 b).2) := by
  simp only [fuse, h]

end

theorem fuse_side (k₁ : Relay.Kind σ₁ α β) (k₂ : Relay.Kind σ₂ β γ)
    (h₁ : k₁.slotted = false → ∀ s a, (k₁.xfer s a).2 ≠ none) (h₂ : k₂.slotted = false → ∀ s b, (k₂.xfer s b).2 ≠ none) :
    (fuse k₁ k₂).slotted = false → ∀ s a, ((fuse k₁ k₂).xfer s a).2 ≠ none := by
  intro hf s a
  simp only [fuse, Bool.or_eq_false_iff] at hf
  cases hx : (k₁.xfer s.1 a).2 with
  | none => exact absurd hx (h₁ hf.1 _ _)
  | some b => rw [fuse_xfer_pass k₁ k₂ hx]; exact h₂ hf.2 _ _

/-- the slots of the two relays are filled together with the slot of the fused relay (at the greeting from upstream); that the
fused slot is filled whenever it is read is the fused relay's own invariant (`Relay.slot_of_live`) -/
structure Sim (k₁ : Relay.Kind σ₁ α β) (k₂ : Relay.Kind σ₂ β γ)
    (s : Sys (St σ₁ × St σ₂) (CLoc α β γ) α γ) (s' : Sys (St (σ₁ × σ₂)) (Loc α γ) α γ) : Prop where
  g : s'.g = s.g
  tr : s'.tr = s.tr
  p : s.panicked = none
  p' : s'.panicked = none
  priv : s'.st.priv = (s.st.1.priv, s.st.2.priv)
  slot₁ : s.st.1.slot = (k₁.slotted && s'.st.slot)
  slot₂ : s.st.2.slot = (k₂.slotted && s'.st.slot)
  stk : StkRel s.stack s'.stack

section
variable {k₁ : Relay.Kind σ₁ α β} {k₂ : Relay.Kind σ₂ β γ}

theorem Sim.turn {s s'} (h : Sim k₁ k₂ s s') : EnvTurn s ∧ EnvTurn s' :=
  ⟨⟨h.p, h.stk.isSome.1⟩, ⟨h.p', h.stk.isSome.2⟩⟩

theorem Sim.filled {s s'} (h : Sim k₁ k₂ s s') (hf : (fuse k₁ k₂).slotted = true → s'.st.slot = true) :
    (k₁.slotted = true → s.st.1.slot = true) ∧ (k₂.slotted = true → s.st.2.slot = true) :=
  ⟨fun h1 => by rw [h.slot₁, h1, hf (by simp [fuse, h1])]; rfl, fun h2 => by rw [h.slot₂, h2, hf (by simp [fuse, h2])]; rfl⟩

theorem Sim.of_runs {st st' : St σ₁ × St σ₂} {cfs dones : CLoc α β γ} {fs fs' : St (σ₁ × σ₂)} {l : Loc α γ} {o : Out γ}
    {stk : List (Frame (CLoc α β γ) γ)} {stk' : List (Frame (Loc α γ) γ)} {g : G} {tr : List (Ev α γ)}
    (hc : Runs (comp k₁ k₂) st cfs st' (some (o, dones))) (hf : Runs (machine (fuse k₁ k₂)) fs l fs' (some (o, .done)))
    (hd : dones.all isDone = true) (hstk : StkRel stk stk') (hpr : fs'.priv = (st'.1.priv, st'.2.priv))
    (hs1 : st'.1.slot = (k₁.slotted && fs'.slot)) (hs2 : st'.2.slot = (k₂.slotted && fs'.slot)) :
    ∃ n n', Sim k₁ k₂ (advance (comp k₁ k₂) n ⟨st, .run cfs :: stk, g, tr, none⟩)
      (advance (machine (fuse k₁ k₂)) n' ⟨fs, .run l :: stk', g, tr, none⟩) := by
  obtain ⟨n, hn⟩ := hc stk g tr
  obtain ⟨n', hn'⟩ := hf stk' g tr
  exact ⟨n, n', by rw [hn, hn']; exact ⟨rfl, rfl, rfl, rfl, hpr, hs1, hs2, .cons (doneFr_of_all hd) hstk⟩⟩

theorem step_dones (st : St σ₁ × St σ₂) {f : CFr (Loc α β) (Loc β γ)} (hf : DoneFr f) (rest : CLoc α β γ) :
    (comp k₁ k₂).step st (f :: rest) = if rest.isEmpty then .ret else .tau st rest :=
  match f, hf with
  | .lo .done, _ => rfl
  | .hi .done, _ => rfl

theorem ret_dones (cfs : CLoc α β γ) (h : ∀ f ∈ cfs, DoneFr f) (st : St σ₁ × St σ₂) (stk : List (Frame (CLoc α β γ) γ)) (g : G) (tr : List (Ev α γ)) :
    ∃ n, advance (comp k₁ k₂) n ⟨st, .run cfs :: stk, g, tr, none⟩ = ⟨st, stk, g.onRetO stk.length, .retO :: tr, none⟩ := by
  induction cfs with
  | nil => exact ⟨1, rfl⟩
  | cons f rest ih =>
    have hs := step_dones (k₁ := k₁) (k₂ := k₂) st (h f List.mem_cons_self) rest
    cases rest with
    | nil => exact ⟨1, by simp [advance, opStep, hs]⟩
    | cons f' rest' =>
      obtain ⟨n, hn⟩ := ih fun f' hf' => h f' (List.mem_cons_of_mem _ hf')
      exact ⟨n + 1, by simpa [advance, opStep, hs] using hn⟩

theorem sim_step (h₁ : k₁.slotted = false → ∀ s a, (k₁.xfer s a).2 ≠ none) (h₂ : k₂.slotted = false → ∀ s b, (k₂.xfer s b).2 ≠ none)
    {s t : Sys (St σ₁ × St σ₂) (CLoc α β γ) α γ} {s' : Sys (St (σ₁ × σ₂)) (Loc α γ) α γ} {m : Move α}
    (hr : SReach (machine (fuse k₁ k₂)) s') (hs : Sim k₁ k₂ s s') (he : EnvStep (comp k₁ k₂) m s t) :
    ∃ t', EnvStep (machine (fuse k₁ k₂)) m s' t' ∧
      ∃ n n', Sim k₁ k₂ (advance (comp k₁ k₂) n t) (advance (machine (fuse k₁ k₂)) n' t') := by
  have filled := fun {j} hl => slot_of_live (fuse k₁ k₂) (fuse_side k₁ k₂ h₁ h₂) hr hs.turn.2 (j := j) hl
  have filled₁₂ := fun {j} hl => hs.filled (filled (j := j) hl)
  obtain ⟨hg, htr, _, hp', hpriv, hs1, hs2, hstk⟩ := hs
  obtain ⟨⟨sl', pr'⟩, stk', g', tr', p'⟩ := s'
  cases he with
  | @call st stk g tr c i hc hl =>
    obtain ⟨⟨sl1, p1⟩, ⟨sl2, p2⟩⟩ := st
    simp only at hg htr hp' hpriv hs1 hs2 hstk filled filled₁₂
    subst hg htr hp' hpriv
    refine ⟨_, EnvStep.call i (hstk.ctx ▸ hc) hl, ?_⟩
    rw [← hstk.length]
    -- one constructor per micro-step: the pipeline's run on the left, the fused relay's on the right
    cases i with
    | subscribe k =>
      exact Sim.of_runs (.tau (compose_hi_subSrc rfl) (.call (compose_lo_subSrc rfl))) (.call rfl) rfl hstk rfl hs1 hs2
    | sinkUp k u =>
      have live := Or.inl (b := g'.ph.srcPh k = .live) (legal_sinkUp hl)
      exact Sim.of_runs
        (.tau (compose_hi_srcUp (step_u0 k₂ u (filled₁₂ live).2)) (.call (compose_lo_srcUp (step_u0 k₁ u (filled₁₂ live).1))))
        (.call (step_u0 _ u (filled live))) rfl hstk rfl hs1 hs2
    | srcGreet j =>
      refine Sim.of_runs
        (.tau (compose_lo_tau (step_g0 k₁)) (.tau (compose_lo_greet rfl) (.tau (compose_hi_tau (step_g0 k₂)) (.call (compose_hi_greet rfl)))))
        (.tau (step_g0 _) (.call rfl)) rfl hstk rfl ?_ ?_
      · simp only [hs1, fuse]; cases k₁.slotted <;> simp
      · simp only [hs2, fuse]; cases k₂.slotted <;> simp
    | srcDown j d =>
      have live := Or.inr (a := g'.ph.sinkPh j = .live) (legal_srcDown hl)
      obtain ⟨f1, f2⟩ := filled₁₂ live
      cases d with
      | data a =>
        cases hx1 : (k₁.xfer p1 a).2 with
        | none =>
          have hk1 := slotted_of_drop k₁ h₁ hx1
          have hx := fuse_xfer_drop k₁ k₂ (s := (p1, p2)) hx1
          exact Sim.of_runs (.tau (compose_lo_tau (step_d0_drop k₁ hx1)) (.call (compose_lo_srcUp (step_repull k₁ (f1 hk1)))))
            (.tau (step_d0_drop _ (by rw [hx])) (.call (step_repull _ (filled live (by simp [fuse, hk1])))))
            rfl hstk (by simp only [hx]) hs1 hs2
        | some b =>
          have hx := fuse_xfer_pass k₁ k₂ (s := (p1, p2)) hx1
          cases hx2 : (k₂.xfer p2 b).2 with
          | none =>
            have hk2 := slotted_of_drop k₂ h₂ hx2
            exact Sim.of_runs
              (.tau (compose_lo_tau (step_d0_pass k₁ hx1)) (.tau (compose_lo_down rfl) (.tau (compose_hi_tau (step_d0_drop k₂ hx2))
                (.tau (compose_hi_srcUp (step_repull k₂ (f2 hk2))) (.call (compose_lo_srcUp (step_u0 k₁ .pull f1)))))))
              (.tau (step_d0_drop _ (by rw [hx]; exact hx2)) (.call (step_repull _ (filled live (by simp [fuse, hk2])))))
              rfl hstk (by simp only [hx]) hs1 hs2
          | some c' =>
            exact Sim.of_runs
              (.tau (compose_lo_tau (step_d0_pass k₁ hx1)) (.tau (compose_lo_down rfl) (.tau (compose_hi_tau (step_d0_pass k₂ hx2))
                (.call (compose_hi_down rfl)))))
              (.tau (step_d0_pass _ (by rw [hx]; exact hx2)) (.call rfl)) rfl hstk (by simp only [hx]) hs1 hs2
      | term | err e =>
        exact Sim.of_runs (.tau (compose_lo_down rfl) (.call (compose_hi_down rfl))) (.call rfl) rfl hstk rfl hs1 hs2
  | @ret st stk g tr o l hl =>
    simp only at hg htr hp' hpriv hs1 hs2 hstk
    subst hg htr hp' hpriv
    cases hstk with
    | @cons _ _ _ r' hd hrest =>
      refine ⟨_, EnvStep.ret hl, ?_⟩
      obtain ⟨n, hn⟩ := ret_dones (k₁ := k₁) (k₂ := k₂) l hd st stk g' (.retE :: tr')
      exact ⟨n, 1, by rw [hn, hrest.length]; exact ⟨rfl, rfl, rfl, rfl, rfl, hs1, hs2, hrest⟩⟩

end

def Inv (k₁ : Relay.Kind σ₁ α β) (k₂ : Relay.Kind σ₂ β γ) (s : Sys (St σ₁ × St σ₂) (CLoc α β γ) α γ) : Prop :=
  ∃ s', SReach (machine (fuse k₁ k₂)) s' ∧ Sim k₁ k₂ s s'

theorem inv_init (k₁ : Relay.Kind σ₁ α β) (k₂ : Relay.Kind σ₂ β γ) : Inv k₁ k₂ (Sys.init (comp k₁ k₂)) :=
  ⟨Sys.init (machine (fuse k₁ k₂)), .init, ⟨rfl, rfl, rfl, rfl, rfl, (Bool.and_false _).symm, (Bool.and_false _).symm, .nil⟩⟩

theorem inv_step (k₁ : Relay.Kind σ₁ α β) (k₂ : Relay.Kind σ₂ β γ)
    (h₁ : k₁.slotted = false → ∀ s a, (k₁.xfer s a).2 ≠ none) (h₂ : k₂.slotted = false → ∀ s b, (k₂.xfer s b).2 ≠ none)
    (s t : Sys (St σ₁ × St σ₂) (CLoc α β γ) α γ) (m : Move α) (h : Inv k₁ k₂ s) (he : EnvStep (comp k₁ k₂) m s t) :
    ∃ n, Inv k₁ k₂ (advance (comp k₁ k₂) n t) := by
  obtain ⟨s', hr, hsim⟩ := h
  obtain ⟨t', he', n, n', hsim'⟩ := sim_step h₁ h₂ hr hsim he
  exact ⟨n, _, (SReachR.step hr (.env he' trivial)).advance n', hsim'⟩

theorem runs_into_inv (k₁ : Relay.Kind σ₁ α β) (k₂ : Relay.Kind σ₂ β γ)
    (h₁ : k₁.slotted = false → ∀ s a, (k₁.xfer s a).2 ≠ none) (h₂ : k₂.slotted = false → ∀ s b, (k₂.xfer s b).2 ≠ none) :
    ∀ s, SReach (comp k₁ k₂) s → ∃ n, Inv k₁ k₂ (advance (comp k₁ k₂) n s) :=
  reach_runs_into_inv (comp k₁ k₂) anyEnv (Inv k₁ k₂) (inv_init k₁ k₂)
    (fun s hi => by obtain ⟨s', _, hsim⟩ := hi; exact hsim.turn.1)
    (fun s t m hi he _ => inv_step k₁ k₂ h₁ h₂ s t m hi he)

/-- every configuration of the two-stage pipeline in which the environment has control has the same boundary trace, the same ghost
monitor state and the same panic flag as a reachable configuration of the fused relay -/
theorem compose_relay_refines {σ₁ σ₂ α β γ : Type} (k₁ : Relay.Kind σ₁ α β) (k₂ : Relay.Kind σ₂ β γ)
    (h₁ : k₁.slotted = false → ∀ s a, (k₁.xfer s a).2 ≠ none) (h₂ : k₂.slotted = false → ∀ s b, (k₂.xfer s b).2 ≠ none) :
    ∀ s, SReach (compose (Relay.machine k₁) (Relay.machine k₂)) s → EnvTurn s →
      ∃ s', SReach (Relay.machine (fuse k₁ k₂)) s' ∧ EnvTurn s' ∧ s'.tr = s.tr ∧ s'.g = s.g ∧ s'.panicked = s.panicked ∧
        s'.st.priv = (s.st.1.priv, s.st.2.priv) := by
  intro s hs ht
  obtain ⟨n, hn⟩ := runs_into_inv k₁ k₂ h₁ h₂ s hs
  rw [advance_of_envTurn ht] at hn
  obtain ⟨s', hr, hsim⟩ := hn
  exact ⟨s', hr, hsim.turn.2, hsim.tr, hsim.g, by rw [hsim.p, hsim.p'], hsim.priv⟩

/-- consequence: the composite never panics and is never stuck in the middle of a macro-step — from every reachable configuration
it runs into an environment turn -/
theorem compose_relay_runs_to_turn (k₁ : Relay.Kind σ₁ α β) (k₂ : Relay.Kind σ₂ β γ)
    (h₁ : k₁.slotted = false → ∀ s a, (k₁.xfer s a).2 ≠ none) (h₂ : k₂.slotted = false → ∀ s b, (k₂.xfer s b).2 ≠ none) :
    ∀ s, SReach (comp k₁ k₂) s → ∃ n, EnvTurn (advance (comp k₁ k₂) n s) := by
  intro s hs
  obtain ⟨n, s', _, hsim⟩ := runs_into_inv k₁ k₂ h₁ h₂ s hs
  exact ⟨n, hsim.turn.1⟩

/-- transfer, worked once: phase-level safety (C01–C04 protocol part, C17) of the two-stage pipeline, at EVERY small-step reachable
configuration, from `relay_basicSafe` of the fused relay -/
theorem compose_relay_basicSafe (k₁ : Relay.Kind σ₁ α β) (k₂ : Relay.Kind σ₂ β γ)
    (h₁ : k₁.slotted = false → ∀ s a, (k₁.xfer s a).2 ≠ none) (h₂ : k₂.slotted = false → ∀ s b, (k₂.xfer s b).2 ≠ none) :
    ∀ s, SReach (comp k₁ k₂) s → BasicSafe s :=
  basicSafe_of_macro_inv (comp k₁ k₂) (Inv k₁ k₂) (inv_init k₁ k₂)
    (fun s hi => by
      obtain ⟨s', hr, hsim⟩ := hi
      have hb := relay_basicSafe (fuse k₁ k₂) (fuse_side k₁ k₂ h₁ h₂) s' hr
      exact ⟨hsim.turn.1, by rw [← hsim.g]; exact hb.1, hsim.p⟩)
    (fun s t m hi he => inv_step k₁ k₂ h₁ h₂ s t m hi he)

end Cb.Fuse

#print axioms Cb.Fuse.compose_relay_refines
#print axioms Cb.Fuse.compose_relay_basicSafe
