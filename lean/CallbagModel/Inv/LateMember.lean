import CallbagModel.Inv.PlugOpSafe
import CallbagModel.Inv.Merge
import CallbagModel.Thm.Replay
/-!
# Relays and `take` as MEMBERS of `merge!`: safety under a late-greeting upstream, and `plugOp` into `merge`

`plugOp j M₁ M₂` has `M₂`'s shape.  For `M₂ = Merge.machine α n true` the environment may return from the call that subscribes
upstream `j` without greeting and greet later at top level — and upstream `j` of the composite is upstream 0 of the member operator
`M₁`.  So `M₁` must be safe under the shape `lateGreet := true` (`late M₁`).

* `late M` runs as `M` does (`advance_late`), and its environment makes the moves of `M`'s or one of two more (`LateStep`).  The
  invariant is `Relay.Inv` / `Take.Inv` or one more configuration (`Pending`:
  sink and upstream `subscribed`, the subscribing call has returned, stack `[]`); in it nothing is legal but the late greeting (the sink
  cannot act before it is greeted, K0; the upstream cannot deliver before it greets), after which the operator greets its sink at top
  level.
* Instances of `plugOp_basicSafe'` (`Inv/PlugOpSafe.lean`): relays and `take` in a slot of `merge!`; they subscribe
  their upstream only inside their own subscription (`SubIn1`), and `Open2` is false for `merge` (`merge_not_open2`).
-/
namespace Cb

/-- the same operator in an environment whose upstreams may greet late -/
def late {St Loc α β : Type} (M : Machine St Loc α β) : Machine St Loc α β :=
  { M with shape := { M.shape with lateGreet := true } }

section Late
variable {St Loc α β : Type} (M : Machine St Loc α β)

theorem opStep_late (s : Sys St Loc α β) : opStep (late M) s = opStep M s := rfl

theorem advance_late (n : Nat) (s : Sys St Loc α β) : advance (late M) n s = advance M n s := by
  induction n generalizing s with
  | zero => rfl
  | succ n ih => simp only [advance, opStep_late, ih]

/-- the two moves that only an environment with late greeters makes: greeting at top level, and returning from a subscription
without having greeted -/
inductive LateStep : Sys St Loc α β → Sys St Loc α β → Prop where
  | greet {st g tr} (i : Nat) : g.ph.srcPh i = .subscribed →
      LateStep ⟨st, [], g, tr, none⟩ ⟨st, [.run (M.enter (.srcGreet i))], g.onIn 0 (.srcGreet i : In α), .inp (.srcGreet i) :: tr, none⟩
  | ret {st stk g tr i l} : g.ph.srcPh i = .subscribed →
      LateStep ⟨st, .wait (.subSrc i) l :: stk, g, tr, none⟩ ⟨st, .run l :: stk, g, .retE :: tr, none⟩

theorem EnvStep.of_late {M : Machine St Loc α β} {m : Move α} {s s' : Sys St Loc α β} (h : EnvStep (late M) m s s') :
    EnvStep M m s s' ∨ LateStep M s s' := by
  cases h with
  | @call st stk g tr c i hc hl =>
    cases i with
    | srcGreet i =>
      cases stk with
      | nil =>
        exact .inr (.greet i (legalIn_srcGreet.1 hl).1)
      | cons f stk =>
        refine .inl (.call _ hc ?_)
        cases f with
        | run l => simp [ctxOf] at hc
        | wait o l =>
          simp only [ctxOf, Option.some.injEq] at hc; subst hc
          simpa [legalIn, isTop] using hl
    | _ => exact .inl (.call _ hc hl)
  | @ret st stk g tr o l hl =>
    cases o with
    | subSrc i =>
      by_cases hi : g.ph.srcPh i = .subscribed
      · exact .inr (.ret hi)
      · exact .inl (.ret (by simp [legalRet, hi]))
    | _ => exact .inl (.ret hl)

theorem EnvStep.of_pending {M : Machine St Loc α β} (hM : M.shape.multiSink = false) {m : Move α} {st : St} {g : G}
    {tr : List (Ev α β)} {s' : Sys St Loc α β}
    (hoth : ∀ i, i ≠ 0 → g.ph.srcPh i = .idle) (hoths : ∀ j, j ≠ 0 → g.ph.sinkPh j = .idle)
    (h1 : g.ph.sinkPh 0 = .subscribed) (h2 : g.ph.srcPh 0 = .subscribed)
    (hs : EnvStep (late M) m ⟨st, [], g, tr, none⟩ s') :
    s' = ⟨st, [.run (M.enter (.srcGreet 0))], g.onIn 0 (.srcGreet 0 : In α), .inp (.srcGreet 0) :: tr, none⟩ := by
  cases hs with
  | @call _ _ _ _ c i hc hl =>
    cases i with
    | subscribe j =>
      obtain ⟨⟨-, hidle⟩, rfl | hms⟩ := legalIn_subscribe.1 hl
      · exact nomatch h1.symm.trans hidle
      · exact nomatch hM.symm.trans hms
    | sinkUp j u =>
      have hlive := (legalIn_sinkUp.1 hl).1
      cases sink_eq_zero hoths (by rw [hlive]; decide)
      exact nomatch h1.symm.trans hlive
    | srcDown i d =>
      have hlive := (legalIn_srcDown.1 hl).1
      cases src_eq_zero hoth (by rw [hlive]; decide)
      exact nomatch h2.symm.trans hlive
    | srcGreet i =>
      cases src_eq_zero hoth (by rw [(legalIn_srcGreet.1 hl).1]; decide)
      rfl

end Late

namespace Relay
namespace Late
variable {σ α β : Type}

def Pending (s : Sys (St σ) (Loc α β) α β) : Prop :=
  s.panicked = none ∧ s.g.ph.viols = [] ∧
  (∀ i, i ≠ 0 → s.g.ph.srcPh i = .idle) ∧ (∀ j, j ≠ 0 → s.g.ph.sinkPh j = .idle) ∧
  s.g.ph.sinkPh 0 = .subscribed ∧ s.g.ph.srcPh 0 = .subscribed ∧ s.stack = []

def Inv (k : Kind σ α β) (s : Sys (St σ) (Loc α β) α β) : Prop := Relay.Inv k s ∨ Pending s

theorem inv_turn (k : Kind σ α β) (s : Sys (St σ) (Loc α β) α β) (h : Inv k s) : EnvTurn s ∧ BasicSafe s := by
  rcases h with h | ⟨hp, hb, _, _, _, _, hstk⟩
  · exact Relay.inv_turn k s h
  · exact ⟨envTurn_of_top hp hstk, hb, hp⟩

theorem inv_step (k : Kind σ α β) (hk : k.slotted = false → ∀ s a, (k.xfer s a).2 ≠ none)
    (s s' : Sys (St σ) (Loc α β) α β) (m : Move α) (h : Inv k s) (hs : EnvStep (late (machine k)) m s s') :
    ∃ n, Inv k (advance (late (machine k)) n s') := by
  simp only [advance_late]
  rcases h with h | ⟨hp, hb, hoth, hoths, h1, h2, hstk⟩
  · rcases hs.of_late with he | hl
    · exact (Relay.macro_step k hk h he).inv.imp fun _ => .inl
    · obtain ⟨hp, hb, hoth, hoths, hm⟩ := h
      cases hl with
      | @greet st g tr i hsub =>
        simp only at hoth hm
        cases src_eq_zero hoth (by rw [hsub]; decide)
        cases (hm.of_subscribed (.inr hsub)).2.2
      | @ret st stk g tr i l hsub =>
        simp only at hb hoth hoths hm
        cases src_eq_zero hoth (by rw [hsub]; decide)
        obtain ⟨h1, -, h5⟩ := hm.of_subscribed (.inr hsub)
        cases h5
        obtain ⟨n, hn⟩ := run_done (k := k) (st := st) [] g (.retE :: tr)
        refine ⟨n, .inr (hn ▸ ?_)⟩
        exact ⟨rfl, (onRetO_ph g 0).symm ▸ hb, (onRetO_ph g 0).symm ▸ hoth, (onRetO_ph g 0).symm ▸ hoths,
          (onRetO_ph g 0).symm ▸ h1, (onRetO_ph g 0).symm ▸ hsub, rfl⟩
  · obtain ⟨st, stk, g, tr, p⟩ := s
    simp only at hp hb hoth hoths h1 h2 hstk
    subst hp hstk
    rw [hs.of_pending rfl hoth hoths h1 h2]
    have hS : Single g.ph := ⟨hb, hoth, hoths⟩
    obtain ⟨n, hn⟩ := run_greet (k := k) (st := st) [] (g.onIn 0 (.srcGreet 0 : In α)) (.inp (.srcGreet 0) :: tr)
    exact ⟨n, .inl (hn ▸ (lands rfl (hS.greet _ _ h1) fun hp hq =>
      .m3 hp hq (fun hks => by rw [if_pos hks]) (cons_done (fun _ hf => (List.not_mem_nil hf).elim))).1)⟩

theorem inv_init (k : Kind σ α β) : Inv k (Sys.init (late (machine k))) := .inl (Relay.inv_init k)

end Late

/-- The generic relay (map / filter / scan / skip) under an upstream that may greet LATE (return from the subscription without
greeting, greet afterwards at top level): never a phase-level violation, never a panic. -/
theorem relay_basicSafe_late {σ α β : Type} (k : Kind σ α β) (hk : k.slotted = false → ∀ s a, (k.xfer s a).2 ≠ none) :
    ∀ s, SReach ({ machine k with shape := { (machine k).shape with lateGreet := true } }) s → BasicSafe s :=
  basicSafe_of_macro_inv (late (machine k)) (Late.Inv k) (Late.inv_init k) (Late.inv_turn k) (Late.inv_step k hk)

end Relay

namespace Take
namespace Late
variable {α : Type}

def Pending (s : Sys St (Loc α) α α) : Prop :=
  s.panicked = none ∧ s.g.ph.viols = [] ∧
  (∀ i, i ≠ 0 → s.g.ph.srcPh i = .idle) ∧ (∀ k, k ≠ 0 → s.g.ph.sinkPh k = .idle) ∧
  s.g.ph.sinkPh 0 = .subscribed ∧ s.g.ph.srcPh 0 = .subscribed ∧
  s.st.tb = false ∧ s.st.taken = 0 ∧ s.st.fin = false ∧ s.stack = []

def Inv (max : Nat) (s : Sys St (Loc α) α α) : Prop := Take.Inv max s ∨ Pending s

theorem inv_turn (max : Nat) (s : Sys St (Loc α) α α) (h : Inv max s) : EnvTurn s ∧ BasicSafe s := by
  rcases h with h | ⟨hp, hb, _, _, _, _, _, _, _, hstk⟩
  · exact Take.inv_turn max s h
  · exact ⟨envTurn_of_top hp hstk, hb, hp⟩

theorem inv_step (max : Nat) (s s' : Sys St (Loc α) α α) (m : Move α) (h : Inv max s)
    (hs : EnvStep (late (machine α max)) m s s') : ∃ n, Inv max (advance (late (machine α max)) n s') := by
  simp only [advance_late]
  rcases h with h | ⟨hp, hb, hoth, hoths, h1, h2, htb, htk, hfin, hstk⟩
  · rcases hs.of_late with he | hl
    · exact (Take.macro_step max h he).inv.imp fun _ => .inl
    · obtain ⟨hp, hb, hle, hoth, hoths, hm⟩ := h
      cases hl with
      | @greet st g tr i hsub =>
        simp only at hoth hm
        cases src_eq_zero hoth (by rw [hsub]; decide)
        cases (hm.of_subscribed (.inr hsub)).2.2.2.2.2
      | @ret st stk g tr i l hsub =>
        simp only at hb hoth hoths hm
        cases src_eq_zero hoth (by rw [hsub]; decide)
        obtain ⟨h1, -, h3, h4, h5, h6⟩ := hm.of_subscribed (.inr hsub)
        cases h6
        obtain ⟨n, hn⟩ := run_resume (max := max) (st := st) (o := .subSrc 0) (l := .done) trivial nofun [] g (.retE :: tr)
        refine ⟨n, .inr (hn ▸ ?_)⟩
        exact ⟨rfl, (onRetO_ph g 0).symm ▸ hb, (onRetO_ph g 0).symm ▸ hoth, (onRetO_ph g 0).symm ▸ hoths,
          (onRetO_ph g 0).symm ▸ h1, (onRetO_ph g 0).symm ▸ hsub, h3, h4, h5, rfl⟩
  · obtain ⟨st, stk, g, tr, p⟩ := s
    simp only at hp hb hoth hoths h1 h2 htb htk hfin hstk
    subst hp hstk
    rw [hs.of_pending rfl hoth hoths h1 h2]
    have hS : Single g.ph := ⟨hb, hoth, hoths⟩
    obtain ⟨n, hn⟩ := run_greet (max := max) (st := st) [] (g.onIn 0 (.srcGreet 0 : In α)) (.inp (.srcGreet 0) :: tr)
    refine ⟨n, .inl ?_⟩
    show Take.Inv max (advance (machine α max) n ⟨st, [.run .greet0], _, _, none⟩)
    rw [hn]
    exact (lands (st := { st with tb := true }) rfl (hS.greet _ _ h1) (show st.taken ≤ max by rw [htk]; exact Nat.zero_le _)
      fun hp hq => .m3 hp hq rfl hfin (fun hpos => absurd hpos (by show ¬ 0 < st.taken; rw [htk]; decide))
        (cons_done (fun _ hf => (List.not_mem_nil hf).elim))).1

theorem inv_init (max : Nat) : Inv max (Sys.init (late (machine α max))) := .inl (Take.inv_init max)

end Late

/-- take under an upstream that may greet LATE: never a phase-level violation, never a panic. -/
theorem take_basicSafe_late {α : Type} (max : Nat) :
    ∀ s, SReach ({ machine α max with shape := { (machine α max).shape with lateGreet := true } }) s → BasicSafe s :=
  basicSafe_of_macro_inv (late (machine α max)) (Late.Inv max) (Late.inv_init max) (Late.inv_turn max) (Late.inv_step max)

end Take

section SubIn
open LateMember

theorem Relay.subIn {σ α : Type} (k : Relay.Kind σ α α) (hk : k.slotted = false → ∀ s a, (k.xfer s a).2 ≠ none) :
    SubIn1 (late (Relay.machine k)) := by
  intro st l k1 g tr st' l' hr hst
  rcases inv_after_call (late (Relay.machine k)) (Relay.Late.Inv k) (Relay.Late.inv_init k)
    (fun s hi => (Relay.Late.inv_turn k s hi).1) (Relay.Late.inv_step k hk) hr hst with ⟨_, hv, _, _, hm⟩ | hpend
  · simp only [onOut_ph] at hv hm
    obtain ⟨_, _, he⟩ := Ph.onOut_subSrc_ok _ _ hv
    rw [he] at hm
    simpa using (hm.of_subscribed (.inr (by simp))).1
  · cases hpend.2.2.2.2.2.2

theorem Take.subIn {α : Type} (max : Nat) : SubIn1 (late (Take.machine α max)) := by
  intro st l k1 g tr st' l' hr hst
  rcases inv_after_call (late (Take.machine α max)) (Take.Late.Inv max) (Take.Late.inv_init max)
    (fun s hi => (Take.Late.inv_turn max s hi).1) (Take.Late.inv_step max) hr hst with ⟨_, hv, _, _, _, hm⟩ | hpend
  · simp only [onOut_ph] at hv hm
    obtain ⟨_, _, he⟩ := Ph.onOut_subSrc_ok _ _ hv
    rw [he] at hm
    simpa using (hm.of_subscribed (.inr (by simp))).1
  · cases hpend.2.2.2.2.2.2.2.2.2

end SubIn

namespace LateMember
open PlugOpSafe

theorem hypL_relay_merge {σ α : Type} (k : Relay.Kind σ α α) (hk : k.slotted = false → ∀ s a, (k.xfer s a).2 ≠ none) (n j : Nat) :
    HypL j (late (Relay.machine k)) (Merge.machine α n true) :=
  ⟨fun _ => rfl, Relay.noApp k, Relay.oneSrc k, .inl rfl, .inr (Relay.subIn k hk), Relay.relay_basicSafe_late k hk,
    Merge.merge_basicSafe n⟩

theorem hypL_take_merge {α : Type} (max n j : Nat) : HypL j (late (Take.machine α max)) (Merge.machine α n true) :=
  ⟨fun _ => rfl, Take.noApp max, Take.oneSrc max, .inl rfl, .inr (Take.subIn max), Take.take_basicSafe_late max,
    Merge.merge_basicSafe n⟩

/-- **a relay (map / filter / scan / skip) as a member of `merge!`**: `merge!(…, relay(sⱼ), …)`, members may greet late -/
theorem plugOp_relay_merge_basicSafe {σ α : Type} (k : Relay.Kind σ α α) (hk : k.slotted = false → ∀ s a, (k.xfer s a).2 ≠ none)
    (n j : Nat) : ∀ s, SReach (plugOp j (late (Relay.machine k)) (Merge.machine α n true)) s → BasicSafe s :=
  plugOp_basicSafe' (hypL_relay_merge k hk n j)

/-- **`take(max)` as a member of `merge!`**: `merge!(…, take(max)(sⱼ), …)`, members may greet late -/
theorem plugOp_take_merge_basicSafe {α : Type} (max n j : Nat) :
    ∀ s, SReach (plugOp j (late (Take.machine α max)) (Merge.machine α n true)) s → BasicSafe s :=
  plugOp_basicSafe' (hypL_take_merge max n j)

/-- `merge!(take(2)(a), b)` -/
theorem merge_take2_basicSafe :
    ∀ s, SReach (plugOp 0 (late (Take.machine Int 2)) (Merge.machine Int 2 true)) s → BasicSafe s :=
  plugOp_take_merge_basicSafe 2 2 0

/-- `plugOp` does not look at the member operator's shape (the composite has `M₂`'s): `late` only records under which environment the
member must be safe -/
theorem plugOp_late {S1 L1 S2 L2 β γ : Type} (j : Nat) (M1 : Machine S1 L1 β β) (M2 : Machine S2 L2 β γ) :
    plugOp j (late M1) M2 = plugOp j M1 M2 := rfl

/-- `merge!(take(2)(a), b)`, with the member as it is defined in `Ops/Take.lean` -/
theorem merge_take2_basicSafe' :
    ∀ s, SReach (plugOp 0 (Take.machine Int 2) (Merge.machine Int 2 true)) s → BasicSafe s :=
  merge_take2_basicSafe

/-- `merge!(a, filter(p)(b))` -/
example (p : Int → Bool) :
    ∀ s, SReach (plugOp 1 (late (Relay.machine (Relay.filter p))) (Merge.machine Int 2 true)) s → BasicSafe s :=
  plugOp_relay_merge_basicSafe _ (Relay.filter_ok _) 2 1

/-- `plugOp_basicSafe'` generalises `PlugOpSafe.plugOp_basicSafe` -/
example {S1 L1 S2 L2 β γ : Type} {M1 : Machine S1 L1 β β} {M2 : Machine S2 L2 β γ} {j : Nat} (H : HypO j M1 M2) :
    ∀ s, SReach (plugOp j M1 M2) s → BasicSafe s := plugOp_basicSafe' (.of_hypO H)

/-- `PlugOpSafe.HypO.open2` is FALSE for `merge` with late greeters (so `PlugOpSafe.plugOp_basicSafe` cannot be instantiated with
`M₂ = merge`): `S0 R R G0 U0t R R` — both members return from their subscription without greeting; member 0 greets at top level, the
sink is greeted and terminates inside its greeting; back at top level member 1 is still `subscribed` and no sink is open. -/
theorem merge_not_open2 : ¬ Open2 1 (Merge.machine Nat 2 true) := by
  intro h
  obtain ⟨s, hr, hp⟩ := Thm.witness_of_script (Merge.machine Nat 2 true) 16
    [.call (.subscribe 0), .ret, .ret, .call (.srcGreet 0), .call (.sinkUp 0 .term), .ret, .ret]
    (fun s => s.panicked.isNone && s.stack.isEmpty && decide (s.g.ph.srcPh 1 = .subscribed) && !s.g.ph.anySinkOpen) (by decide)
  simp only [Bool.and_eq_true, Option.isNone_iff_eq_none, List.isEmpty_iff, decide_eq_true_eq, Bool.not_eq_true'] at hp
  obtain ⟨⟨⟨h1, h2⟩, h3⟩, h4⟩ := hp
  have := h s hr h1 (.inl h2) (.inl h3)
  rw [h4] at this; cases this

end LateMember
end Cb

#print axioms Cb.Relay.relay_basicSafe_late
#print axioms Cb.Take.take_basicSafe_late
#print axioms Cb.LateMember.plugOp_relay_merge_basicSafe
#print axioms Cb.LateMember.plugOp_take_merge_basicSafe
#print axioms Cb.LateMember.merge_take2_basicSafe
#print axioms Cb.LateMember.merge_take2_basicSafe'
#print axioms Cb.LateMember.merge_not_open2
