import CallbagModel.Inv.PlugConcat
import CallbagModel.Inv.PullOnly
/-!
# `EndOnPull`: sources that end only in answer to a `Pull`

The sibling of `PullOnly` (`Inv/PullOnly.lean`) for the terminal.  `concat`'s `got_pull` is sticky: when a member ends, the next one is
subscribed and pulled at once; `flatten` re-pulls its outer source when an inner source ends.  Both are justified exactly when the source
ended in answer to a `Pull` — then the sink's `Pull` is still unserved.  `EndOnPull M` (`EOk (sinkEvs s.tr)`) is that property;
`from_iter` has it, the relays pass it on (`StageEnd`), `take` does not have it (it ends after its last item).  `EOk` and its
source-side twin `EOkSrc j` are instances of `Before` (`Inv/Views.lean`), as `POk` is.

`EndFullSink ys` / `EndLenSrc j n`: the terminal is sent after the whole list / comes after exactly `n` items, as properties of a trace
(closed under tails).
-/
namespace Cb
namespace JoinDemand
open ComposeSafe ComposeFun ComposeComplete PlugSafe PlugConcat FlatPlugFun

section Defs
variable {St Loc α β : Type}

def isEnd0 {β : Type} : SinkEv β → Bool
  | .down k .term => k == 0
  | _ => false

def isEndJ {α : Type} (j : Nat) : SrcEv α → Bool
  | .down i .term => i == j
  | _ => false

/-- the terminal is delivered to sink 0 only in answer to an unserved `Pull` (events newest first) -/
def EOk {β : Type} : List (SinkEv β) → Prop
  | [] => True
  | e :: t => (isEnd0 e = true → lastPull 0 t = true) ∧ EOk t

def EOkSrc {α : Type} (j : Nat) : List (SrcEv α) → Prop
  | [] => True
  | e :: t => (isEndJ j e = true → lastPullSrc j t = true) ∧ EOkSrc j t

def EndOnPull (M : Machine St Loc α β) : Prop := ∀ s, SReach M s → EOk (sinkEvs s.tr)

/-- a stage ends only when pulled, provided its upstream delivers and ends only when pulled -/
def StageEnd (M : Machine St Loc α β) : Prop :=
  ∀ s, SReach M s → POkSrc 0 (srcEvs s.tr) → EOkSrc 0 (srcEvs s.tr) → EOk (sinkEvs s.tr)

theorem eOk_iff {β : Type} (l : List (SinkEv β)) : EOk l ↔ Before (isEnd0 · = true) (lastPull 0 · = true) l :=
  Before.iff_of_rec trivial (fun _ _ => Iff.rfl) l

theorem eOkSrc_iff {α : Type} (j : Nat) (l : List (SrcEv α)) :
    EOkSrc j l ↔ Before (isEndJ j · = true) (lastPullSrc j · = true) l :=
  Before.iff_of_rec trivial (fun _ _ => Iff.rfl) l

theorem isEndJ_dual1 {β : Type} {j : Nat} {e : SinkEv β} {y : SrcEv β} (h : dual1 j e = some y) : isEndJ j y = isEnd0 e := by
  cases e with
  | down k d => cases k <;> cases h; cases d <;> first | exact beq_self_eq_true j | rfl
  | app b => cases h
  | _ k => cases k <;> cases h <;> rfl

theorem srcIdx_of_isEndJ {α : Type} {j : Nat} {e : SrcEv α} (h : isEndJ j e = true) : (srcIdx e == j) = true := by
  cases e with
  | down i d => cases d <;> first | exact h | cases h
  | _ => cases h

theorem eOkSrc_dualJ {β : Type} (j : Nat) (l : List (SinkEv β)) (h : EOk l) : EOkSrc j (dualJ j l) :=
  (eOkSrc_iff j _).2 (((eOk_iff l).1 h).view (dualJ_eq j) (fun _ _ he hy => isEndJ_dual1 he ▸ hy)
    fun t ht => lastPull_dualJ j t ▸ ht)

theorem eOkSrc_of_srcEq {α : Type} (j : Nat) (l : List (SrcEv α)) (h : EOkSrc j (srcEq j l)) : EOkSrc j l :=
  (eOkSrc_iff j l).2 (((eOkSrc_iff j _).1 h).of_view (srcEq_eq j) (fun e he => ⟨e, Option.guard_pos (srcIdx_of_isEndJ he), he⟩)
    fun t ht => lastPullSrc_srcEq j t ▸ ht)

theorem EOkSrc.tail {α : Type} {j : Nat} {e : SrcEv α} {t : List (SrcEv α)} (h : EOkSrc j (e :: t)) : EOkSrc j t := h.2

theorem eOkSrc_tail_ev {α β : Type} {j : Nat} {e : Ev α β} {tr : List (Ev α β)} (h : EOkSrc j (srcEvs (e :: tr))) :
    EOkSrc j (srcEvs tr) :=
  of_consOpt (P := EOkSrc j) (o := srcEv e) (fun _ _ h => h.2) h

theorem _root_.Cb.ConcatN.Ifc.eOk {SA LA αA β S L γ : Type} {k : Nat} {sA : Sys SA LA αA β} {sC : Sys S L β γ} (h : ConcatN.Ifc k sA sC)
    (hA : EOk (sinkEvs sA.tr)) : EOkSrc k (srcEvs sC.tr) := by
  apply eOkSrc_of_srcEq; rw [h.evs]; exact eOkSrc_dualJ k _ hA

theorem EndOnPull.compose {S1 L1 S2 L2 α β γ : Type} {M1 : Machine S1 L1 α β} {M2 : Machine S2 L2 β γ}
    (h1 : EndOnPull M1) (hp : PullOnly M1) (h2 : StageEnd M2) (H : Hyp M1 M2) : EndOnPull (Cb.compose M1 M2) := by
  intro s hs
  obtain ⟨s1, s2, hr1, hr2, hm, htr⟩ := compose_inv_tr H s hs
  have hi := hm.ifc htr
  exact htr.sink ▸ h2 s2 hr2 (hi.pOk (hp s1 hr1)) (hi.eOk (h1 s1 hr1))

theorem eOk_cons {α β : Type} (e : Ev α β) (tr : List (Ev α β)) :
    EOk (sinkEvs (e :: tr)) ↔ (e = .out (.down 0 .term) → aP tr = true) ∧ EOk (sinkEvs tr) := by
  cases e with
  | inp i => cases i <;> simp [EOk, sinkEvs, sinkEv, isEnd0]
  | out o =>
    cases o with
    | down k d => cases d <;> simp [EOk, sinkEvs, sinkEv, isEnd0, aP]
    | _ => simp [EOk, sinkEvs, sinkEv, isEnd0]
  | _ => simp [sinkEvs, sinkEv]

/-- small-step scheme: the terminal is sent to sink 0 only from configurations with an unserved `Pull` -/
theorem eOk_reach (M : Machine St Loc α β) (A : List (Ev α β) → Prop) (hA : ∀ e tr, A (e :: tr) → A tr)
    (h : ∀ st l stk g tr s' l', SReach M ⟨st, .run l :: stk, g, tr, none⟩ → M.step st l = .call (.down 0 .term) s' l' →
      A tr → aP tr = true) :
    ∀ s, SReach M s → A s.tr → EOk (sinkEvs s.tr) :=
  reach_calls M A (fun tr => EOk (sinkEvs tr)) hA trivial
    (fun e tr he ih => (eOk_cons e tr).2 ⟨fun hx => absurd hx (he _), ih⟩)
    (fun st l stk g tr o s' l' ha hst hC ih => (eOk_cons _ tr).2 ⟨fun ho => by cases ho; exact h st l stk g tr s' l' ha hst hC, ih⟩)

end Defs

theorem FromIter.endOnPull {ι α α' : Type} (next : ι → Option (α × ι)) (it0 : ι) : EndOnPull (FromIter.machine α' next it0) :=
  fun s hs => eOk_reach (FromIter.machine α' next it0) (fun _ => True) (fun _ _ _ => trivial)
    (fun _ _ _ _ _ _ _ ha hst _ => FromIter.down_pulled ha hst) s hs trivial

theorem Relay.stageEnd {σ α β : Type} (k : Relay.Kind σ α β) (hk : k.slotted = false → ∀ s a, (k.xfer s a).2 ≠ none) :
    StageEnd (Relay.machine k) := fun s hs hP hE =>
  eOk_reach (Relay.machine k) (fun tr => POkSrc 0 (srcEvs tr) ∧ EOkSrc 0 (srcEvs tr))
    (fun _ _ h => ⟨pOkSrc_tail_ev h.1, eOkSrc_tail_ev h.2⟩) (fun st l stk g tr s' l' ha hst hC => by
    -- the terminal answers a `Pull`, which the relay sent under an unserved `Pull` of its sink
    obtain ⟨s, d', hs, ht, rfl, hd, _⟩ := Relay.down_cases k hk ha hst
    obtain rfl := hd rfl
    exact Relay.pull_back k hk hs ht (pOkSrc_tail_ev hC.1) (hC.2.1 rfl)) s hs ⟨hP, hE⟩

def EndFullSink (ys : List Int) : List (SinkEv Int) → Prop := Before (· = .down 0 .term) (recvS 0 · = ys)

/-- upstream `j` sends its terminal after exactly `n` items -/
def EndLenSrc (j n : Nat) : List (SrcEv Int) → Prop := Before (· = .down j .term) (fun t => (sentS j t).length = n)

theorem endLenSrc_tail_ev {α' : Type} {j n : Nat} {e : Ev Int α'} {tr : List (Ev Int α')} (h : EndLenSrc j n (srcEvs (e :: tr))) :
    EndLenSrc j n (srcEvs tr) :=
  of_consOpt (P := EndLenSrc j n) (o := srcEv e) (fun _ _ h => h.2) h

theorem endLenSrc_dualJ (j : Nat) {ys : List Int} {l : List (SinkEv Int)} (h : EndFullSink ys l) : EndLenSrc j ys.length (dualJ j l) :=
  h.view (dualJ_eq j) (fun _ _ he hy => dual1_down (hy ▸ he)) fun t ht => by rw [← recvS_dualJ j, ht]

theorem endLenSrc_of_srcEq (j n : Nat) (l : List (SrcEv Int)) (h : EndLenSrc j n (srcEq j l)) : EndLenSrc j n l :=
  h.of_view (srcEq_eq j) (fun e he => ⟨e, Option.guard_pos (he ▸ beq_self_eq_true j), he⟩) fun t ht => sentS_srcEq j t ▸ ht

theorem _root_.Cb.ConcatN.Ifc.endLen {SA LA αA S L γ : Type} {k : Nat} {sA : Sys SA LA αA Int} {sC : Sys S L Int γ} (h : ConcatN.Ifc k sA sC)
    {ys : List Int} (hA : EndFullSink ys (sinkEvs sA.tr)) : EndLenSrc k ys.length (srcEvs sC.tr) := by
  apply endLenSrc_of_srcEq; rw [h.evs]; exact endLenSrc_dualJ k hA

theorem endFull_cons {α : Type} (ys : List Int) (e : Ev α Int) (tr : List (Ev α Int)) :
    EndFullSink ys (sinkEvs (e :: tr)) ↔ (e = .out (.down 0 .term) → recvData 0 tr = ys) ∧ EndFullSink ys (sinkEvs tr) := by
  cases e with
  | inp i => cases i <;> simp [EndFullSink, Before, sinkEvs, sinkEv]
  | out o => cases o <;> simp [EndFullSink, Before, sinkEvs, sinkEv, recvData_eq]
  | _ => simp [sinkEvs, sinkEv]

/-- a closed head sends its terminal only after its whole list -/
theorem endFull_reach {St Loc α : Type} {M : Machine St Loc α Int} {ys : List Int} (h : HeadOkT M ys) :
    ∀ s, SReach M s → EndFullSink ys (sinkEvs s.tr) := by
  intro s hs
  refine reach_calls M (fun _ => True) (fun tr => EndFullSink ys (sinkEvs tr)) (fun _ _ _ => trivial) trivial
    (fun e tr he ih => (endFull_cons ys e tr).2 ⟨fun hx => absurd hx (he _), ih⟩) ?_ s hs trivial
  intro st l stk g tr o s' l' ha hst _ ih
  refine (endFull_cons ys _ tr).2 ⟨fun ho => ?_, ih⟩
  cases ho
  -- the call is safe, so the sink was live and is now done: the configuration after the call is an environment turn
  have hb := reach_op ha (.call hst)
  have hsafe := (h.head.up.safe _ hb).1
  simp only [onOut_ph] at hsafe
  have hd : (g.ph.onOut (Out.down 0 Down.term : Out Int)).sinkPh 0 = .doneBySrc := by
    rw [(Ph.onOut_down_ok _ 0 .term hsafe).2]; exact Ph.sinkPh_setSink_self _ _ _
  exact h.doneT _ hb ⟨rfl, rfl⟩ ((onOut_ph _ g _).symm ▸ hd)

/-- an upstream that has ended without an `Error` has sent as many items as its terminal says, whatever the machine: the phase
`ended` is set by the terminal alone, and no datum is legal after it -/
theorem ended_len {St Loc β : Type} {M : Machine St Loc Int β} {j n : Nat} {s : Sys St Loc Int β} (hs : SReach M s)
    (hE : EndLenSrc j n (srcEvs s.tr)) (hne : ∀ e, SrcEv.down j (Down.err e) ∉ srcEvs s.tr) (h : s.g.ph.srcPh j = .ended) :
    (sentS j (srcEvs s.tr)).length = n := by
  refine SReachR.ph_tr (P := fun ph tr => EndLenSrc j n (srcEvs tr) → (∀ e, SrcEv.down j (Down.err e) ∉ srcEvs tr) →
    ph.srcPh j = .ended → (sentS j (srcEvs tr)).length = n) (fun e he ih => ?_) (fun {ph tr} o ih hE hne hj => ?_) (fun _ _ hj => nomatch hj)
    (fun {a c} i hl _ ih hE hne hj => ?_) hs hE hne h
  · rcases he with rfl | rfl | rfl <;> exact ih
  · have : sentS j (srcEvs (Ev.out o :: tr)) = sentS j (srcEvs tr) := by cases o <;> simp [srcEvs, srcEv, sentS]
    rw [this]
    exact ih (endLenSrc_tail_ev hE) (fun e hm => hne e (mem_srcEvs_cons hm)) (onOut_srcPh_ended_back _ _ _ hj)
  · have ih' := ih (endLenSrc_tail_ev hE) (fun e hm => hne e (mem_srcEvs_cons hm))
    cases i with
    | subscribe k => exact ih' (by simpa only [Ph.onIn, Ph.srcPh_setSink] using hj)
    | sinkUp k u => exact ih' (by cases u <;> simpa only [Ph.onIn, Ph.srcPh_setSink] using hj)
    | srcGreet k =>
      simp only [Ph.onIn, Ph.srcPh_setSrc] at hj
      split at hj
      · cases hj
      · exact ih' hj
    | srcDown k d =>
      have hlive := legal_srcDown hl
      cases d with
      | data x =>
        have hne' : k ≠ j := by rintro rfl; rw [show a.g.ph.srcPh k = .ended from hj] at hlive; cases hlive
        simpa [srcEvs, srcEv, sentS, hne'] using ih' hj
      | term =>
        by_cases hkj : j = k
        · subst hkj; exact hE.1 rfl
        · simp only [Ph.onIn, Ph.srcPh_setSrc, if_neg hkj] at hj
          exact ih' hj
      | err e =>
        by_cases hkj : j = k
        · subst hkj; exact absurd (by simp [srcEvs, srcEv]) (hne e)
        · simp only [Ph.onIn, Ph.srcPh_setSrc, if_neg hkj] at hj
          exact ih' hj

end JoinDemand

end Cb

#print axioms Cb.JoinDemand.FromIter.endOnPull
#print axioms Cb.JoinDemand.Relay.stageEnd
