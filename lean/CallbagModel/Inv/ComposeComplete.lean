import CallbagModel.Inv.ComposeClosed
/-!
# Closed pull pipelines of any length: the COMPLETENESS half

When the application `for_each(f)(pipe!(from_iter(it), stage₁, …, stageₙ))` has returned, `f` has been applied to exactly `F xs`.

The per-component guarantees are UNCONDITIONAL (they hold under every conformant environment, no `pullable` restriction) because they
do not count: they look at the LAST relevant event at an interface (`Inv/Views.lean`): `aP tr`, sink 0 has an unserved Pull (the last of
{its Pull, a delivery to it} is a Pull); `bP tr`, upstream 0 owes an answer (the same at the other end).

A HEAD (`HeadOk M ys`) guarantees, when control is back at its top level (`s.stack = []`): a live sink has no unserved Pull; a sink
that received the terminal received all of `ys`.  A STAGE (`DemandStage M F`) guarantees at its top level: sink live ⇒ upstream live;
an unserved Pull of the sink has been passed on (upstream owes an answer); terminal delivered ⇒ upstream ended or the output is
final.  `for_each` guarantees at its top level: while the upstream is live, it owes an answer.  The chain closes by contradiction:
at the pipeline's top level after the application all projected stacks are empty, so if `for_each`'s upstream were still live it
would both owe an answer and have served every Pull.
-/
namespace Cb
namespace ComposeComplete
open ComposeSafe ComposeFun

section Packaging
variable {S1 L1 S2 L2 St Loc α β γ : Type}

structure DemandStage (M : Machine St Loc α β) (F : List α → List β) : Prop where
  mono : MonoStage M F
  liveUp : ∀ s, SReach M s → s.stack = [] → s.g.ph.sinkPh 0 = .live → s.g.ph.srcPh 0 = .live
  fwdPull : ∀ s, SReach M s → s.stack = [] → s.g.ph.sinkPh 0 = .live → aP s.tr = true → bP s.tr = true
  /-- the terminal is delivered only when the upstream has ended or the output is final -/
  fin : ∀ s, SReach M s → s.stack = [] → s.g.ph.sinkPh 0 = .doneBySrc →
    s.g.ph.srcPh 0 = .ended ∨ ∀ ys, sentData 0 s.tr <+: ys → F ys = F (sentData 0 s.tr)

structure HeadOk (M : Machine St Loc α β) (ys : List β) : Prop where
  up : UpSide M
  spec : SrcSpec M ys
  done : ∀ s, SReach M s → s.stack = [] → s.g.ph.sinkPh 0 = .doneBySrc → recvData 0 s.tr = ys
  served : ∀ s, SReach M s → s.stack = [] → s.g.ph.sinkPh 0 = .live → aP s.tr = false

theorem proj_top {M1 : Machine S1 L1 α β} {M2 : Machine S2 L2 β γ} (H : Hyp M1 M2)
    {s : Sys (S1 × S2) (List (CFr L1 L2)) α γ} (hs : SReach (compose M1 M2) s) (hstk : s.stack = []) :
    ∃ s1 s2, SReach M1 s1 ∧ SReach M2 s2 ∧ s1.stack = [] ∧ s2.stack = [] ∧ EnvTurn s1 ∧ EnvTurn s2 ∧
      GhostRel s.g.ph s1.g.ph s2.g.ph ∧ TrRel s.tr s1.tr s2.tr ∧ Proj s s1 s2 := by
  obtain ⟨s1, s2, hr1, hr2, hm, htr⟩ := compose_inv_tr H s hs
  obtain ⟨hk1, hk2⟩ := hm.stack_nil hstk
  exact ⟨s1, s2, hr1, hr2, hk1, hk2, envTurn_of_top hm.p1 hk1, envTurn_of_top hm.p2 hk2, hm.gh, htr, .of hm htr⟩

theorem DemandStage.compose {M1 : Machine S1 L1 α β} {M2 : Machine S2 L2 β γ} {F1 : List α → List β} {F2 : List β → List γ}
    (d1 : DemandStage M1 F1) (d2 : DemandStage M2 F2) : DemandStage (Cb.compose M1 M2) (F2 ∘ F1) := by
  have H : Hyp M1 M2 := hyp_of_roles d1.mono.stage.pipe.upSide d2.mono.stage.pipe.downSide
  refine ⟨d1.mono.compose d2.mono, ?_, ?_, ?_⟩
  · intro s hs hstk hl
    obtain ⟨s1, s2, hr1, hr2, hk1, hk2, _, _, hgh, _, _⟩ := proj_top H hs hstk
    rw [hgh.src 0]
    exact d1.liveUp s1 hr1 hk1 (hgh.ifc_live (d2.liveUp s2 hr2 hk2 (hgh.sink 0 ▸ hl)))
  · intro s hs hstk hl ha
    obtain ⟨s1, s2, hr1, hr2, hk1, hk2, _, _, hgh, htr, _⟩ := proj_top H hs hstk
    have hl2 : s2.g.ph.sinkPh 0 = .live := hgh.sink 0 ▸ hl
    have hl1 := hgh.ifc_live (d2.liveUp s2 hr2 hk2 hl2)
    rw [htr.bP]
    exact d1.fwdPull s1 hr1 hk1 hl1 (htr.ifcP ▸ d2.fwdPull s2 hr2 hk2 hl2 (htr.aP ▸ ha))
  · intro s hs hstk hd
    obtain ⟨s1, s2, hr1, hr2, hk1, hk2, ht1, ht2, hgh, htr, hp⟩ := proj_top H hs hstk
    have hio1 := d1.mono.stage.io s1 hr1 ht1
    have hsent2 : sentData 0 s2.tr = F1 (sentData 0 s.tr) := by rw [← hp.ifc 0, hio1, hp.sent 0]
    rcases d2.fin s2 hr2 hk2 (hgh.sink 0 ▸ hd) with he | hfin
    · rcases d1.fin s1 hr1 hk1 (hgh.ifc_ended he) with he1 | hfin1
      · exact .inl (by rw [hgh.src 0]; exact he1)
      · right
        intro ys hys
        rw [hp.sent 0] at hys
        simp only [Function.comp, hp.sent 0, hfin1 ys hys]
    · right
      intro ys hys
      have := hfin (F1 ys) (by rw [hsent2]; exact d1.mono.mono _ _ hys)
      simp only [Function.comp, this, hsent2]

/-- `hfin` and `hdone` are what the stage and the head guarantee where `s2` and `s1` stand: at their top level (`HeadOk.compose`) or at a
turn (`HeadOkT.compose`). -/
theorem _root_.Cb.ComposeFun.Proj.done {s : Sys (S1 × S2) (List (CFr L1 L2)) α γ} {s1 : Sys S1 L1 α β} {s2 : Sys S2 L2 β γ}
    {ys : List β} {F : List β → List γ} (hp : Proj s s1 s2) (hio : recvData 0 s2.tr = F (sentData 0 s2.tr))
    (hspec : recvData 0 s1.tr <+: ys)
    (hfin : s2.g.ph.sinkPh 0 = .doneBySrc →
      s2.g.ph.srcPh 0 = .ended ∨ ∀ ys, sentData 0 s2.tr <+: ys → F ys = F (sentData 0 s2.tr))
    (hdone : s1.g.ph.sinkPh 0 = .doneBySrc → recvData 0 s1.tr = ys) (hd : s.g.ph.sinkPh 0 = .doneBySrc) :
    recvData 0 s.tr = F ys := by
  rw [hp.recv 0, hio]
  rcases hfin (hp.m.gh.sink 0 ▸ hd) with he | hfin
  · rw [← hp.ifc 0, hdone (hp.m.gh.ifc_ended he)]
  · exact (hfin ys (hp.ifc 0 ▸ hspec)).symm

theorem HeadOk.compose {M1 : Machine S1 L1 α β} {M2 : Machine S2 L2 β γ} {ys : List β} {F : List β → List γ}
    (h : HeadOk M1 ys) (d : DemandStage M2 F) : HeadOk (Cb.compose M1 M2) (F ys) := by
  have H : Hyp M1 M2 := hyp_of_roles h.up d.mono.stage.pipe.downSide
  refine ⟨h.up.compose' d.mono.stage.pipe, SrcSpec.compose h.up h.spec d.mono.stage d.mono.mono, ?_, ?_⟩
  · intro s hs hstk hd
    obtain ⟨s1, s2, hr1, hr2, hk1, hk2, ht1, ht2, _, _, hp⟩ := proj_top H hs hstk
    exact hp.done (d.mono.stage.io s2 hr2 ht2) (h.spec s1 hr1 ht1) (d.fin s2 hr2 hk2) (h.done s1 hr1 hk1) hd
  · intro s hs hstk hl
    obtain ⟨s1, s2, hr1, hr2, hk1, hk2, _, _, hgh, htr, _⟩ := proj_top H hs hstk
    have hl2 : s2.g.ph.sinkPh 0 = .live := hgh.sink 0 ▸ hl
    have hl1 := hgh.ifc_live (d.liveUp s2 hr2 hk2 hl2)
    have hserved := h.served s1 hr1 hk1 hl1
    cases ha : aP s.tr with
    | false => rfl
    | true =>
      have ha1 : aP s1.tr = true := htr.ifcP ▸ d.fwdPull s2 hr2 hk2 hl2 (htr.aP ▸ ha)
      rw [hserved] at ha1; cases ha1

/-- When the application `for_each(f)(head)` has returned, the head is at its top level and has delivered its terminal: `for_each` at
top level is idle (nothing has happened), or owes no `Pull` only because its upstream has ended. -/
theorem closed_returned {M : Machine S1 L1 α β} (U : UpSide M)
    (served : ∀ s, SReach M s → s.stack = [] → s.g.ph.sinkPh 0 = .live → aP s.tr = false)
    {s : Sys (S1 × ForEach.St) (List (CFr L1 (ForEach.Loc β))) α β} (hs : SReach (compose M (ForEach.machine β)) s)
    (hstk : s.stack = []) (hne : s.tr ≠ []) :
    ∃ s1 s2, SReach M s1 ∧ s1.stack = [] ∧ s1.g.ph.sinkPh 0 = .doneBySrc ∧ s.st = (s1.st, s2) ∧
      applied s.tr = recvData 0 s1.tr := by
  obtain ⟨s1, s2, hr1, hr2, hk1, hk2, _, ht2, hgh, htr, hp⟩ := proj_top (hyp_of_roles U ForEach.downSide) hs hstk
  refine ⟨s1, s2.st, hr1, hk1, ?_, hp.m.st, by rw [hp.app, ForEach.applied_eq_sent s2 hr2 ht2, ← hp.ifc 0]⟩
  obtain ⟨_, _, _, hoths, hm⟩ := ForEach.inv_of_turn hr2 ht2
  cases hm with
  | m1 h1 _ _ =>
    refine absurd (idle_tr _ s hs fun k => ?_) hne
    rw [hgh.sink k]
    by_cases hk : k = 0
    · subst hk; exact h1
    · exact hoths k hk
  | m2 _ _ h5 => rw [hk2] at h5; cases h5
  | m3 _ h2 _ _ =>
    have ha1 : aP s1.tr = true := htr.ifcP ▸ ForEach.owes s2 hr2 hk2 ht2.1 h2
    rw [served s1 hr1 hk1 (hgh.ifc_live h2)] at ha1; cases ha1
  | m3a _ _ _ h5 => obtain ⟨a, r, h5, _⟩ := h5; rw [hk2] at h5; cases h5
  | m4 _ h2 _ => exact hgh.ifc_ended h2

/-- **completeness, general form**: when `for_each(f)(head)` has returned, `f` has been applied to everything -/
theorem closed_complete {M : Machine S1 L1 α β} {ys : List β} (h : HeadOk M ys) :
    ∀ s, SReach (compose M (ForEach.machine β)) s → s.stack = [] → s.tr ≠ [] → applied s.tr = ys := fun _ hs hstk hne =>
  let ⟨s1, _, hr1, hk1, hd, _, he⟩ := closed_returned h.up h.served hs hstk hne
  he ▸ h.done s1 hr1 hk1 hd

end Packaging

theorem Relay.demandStage {σ α β : Type} (k : Relay.Kind σ α β) (hk : k.slotted = false → ∀ s a, (k.xfer s a).2 ≠ none) :
    DemandStage (Relay.machine k) (xferOut k.xfer k.seed) := by
  have hturn : ∀ s, SReach (Relay.machine k) s → s.stack = [] → EnvTurn s := fun s hs =>
    envTurn_of_top (Relay.relay_basicSafe k hk s hs).2
  exact ⟨Relay.monoStage k hk, fun s hs hstk hl => (Relay.inv_of_turn k hk hs (hturn s hs hstk)).2.2.2.2.src.1 hl,
    fun s hs hstk _ => Relay.pull_fwd k hk hs (hturn s hs hstk),
    fun s hs hstk hd => .inl (Relay.ended_of_doneBySrc k hk hs (hturn s hs hstk) hd)⟩

/-- `take(max)` passes an unserved Pull on while it still takes; it completes by itself only with `max` items. -/
theorem Take.demandStage {α : Type} (max : Nat) (hmax : 0 < max) : DemandStage (Take.machine α max) (List.take max) := by
  have hturn : ∀ s, SReach (Take.machine α max) s → s.stack = [] → EnvTurn s := fun s hs =>
    envTurn_of_top (Take.take_basicSafe max s hs).2
  refine ⟨Take.monoStage max, fun s hs hstk hl => ?_, fun s hs hstk hl ha => ?_,
    fun s hs hstk => Take.final_of_doneBySrc max s hs (hturn s hs hstk)⟩
  · exact (Take.Mode.live_top (hstk ▸ (Take.inv_of_turn max hs (hturn s hs hstk)).2.2.2.2.2) hl).1
  · obtain ⟨_, _, hle, _, _, hm⟩ := Take.inv_of_turn max hs (hturn s hs hstk)
    exact ((Take.dm_of_turn max hs (hturn s hs hstk)).fwd ha).resolve_right fun hge =>
      (Take.Mode.live_top (hstk ▸ hm) hl).2 ⟨Nat.lt_of_lt_of_le hmax hge, Nat.le_antisymm hle hge⟩

theorem DemandStage.congr {St Loc α β : Type} {M : Machine St Loc α β} {F G : List α → List β} (h : DemandStage M F)
    (hFG : ∀ l, F l = G l) : DemandStage M G :=
  ⟨⟨h.mono.stage.congr hFG, h.mono.mono.congr hFG⟩, h.liveUp, h.fwdPull, fun s hs hk hd => by
    rcases h.fin s hs hk hd with h1 | h1
    · exact .inl h1
    · exact .inr (fun ys hys => by rw [← hFG, ← hFG]; exact h1 ys hys)⟩

theorem Relay.map_demandStage {α β : Type} (f : α → β) : DemandStage (Relay.machine (Relay.map f)) (List.map f) :=
  (Relay.demandStage (Relay.map f) (Relay.map_ok f)).congr (fun l => RelayFun.xferOut_map f _ l)

theorem Relay.filter_demandStage {α : Type} (p : α → Bool) : DemandStage (Relay.machine (Relay.filter p)) (List.filter p) :=
  (Relay.demandStage (Relay.filter p) (Relay.filter_ok p)).congr (fun l => RelayFun.xferOut_filter p _ l)

theorem Relay.scan_demandStage {α β : Type} (r : β → α → β) (seed : β) :
    DemandStage (Relay.machine (Relay.scan r seed)) (scanF r seed) :=
  (Relay.demandStage (Relay.scan r seed) (Relay.scan_ok r seed)).congr (fun l => RelayFun.xferOut_scan r seed _ l)

theorem Relay.skip_demandStage {α : Type} (n : Nat) : DemandStage (Relay.machine (Relay.skip (α := α) n)) (List.drop n) :=
  (Relay.demandStage (Relay.skip n) (Relay.skip_ok n)).congr (RelayFun.xferOut_skip_seed n)

theorem FromIter.recv_all {ι α α' : Type} (next : ι → Option (α × ι)) (it0 : ι) {xs : List α} (hx : Closed.Unfolds next it0 xs)
    {s : Sys (FromIter.St ι α) FromIter.Loc α' α} (hs : SReach (FromIter.machine α' next it0) s) (ht : EnvTurn s)
    (hd : s.g.ph.sinkPh 0 = .doneBySrc) : recvData 0 s.tr = xs := by
  obtain ⟨hi, hT⟩ := FromIterFun.t_at_turn next it0 hs ht
  rw [hT.items]
  exact Closed.iterList_complete hx _ _ hT.iter (hT.exh (hi.2.2.2.2.doneBySrc hd))

theorem FromIter.headOk {ι α α' : Type} (next : ι → Option (α × ι)) (it0 : ι) (xs : List α) (hx : Closed.Unfolds next it0 xs) :
    HeadOk (FromIter.machine α' next it0) xs := by
  have hturn : ∀ s, SReach (FromIter.machine α' next it0) s → s.stack = [] → EnvTurn s := fun s hs =>
    envTurn_of_top (FromIter.fromIter_basicSafe next it0 s hs).2
  refine ⟨FromIter.upSide next it0, FromIter.srcSpec next it0 xs hx, ?_, ?_⟩
  · exact fun s hs hstk => FromIter.recv_all next it0 hx hs (hturn s hs hstk)
  -- a live sink has no unserved Pull once control is back at top level: the loop that would serve it is not running
  · intro s hs hstk hl
    obtain ⟨hc, _, ⟨hil, _⟩ | ⟨x, r, h6, _⟩⟩ := (FromIter.inv_of_turn next it0 hs (hturn s hs hstk)).2.2.2.2.live hl
    · cases ha : aP s.tr with
      | false => rfl
      | true =>
        rcases (FromIter.dm_of_turn hs (hturn s hs hstk)).fwd ha with h | h
        · exact nomatch hc.symm.trans h
        · exact nomatch hil.symm.trans h.2
    · rw [hstk] at h6; cases h6

/-! Abbreviations that refute an impossible step of `Relay.step` / `FromIter.step` / `Take.step` by unfolding it; no proof here calls them. -/

namespace RelayK

macro "noway" h:ident : tactic =>
  `(tactic| first
      | (simp [Relay.machine, Relay.step] at $h:ident; done)
      | (simp [Relay.machine, Relay.step] at $h:ident; split at $h:ident <;> simp at $h:ident; done))

end RelayK

namespace FromIterK

macro "fnoway" h:ident : tactic =>
  `(tactic| first
      | (simp [FromIter.machine, FromIter.step] at $h:ident; done)
      | (simp [FromIter.machine, FromIter.step] at $h:ident; split at $h:ident <;> simp at $h:ident; done)
      | (simp [FromIter.machine, FromIter.step] at $h:ident; split at $h:ident <;> (try split at $h:ident) <;> simp at $h:ident; done))

end FromIterK

namespace TakeK

macro "tnoway" h:ident : tactic =>
  `(tactic| first
      | (simp [Take.machine, Take.step] at $h:ident; done)
      | (simp [Take.machine, Take.step] at $h:ident; split at $h:ident <;> simp at $h:ident; done))

end TakeK

end ComposeComplete

open ComposeComplete

/-- **the completeness half of iterable programming**: when the application `for_each(f)(pipe!(from_iter(it), stage₁, …, stageₙ))`
has returned (control is back at top level and something has happened), `f` has been applied to exactly `F xs` -/
theorem closed_pipeline_complete {ι α α' β S L : Type} (next : ι → Option (α × ι)) (it0 : ι) (xs : List α)
    (hx : Closed.Unfolds next it0 xs) {Mmid : Machine S L α β} {F : List α → List β} (hmid : DemandStage Mmid F) :
    ∀ s, SReach (compose (compose (FromIter.machine α' next it0) Mmid) (ForEach.machine β)) s → s.stack = [] → s.tr ≠ [] →
      applied s.tr = F xs :=
  closed_complete ((FromIter.headOk next it0 xs hx).compose hmid)

/-- no stage at all: `for_each(f)(from_iter(it))` -/
theorem closed_pipeline_complete₀ {ι α α' : Type} (next : ι → Option (α × ι)) (it0 : ι) (xs : List α)
    (hx : Closed.Unfolds next it0 xs) :
    ∀ s, SReach (compose (FromIter.machine α' next it0) (ForEach.machine α)) s → s.stack = [] → s.tr ≠ [] →
      applied s.tr = xs :=
  closed_complete (FromIter.headOk next it0 xs hx)

/-- safety and completeness together: never a protocol violation or a panic, never anything but a prefix of `F xs` applied (in
order), and all of `F xs` applied once the application has returned -/
theorem closed_pipeline_correct {ι α α' β S L : Type} (next : ι → Option (α × ι)) (it0 : ι) (xs : List α)
    (hx : Closed.Unfolds next it0 xs) {Mmid : Machine S L α β} {F : List α → List β} (hmid : DemandStage Mmid F) :
    ∀ s, SReach (compose (compose (FromIter.machine α' next it0) Mmid) (ForEach.machine β)) s →
      BasicSafe s ∧ applied s.tr <+: F xs ∧ (s.stack = [] → s.tr ≠ [] → applied s.tr = F xs) := by
  intro s hs
  obtain ⟨h1, h2⟩ := closed_pipeline_prefix_all (FromIter.upSide next it0) (FromIter.srcSpec next it0 xs hx) hmid.mono s hs
  exact ⟨h1, h2, closed_pipeline_complete next it0 xs hx hmid s hs⟩

/-- `pipe!(from_iter(it), filter(p), map(f), take(n), for_each(g))`, `n ≥ 1`: when the application returns, `g` has been applied to
exactly `((xs.filter p).map f).take n` -/
theorem fromIter_filter_map_take_forEach_complete {ι α β : Type} (next : ι → Option (α × ι)) (it0 : ι) (xs : List α)
    (hx : Closed.Unfolds next it0 xs) (p : α → Bool) (f : α → β) (n : Nat) (hn : 0 < n) :
    ∀ s, SReach (compose (compose (FromIter.machine Unit next it0)
        (compose (compose (Relay.machine (Relay.filter p)) (Relay.machine (Relay.map f))) (Take.machine β n)))
        (ForEach.machine β)) s →
      BasicSafe s ∧ applied s.tr <+: ((xs.filter p).map f).take n ∧
        (s.stack = [] → s.tr ≠ [] → applied s.tr = ((xs.filter p).map f).take n) :=
  closed_pipeline_correct next it0 xs hx
    (((Relay.filter_demandStage p).compose (Relay.map_demandStage f)).compose (Take.demandStage n hn))

open ComposeComplete in
/-- a list as the iterator, five stages bracketed to the right -/
example {α β γ : Type} (xs : List α) (k : Nat) (r : β → α → β) (seed : β) (f : β → γ) (p : γ → Bool) (n : Nat) (hn : 0 < n) :
    ∀ s, SReach (compose (compose (FromIter.machine Unit Closed.listNext xs)
        (compose (Relay.machine (Relay.skip (α := α) k)) (compose (Relay.machine (Relay.scan r seed))
          (compose (Relay.machine (Relay.map f)) (compose (Relay.machine (Relay.filter p)) (Take.machine γ n))))))
        (ForEach.machine γ)) s → s.stack = [] → s.tr ≠ [] →
      applied s.tr = (((scanF r seed (xs.drop k)).map f).filter p).take n :=
  closed_pipeline_complete Closed.listNext xs xs (Closed.unfolds_list xs)
    ((Relay.skip_demandStage k).compose ((Relay.scan_demandStage r seed).compose ((Relay.map_demandStage f).compose
      ((Relay.filter_demandStage p).compose (Take.demandStage n hn)))))

end Cb

#print axioms Cb.ComposeComplete.DemandStage.compose
#print axioms Cb.ComposeComplete.HeadOk.compose
#print axioms Cb.ComposeComplete.closed_complete
#print axioms Cb.ComposeComplete.FromIter.headOk
#print axioms Cb.ComposeComplete.Relay.demandStage
#print axioms Cb.ComposeComplete.Take.demandStage
#print axioms Cb.closed_pipeline_complete
#print axioms Cb.closed_pipeline_correct
#print axioms Cb.fromIter_filter_map_take_forEach_complete
