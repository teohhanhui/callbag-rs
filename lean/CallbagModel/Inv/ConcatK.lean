import CallbagModel.Inv.ComposeFull
/-!
# Invariants of the `concat` machine

The small-step invariants of the `concat` machine alone (`ConcatK.K`, `CK.K1`, `CK.K2`, `CK.K3`) are instances of one induction,
`ConcatK.reach_ind`, in which each case is handed what is known at that step (at an environment call the phase invariant `Concat.Mode`,
after a return that only waiting frames are left, …); which calls are legal in which mode, and what the mode then says, is worked out
once (`CK.LegalIn`, `legalIn_of`).  The data equation `ConcatN.KD` holds at turns: it is a layer over concat's macro steps, and what it
says just before concat pulls a member is read off the turn that this call ends (`KD.at_pull`); `catN`, the concatenation of a family of
lists, with its lemmas stands before it.
-/
namespace Cb
namespace PlugConcat

namespace CK
abbrev Fm (α : Type) := Frame (Concat.Loc α) α
variable {α : Type}

theorem cinv (n : Nat) (hn : 0 < n) {st : Concat.St} {stk : List (Fm α)} {g : G} {tr : List (Ev α α)} {c : Ctx α}
    (ha : SReach (Concat.machine α n) ⟨st, stk, g, tr, none⟩) (hc : ctxOf stk = some c) :
    (∀ k, k ≠ 0 → g.ph.sinkPh k = .idle) ∧ Concat.Mode n st g.ph stk := by
  obtain ⟨_, _, h1, h2⟩ := Concat.inv_of_turn n hn ha ⟨rfl, by simp [hc]⟩
  exact ⟨h1, h2⟩

theorem live_cur {n : Nat} {st : Concat.St} {g : Ph} {stk : List (Fm α)} (hm : Concat.Mode n st g stk) {k : Nat}
    (hk : g.srcPh k = .live) : k = st.i ∧ st.slot = some st.i ∧ g.sinkPh 0 = .live ∧ st.i < n := by
  cases hm with
  | idle _ h2 => rw [h2 k] at hk; cases hk
  | waiting _ h2 h3 h4 => cases Concat.cur_of_phase h3 h4 (.inl hk); rw [h2] at hk; cases hk
  | live h1 h2 h3 _ h5 h6 => cases Concat.cur_of_phase h5 h6 (.inl hk); exact ⟨rfl, h2, h3, h1⟩
  | over _ h2 => exact absurd hk (h2 k).1

theorem sub_cur {n : Nat} {st : Concat.St} {g : Ph} {stk : List (Fm α)} (hm : Concat.Mode n st g stk) {k : Nat}
    (hk : g.srcPh k = .subscribed) : k = st.i := by
  cases hm with
  | idle _ h2 => rw [h2 k] at hk; cases hk
  | waiting _ _ h3 h4 => exact Concat.cur_of_phase h3 h4 (.inr hk)
  | live _ _ _ _ h5 h6 => exact Concat.cur_of_phase h5 h6 (.inr hk)
  | over _ h2 => exact absurd hk (h2 k).2

theorem sinkLive_cur {n : Nat} {st : Concat.St} {g : Ph} {stk : List (Fm α)} (hm : Concat.Mode n st g stk)
    (hs : g.sinkPh 0 = .live) (hnw : ∀ j l r, stk ≠ Frame.wait (.subSrc j) l :: r) :
    st.slot = some st.i ∧ g.srcPh st.i = .live ∧ st.i < n := by
  cases hm with
  | idle h1 => rw [h1] at hs; cases hs
  | waiting _ _ _ _ _ _ h7 => obtain ⟨r, h7, _⟩ := h7; exact absurd h7 (hnw _ _ _)
  | live h1 h2 _ h4 => exact ⟨h2, h4, h1⟩
  | over h1 => rcases h1 with h | h <;> rw [h] at hs <;> cases hs

/-- the environment calls that are legal at a turn of `concat`, with what the phase invariant `Concat.Mode` says at each -/
inductive LegalIn (n : Nat) (st : Concat.St) (g : Ph) (stk : List (Fm α)) : In α → Prop
  | subscribe : g.sinkPh 0 = .idle → st.i = 0 → LegalIn n st g stk (.subscribe 0)
  | sinkUp (u : Up) : g.sinkPh 0 = .live → (∀ j l r, stk ≠ Frame.wait (.subSrc j) l :: r) → st.slot = some st.i → st.i < n →
      LegalIn n st g stk (.sinkUp 0 u)
  | srcGreet : st.i < n → (st.i ≠ 0 → g.sinkPh 0 = .live) → LegalIn n st g stk (.srcGreet st.i)
  | srcDown (d : Down α) : st.slot = some st.i → st.i < n → LegalIn n st g stk (.srcDown st.i d)

theorem legalIn_of {n : Nat} {st : Concat.St} {g : Ph} {stk : List (Fm α)} {c : Ctx α} {i : In α}
    (hoths : ∀ k, k ≠ 0 → g.sinkPh k = .idle) (hm : Concat.Mode n st g stk) (hc : ctxOf stk = some c)
    (hl : legalIn (Concat.machine α n).shape g c i = true) : LegalIn n st g stk i := by
  cases i with
  | subscribe k =>
    have hidle := legal_subscribe hl
    have hk : k = 0 := by
      simp only [legalIn, Bool.and_eq_true, beq_iff_eq, Concat.machine, Bool.or_false] at hl; exact hl.2
    subst hk
    refine .subscribe hidle ?_
    cases hm with
    | idle _ _ h3 _ => exact h3
    | waiting _ _ _ _ _ h6 _ => exact Decidable.byContradiction fun h0 => by rw [h6 h0] at hidle; cases hidle
    | live _ _ h3 => rw [h3] at hidle; cases hidle
    | over h1 => rcases h1 with h | h <;> rw [h] at hidle <;> cases hidle
  | sinkUp k u =>
    have hlive := legal_sinkUp hl
    obtain rfl := sink_zero_of_live hoths hlive
    have hnw : ∀ j l r, stk ≠ Frame.wait (.subSrc j) l :: r := by
      intro j l r he; subst he
      simp [ctxOf] at hc; subst hc
      simp [legalIn, isTop, inGreet, inData] at hl
    obtain ⟨h1, _, h3⟩ := sinkLive_cur hm hlive hnw
    exact .sinkUp u hlive hnw h1 h3
  | srcGreet k =>
    have hsub := legal_srcGreet hl
    cases sub_cur hm hsub
    cases hm with
    | idle _ h => rw [h] at hsub; cases hsub
    | waiting h1 _ _ _ _ h6 _ => exact .srcGreet h1 h6
    | live _ _ _ h => rw [h] at hsub; cases hsub
    | over _ h => exact absurd hsub (h _).2
  | srcDown k d =>
    obtain ⟨hk, hsl, _, hlt⟩ := live_cur hm (legal_srcDown hl)
    subst hk
    exact .srcDown d hsl hlt

theorem anySinkOpen_of_srcOpen (n : Nat) (hn : 0 < n) (j : Nat) :
    ∀ s, SReach (Concat.machine α n) s → EnvTurn s → (s.g.ph.srcPh j = .subscribed ∨ s.g.ph.srcPh j = .live) →
      s.g.ph.anySinkOpen = true := by
  intro s hs ht h
  obtain ⟨st, stk, g, tr, p⟩ := s
  obtain ⟨hp, hc⟩ := ht
  simp only at hp hc h ⊢; subst hp
  obtain ⟨c, hcc⟩ := Option.isSome_iff_exists.1 hc
  obtain ⟨_, hm⟩ := cinv n hn hs hcc
  apply (Ph.anySinkOpen_iff _).2
  cases hm with
  | idle _ h2 => rw [h2 j] at h; rcases h with h | h <;> cases h
  | waiting _ _ _ _ h5 h6 _ =>
    by_cases hi : st.i = 0
    · exact ⟨0, .inl (h5 hi)⟩
    · exact ⟨0, .inr (h6 hi)⟩
  | live _ _ h3 => exact ⟨0, .inr h3⟩
  | over _ h2 => rcases h with h | h
                 · exact absurd h (h2 j).2
                 · exact absurd h (h2 j).1

end CK

end PlugConcat

namespace PlugSafe

namespace ConcatK
variable {α : Type}

abbrev Fm (α : Type) := Frame (Concat.Loc α) α

abbrev Fr (stk : List (Fm α)) : Prop := Conts (· = Concat.Loc.done) stk

def TopA (n : Nat) (st : Concat.St) : List (Fm α) → Prop
  | .run .t0 :: _ => st.i < n
  | .run .next :: _ => st.i ≤ n
  | _ => True

def K (n : Nat) (s : Sys Concat.St (Concat.Loc α) α α) : Prop :=
  s.panicked = none → (∀ i, n ≤ i → s.g.ph.srcPh i = .idle) ∧ Fr s.stack ∧ TopA n s.st s.stack

macro "cnoway" h:ident : tactic =>
  `(tactic| first
      | (simp [Concat.machine, Concat.step] at $h:ident; done)
      | (simp [Concat.machine, Concat.step] at $h:ident; split at $h:ident <;> simp at $h:ident; done))

theorem fr_reach (n : Nat) : ∀ s, SReach (Concat.machine α n) s → Fr s.stack := by
  apply reach_ind
  · intro f hf; cases hf
  · intro a b _ ih h
    cases h with
    | tau _ => exact ih.tail.run
    | call hst => exact ih.tail.wait (Concat.Call.tail (Concat.Edge.of hst)).2
    | ret _ => exact ih.tail
    | panic _ => exact ih.tail
  · intro a b m _ ih h
    cases h with
    | call i _ _ => exact ih.run
    | ret _ => exact ih.tail.run

theorem reach_ind (n : Nat) (hn : 0 < n) (P : Sys Concat.St (Concat.Loc α) α α → Prop)
    (init : P (Sys.init (Concat.machine α n)))
    (tau : ∀ st l stk g tr st' l', SReach (Concat.machine α n) ⟨st, .run l :: stk, g, tr, none⟩ →
      P ⟨st, .run l :: stk, g, tr, none⟩ → Concat.Tau st l st' l' → P ⟨st', .run l' :: stk, g, tr, none⟩)
    (call : ∀ st l stk g tr o, SReach (Concat.machine α n) ⟨st, .run l :: stk, g, tr, none⟩ →
      P ⟨st, .run l :: stk, g, tr, none⟩ → Concat.Call n st l o st .done → (g.ph.onOut o).viols = [] →
      P ⟨st, .wait o .done :: stk, g.onOut (Concat.machine α n).shape o, .out o :: tr, none⟩)
    (ret : ∀ st l stk g tr, SReach (Concat.machine α n) ⟨st, .run l :: stk, g, tr, none⟩ →
      P ⟨st, .run l :: stk, g, tr, none⟩ → Concat.Ret st l → (∀ f ∈ stk, ∃ o l, f = Frame.wait o l) →
      P ⟨st, stk, g.onRetO stk.length, .retO :: tr, none⟩)
    (envCall : ∀ st stk g tr c i, SReach (Concat.machine α n) ⟨st, stk, g, tr, none⟩ → P ⟨st, stk, g, tr, none⟩ →
      ctxOf stk = some c → legalIn (Concat.machine α n).shape g.ph c i = true →
      (∀ k, k ≠ 0 → g.ph.sinkPh k = .idle) → Concat.Mode n st g.ph stk →
      P ⟨st, .run (Concat.enter i) :: stk, g.onIn stk.length i, .inp i :: tr, none⟩)
    (envRet : ∀ st stk g tr o, SReach (Concat.machine α n) ⟨st, .wait o .done :: stk, g, tr, none⟩ →
      P ⟨st, .wait o .done :: stk, g, tr, none⟩ → legalRet (Concat.machine α n).shape g.ph (.inCall o : Ctx α) = true →
      P ⟨st, .run .done :: stk, g, .retE :: tr, none⟩) :
    ∀ s, SReach (Concat.machine α n) s → s.panicked = none → P s := by
  apply Cb.reach_ind
  · intro _; exact init
  · intro a b ha ih h
    have hsafe := (Concat.concat_basicSafe n hn b (reach_op ha h)).1
    cases h with
    | tau hst => intro _; exact tau _ _ _ _ _ _ _ ha (ih rfl) (Concat.Edge.of hst)
    | call hst =>
      have hc := Concat.Edge.of hst
      obtain ⟨rfl, rfl⟩ := Concat.Call.tail hc
      intro _; exact call _ _ _ _ _ _ ha (ih rfl) hc (by simpa [onOut_ph] using hsafe)
    | ret hst => intro _; exact ret _ _ _ _ _ ha (ih rfl) (Concat.Edge.of hst) (pop_turn _ ha)
    | panic _ => intro hp; cases hp
  · intro a b m ha ih h
    cases h with
    | call i hc hl =>
      obtain ⟨_, _, hoths, hm⟩ := Concat.inv_of_turn n hn ha ⟨rfl, by simp [hc]⟩
      intro _; exact envCall _ _ _ _ _ _ ha (ih rfl) hc hl hoths hm
    | @ret st stk g tr o l hl =>
      have : l = .done := fr_reach n _ ha _ List.mem_cons_self o l rfl
      subst this
      intro _; exact envRet _ _ _ _ _ ha (ih rfl) hl

theorem topA_turn {n : Nat} {st : Concat.St} {stk : List (Fm α)} (h : ∀ f ∈ stk, ∃ o l, f = Frame.wait o l) :
    TopA n st stk :=
  of_waits (TopA n st) h trivial fun _ _ _ => trivial

open PlugConcat.CK

theorem K_reach (n : Nat) (hn : 0 < n) : ∀ s, SReach (Concat.machine α n) s → K n s := by
  intro s hs hp
  suffices h : (∀ i, n ≤ i → s.g.ph.srcPh i = .idle) ∧ TopA n s.st s.stack from ⟨h.1, fr_reach n s hs, h.2⟩
  refine reach_ind n hn (fun s => (∀ i, n ≤ i → s.g.ph.srcPh i = .idle) ∧ TopA n s.st s.stack) ?_ ?_ ?_ ?_ ?_ ?_ s hs hp
  · exact ⟨fun i _ => by simp [Sys.init], trivial⟩
  · intro st l stk g tr st' l' _ ⟨h1, h3⟩ h
    refine ⟨h1, ?_⟩
    cases h with
    | t0 => exact h3
    | _ => trivial
  · intro st l stk g tr o _ ⟨h1, h3⟩ h _
    refine ⟨fun i hi => ?_, trivial⟩
    rw [onOut_ph]
    refine ComposeFull.onOut_srcPh_idle_ne _ _ _ (h1 i hi) ?_
    cases h with
    | sub hne => intro he; cases he; exact hne (Nat.le_antisymm h3 hi)
    | _ => intro he; cases he
  · intro st l stk g tr _ ⟨h1, _⟩ _ hw
    exact ⟨by simpa [onRetO_ph] using h1, topA_turn hw⟩
  · intro st stk g tr c i _ ⟨h1, _⟩ hc hl hoths hm
    -- only the current member greets or delivers, and it is one of the `n`
    cases legalIn_of hoths hm hc hl with
    | subscribe _ h0 => exact ⟨fun i' hi' => by simpa using h1 i' hi', (by show st.i ≤ n; omega)⟩
    | sinkUp u _ _ _ _ => exact ⟨fun i' hi' => by simpa using h1 i' hi', by cases u <;> trivial⟩
    | srcGreet hlt _ =>
      exact ⟨fun i' hi' => by rw [onIn_ph, Ph.srcPh_onIn_srcGreet_ne _ (by omega)]; exact h1 i' hi', trivial⟩
    | srcDown d _ hlt =>
      refine ⟨fun i' hi' => by rw [onIn_ph, Ph.srcPh_onIn_srcDown_ne _ (by omega)]; exact h1 i' hi', ?_⟩
      cases d <;> first | trivial | exact hlt
  · intro st stk g tr o _ ⟨h1, _⟩ _
    exact ⟨h1, trivial⟩

end ConcatK

end PlugSafe

namespace PlugConcat
open ComposeFun ComposeComplete PlugSafe

namespace CK
variable {α : Type}

def TopB (st : Concat.St) (g : Ph) : List (Fm α) → Prop
  | .run .t0 :: _ => g.srcPh st.i = .ended ∧ g.sinkPh 0 = .live
  | .run (.g0 j) :: _ => j = st.i
  | .run .g1 :: _ => st.slot = some st.i
  | .run .g2 :: _ => st.slot = some st.i
  | .run .g3 :: _ => st.slot = some st.i
  | .run .p0 :: _ => st.slot = some st.i
  | .run (.u1 u) :: _ => u = .pull → st.slot = some st.i
  | _ => True

/-- the member phases by index: the members before the current one have ended, those after it have not been subscribed to -/
structure K1 (s : Sys Concat.St (Concat.Loc α) α α) : Prop where
  s1 : ∀ j, j < s.st.i → s.g.ph.srcPh j = .ended
  s2 : ∀ j, s.st.i < j → s.g.ph.srcPh j = .idle
  top : TopB s.st s.g.ph s.stack

macro "cstp" h:ident : tactic =>
  `(tactic| first
      | (simp [Concat.machine, Concat.step] at $h:ident; done)
      | (simp [Concat.machine, Concat.step] at $h:ident; split at $h:ident <;> simp at $h:ident; done))

theorem topB_turn {st : Concat.St} {g : Ph} {stk : List (Fm α)} (h : ∀ f ∈ stk, ∃ o l, f = Frame.wait o l) : TopB st g stk :=
  of_waits (TopB st g) h trivial fun _ _ _ => trivial

theorem K1_reach (n : Nat) (hn : 0 < n) : ∀ s, SReach (Concat.machine α n) s → s.panicked = none → K1 s := by
  refine ConcatK.reach_ind n hn K1 ?_ ?_ ?_ ?_ ?_ ?_
  · exact ⟨fun j hj => absurd hj (Nat.not_lt_zero j), fun j _ => by simp [Sys.init], trivial⟩
  · intro st l stk g tr st' l' _ ⟨h1, h2, h3⟩ h
    cases h with
    | t0 =>
      refine ⟨fun j hj => ?_, fun j hj => h2 j (Nat.lt_of_succ_lt hj), trivial⟩
      rcases Nat.lt_succ_iff_lt_or_eq.1 hj with h | rfl
      · exact h1 j h
      · exact h3.1
    | g0 => exact ⟨h1, h2, congrArg some h3⟩
    | g1 _ => exact ⟨h1, h2, h3⟩
    | g2 _ => exact ⟨h1, h2, h3⟩
    | p0 => exact ⟨h1, h2, fun _ => h3⟩
  · intro st l stk g tr o _ ⟨h1, h2, _⟩ h _
    refine ⟨fun j hj => ?_, fun j hj => ?_, trivial⟩
    · rw [onOut_ph]; exact ComposeFull.onOut_srcPh_ended _ _ _ (h1 j hj)
    · rw [onOut_ph]
      refine ComposeFull.onOut_srcPh_idle_ne _ _ _ (h2 j hj) ?_
      cases h <;> intro he <;> cases he
      exact Nat.lt_irrefl _ hj
  · intro st l stk g tr _ ⟨h1, h2, _⟩ _ hw
    exact ⟨by simpa [onRetO_ph] using h1, by simpa [onRetO_ph] using h2, topB_turn hw⟩
  · intro st stk g tr c i _ ⟨h1, h2, _⟩ hc hl hoths hm
    cases legalIn_of hoths hm hc hl with
    | subscribe _ _ => exact ⟨by simpa using h1, by simpa using h2, trivial⟩
    | sinkUp u _ _ hslot _ =>
      refine ⟨by simpa using h1, by simpa using h2, ?_⟩
      cases u with
      | pull => exact hslot
      | term => exact fun h => nomatch h
      | err e => exact fun h => nomatch h
    | srcGreet _ _ =>
      exact ⟨fun j hj => by simpa [Ph.srcPh_onIn_srcGreet_ne _ (Nat.ne_of_lt hj)] using h1 j hj,
        fun j hj => by simpa [Ph.srcPh_onIn_srcGreet_ne _ (Nat.ne_of_gt hj)] using h2 j hj, rfl⟩
    | srcDown d hsl _ =>
      refine ⟨fun j hj => by simpa [Ph.srcPh_onIn_srcDown_ne _ (Nat.ne_of_lt hj)] using h1 j hj,
        fun j hj => by simpa [Ph.srcPh_onIn_srcDown_ne _ (Nat.ne_of_gt hj)] using h2 j hj, ?_⟩
      cases d with
      | data x => trivial
      | err e => trivial
      | term => exact ⟨by simp [Ph.onIn], by simpa using (live_cur hm (legal_srcDown hl)).2.2.1⟩
  · intro st stk g tr o _ ⟨h1, h2, _⟩ _
    exact ⟨h1, h2, trivial⟩

def ErrInLt (n : Nat) (tr : List (Ev α α)) : Prop := ∃ i e, i < n ∧ SrcEv.down i (Down.err e) ∈ srcEvs tr

theorem errInLt_cons {n : Nat} {tr : List (Ev α α)} (ev : Ev α α) (h : ErrInLt n tr) : ErrInLt n (ev :: tr) :=
  let ⟨i, e, hlt, hi⟩ := h
  ⟨i, e, hlt, mem_srcEvs_cons hi⟩

/-- why the sink was terminated: after the last member, or because a member sent an `Error` -/
structure K2 (n : Nat) (s : Sys Concat.St (Concat.Loc α) α α) : Prop where
  tout : s.g.ph.sinkPh 0 = .doneBySrc → s.st.i = n ∨ ErrInLt n s.tr
  fe : ∀ e r, s.stack = Frame.run (Concat.Loc.fwd (.err e)) :: r → ErrInLt n s.tr
  nft : ∀ r, s.stack ≠ Frame.run (Concat.Loc.fwd .term) :: r
  ei : ErrOut s.tr → ErrInLt n s.tr

theorem K2.cons {n : Nat} {st : Concat.St} {stk stk' : List (Fm α)} {g g' : G} {tr : List (Ev α α)} {ev : Ev α α}
    (h : K2 n ⟨st, stk, g, tr, none⟩) (hev : ∀ k e, ev ≠ .out (.down k (.err e)))
    (hph : g'.ph.sinkPh 0 = .doneBySrc → g.ph.sinkPh 0 = .doneBySrc)
    (hfe : ∀ e r, stk' = Frame.run (Concat.Loc.fwd (.err e)) :: r → ErrInLt n (ev :: tr))
    (hnft : ∀ r, stk' ≠ Frame.run (Concat.Loc.fwd .term) :: r) : K2 n ⟨st, stk', g', ev :: tr, none⟩ where
  tout hd := (h.tout (hph hd)).imp_right (errInLt_cons ev)
  fe := hfe
  nft := hnft
  ei ho := (errOut_cons ho).elim (fun ho => errInLt_cons ev (h.ei ho)) (fun ⟨k, e, he⟩ => absurd he (hev k e))

theorem K2_reach (n : Nat) (hn : 0 < n) : ∀ s, SReach (Concat.machine α n) s → s.panicked = none → K2 n s := by
  refine ConcatK.reach_ind n hn (K2 n) ?_ ?_ ?_ ?_ ?_ ?_
  · exact ⟨fun h => by simp [Sys.init] at h, (fun _ _ h => nomatch h), (fun _ h => nomatch h), (fun ⟨_, _, hk⟩ => nomatch hk)⟩
  · intro st l stk g tr st' l' ha ⟨h1, _, _, h4⟩ h
    have hk1 := (K1_reach n hn _ ha rfl).top
    cases h
    case t0 => exact ⟨fun hd => (by rw [hk1.2] at hd; cases hd), (fun _ _ h => nomatch h), (fun _ h => nomatch h), h4⟩
    all_goals exact ⟨h1, (fun _ _ h => nomatch h), (fun _ h => nomatch h), h4⟩
  · intro st l stk g tr o _ hk h hv
    have ⟨_, h2, h3, h4⟩ := hk
    have other : (∀ k d, o ≠ .down k d) →
        K2 n ⟨st, .wait o .done :: stk, g.onOut (Concat.machine α n).shape o, .out o :: tr, none⟩ := fun ho =>
      hk.cons (fun k e he => ho k _ (Ev.out.inj he)) (by rw [onOut_ph]; exact onOut_sinkPh_doneBySrc_back _ _ _ ho)
        (fun _ _ h => nomatch h) (fun _ h => nomatch h)
    cases h with
    | last hi => exact ⟨fun _ => .inl hi, (fun _ _ h => nomatch h), (fun _ h => nomatch h),
        fun ho => (errOut_cons ho).elim (fun ho => errInLt_cons _ (h4 ho)) (fun ⟨_, _, he⟩ => nomatch he)⟩
    | @fwd d =>
      cases d with
      | term => exact absurd rfl (h3 stk)
      | err e =>
        have he := errInLt_cons (Ev.out (.down 0 (.err e))) (h2 e stk rfl)
        exact ⟨fun _ => .inr he, (fun _ _ h => nomatch h), (fun _ h => nomatch h), fun _ => he⟩
      | data x =>
        obtain ⟨hl, he⟩ := Ph.onOut_down_ok _ _ _ hv
        exact hk.cons (fun _ _ he => nomatch he) (by rw [onOut_ph, he]; exact id) (fun _ _ h => nomatch h) (fun _ h => nomatch h)
    | sub _ => exact other (fun _ _ h => nomatch h)
    | greet _ => exact other (fun _ _ h => nomatch h)
    | repull _ => exact other (fun _ _ h => nomatch h)
    | up _ => exact other (fun _ _ h => nomatch h)
  · intro st l stk g tr ha hk _ hw
    refine hk.cons (fun _ _ he => nomatch he) (by rw [onRetO_ph]; exact id) (fun e r h => ?_) (fun r h => ?_)
    all_goals obtain ⟨o, l1, he⟩ := hw _ (h ▸ List.mem_cons_self); cases he
  · intro st stk g tr c i _ hk hc hl hoths hm
    refine hk.cons (fun _ _ he => nomatch he) (by rw [onIn_ph]; exact onIn_sinkPh_doneBySrc_back _ _ _) (fun e r h => ?_) (fun r h => ?_)
    · cases legalIn_of hoths hm hc hl with
      | srcDown d _ hlt =>
        cases d with
        | err e' => exact ⟨st.i, e', hlt, by simp [srcEvs, srcEv]⟩
        | data x => cases h
        | term => cases h
      | subscribe _ _ => cases h
      | sinkUp u _ _ _ _ => cases u <;> cases h
      | srcGreet _ _ => cases h
    · cases i with
      | srcDown j d => cases d <;> cases h
      | subscribe k => cases h
      | sinkUp k u => cases u <;> cases h
      | srcGreet j => cases h
  · intro st stk g tr o _ hk _
    exact hk.cons (fun _ _ he => nomatch he) id (fun _ _ h => nomatch h) (fun _ h => nomatch h)

/-- the datum in flight -/
def pend : List (Fm α) → List α
  | .run (.fwd (.data a)) :: _ => [a]
  | _ => []

theorem pend_turn {stk : List (Fm α)} (h : ∀ f ∈ stk, ∃ o l, f = Frame.wait o l) : pend stk = [] :=
  of_waits (pend · = []) h rfl fun _ _ _ => rfl

/-- an unserved Pull of the sink has been passed to the CURRENT member -/
def Q (st : Concat.St) (tr : List (Ev α α)) : Prop := aP tr = true → lastPullSrc st.i (srcEvs tr) = true

def DQ (st : Concat.St) (g : Ph) (tr : List (Ev α α)) : List (Fm α) → Prop
  | .run .p0 :: _ => True
  | .run (.u1 .pull) :: _ => True
  | .run (.fwd _) :: _ => True
  | .run .t0 :: _ => True
  | .run .next :: _ => True
  | .run (.g0 _) :: _ => True
  | .run .g1 :: _ => True
  | .run .g2 :: _ => True
  | .run .g3 :: _ => True
  | .wait (.subSrc j) _ :: _ => g.srcPh j = .subscribed ∨ Q st tr
  | _ => Q st tr

/-- an unserved Pull of the sink is one of the current member: `concat` has noted it (`gotPull`) or is handling it, and once
the handler is through it has been passed on (`DQ`) -/
structure K3 (s : Sys Concat.St (Concat.Loc α) α α) : Prop where
  gp : aP s.tr = true → s.st.gotPull = true ∨ ∃ r, s.stack = Frame.run Concat.Loc.p0 :: r
  dq : DQ s.st s.g.ph s.tr s.stack

theorem dq_pop {st : Concat.St} {g : Ph} {tr : List (Ev α α)} {stk : List (Fm α)}
    (hw : ∀ f ∈ stk, ∃ o l, f = Frame.wait o l) (hq : Q st tr) : DQ st g tr stk := by
  cases stk with
  | nil => exact hq
  | cons f r =>
    obtain ⟨o, l, rfl⟩ := hw f List.mem_cons_self
    cases o <;> first | exact hq | exact .inr hq

theorem q_of_dq {st : Concat.St} {g : Ph} {tr : List (Ev α α)} {stk : List (Fm α)} {c : Ctx α} (hc : ctxOf stk = some c)
    (hnw : ∀ j l r, stk ≠ Frame.wait (.subSrc j) l :: r) (h : DQ st g tr stk) : Q st tr := by
  cases stk with
  | nil => exact h
  | cons f r =>
    cases f with
    | run l => simp [ctxOf] at hc
    | wait o l =>
      cases o with
      | subSrc j => exact absurd rfl (hnw j l r)
      | _ => exact h

section
/- The last relevant event of a trace with one more event: with these, `simp` evaluates `aP (ev :: tr)` and
`lastPullSrc i (srcEvs (ev :: tr))` for an explicit `ev`. -/
attribute [local simp] aP_cons lastPullSrc_srcEvs_cons sinkEv srcEv relS relSrc

theorem K3_reach (n : Nat) (hn : 0 < n) : ∀ s, SReach (Concat.machine α n) s → s.panicked = none → K3 s := by
  refine ConcatK.reach_ind n hn K3 ?_ ?_ ?_ ?_ ?_ ?_
  · exact ⟨(fun h => nomatch h), (fun h => nomatch h)⟩
  · intro st l stk g tr st' l' _ ⟨h2, _⟩ h
    have gp : aP tr = true → st.gotPull = true ∨ l = .p0 := fun ha => (h2 ha).imp_right (fun ⟨r, hr⟩ => by cases hr; rfl)
    cases h
    case p0 => exact ⟨fun _ => .inl rfl, trivial⟩
    all_goals exact ⟨fun ha => .inl ((gp ha).resolve_right (fun h => nomatch h)), trivial⟩
  · intro st l stk g tr o ha ⟨h2, h3⟩ h hv
    have hk1 := (K1_reach n hn _ ha rfl).top
    have gp : aP tr = true → st.gotPull = true := fun ha' => (h2 ha').elim id (fun ⟨r, hr⟩ => by cases hr; cases h)
    cases h with
    | last _ => exact ⟨fun h => by simp at h, fun h => by simp at h⟩
    | fwd => exact ⟨fun h => by simp at h, fun h => by simp at h⟩
    | sub _ =>
      refine ⟨fun h => .inl (gp (by simpa using h)), .inl ?_⟩
      rw [onOut_ph, (Ph.onOut_subSrc_ok _ _ hv).2.2]; simp
    | greet _ =>
      have hap : aP tr = false := aP_false_of_unsub ha (.inr (Ph.onOut_greet_ok _ _ hv).1)
      exact ⟨fun h => by simp [hap] at h, fun h => by simp [hap] at h⟩
    | repull hs =>
      cases hs.symm.trans hk1
      exact ⟨fun h => .inl (gp (by simpa using h)), fun _ => by simp⟩
    | @up s u hs =>
      cases u with
      | pull =>
        cases hs.symm.trans (hk1 rfl)
        exact ⟨fun h => .inl (gp (by simpa using h)), fun _ => by simp⟩
      | term => exact ⟨fun h => .inl (gp (by simpa using h)), by simpa [DQ, Q] using h3⟩
      | err e => exact ⟨fun h => .inl (gp (by simpa using h)), by simpa [DQ, Q] using h3⟩
  · intro st l stk g tr _ ⟨h2, h3⟩ h hw
    have gp : aP tr = true → st.gotPull = true := fun ha' => (h2 ha').elim id (fun ⟨r, hr⟩ => by cases hr; cases h)
    have hq : Q st tr := by
      cases h with
      | done => exact h3
      | g2 hp => exact fun ha' => by rw [gp ha'] at hp; cases hp
    exact ⟨fun h => .inl (gp (by simpa using h)), dq_pop hw (by simpa [Q] using hq)⟩
  · intro st stk g tr c i ha ⟨h2, h3⟩ hc hl hoths hm
    have gp : aP tr = true → st.gotPull = true := fun ha' => (h2 ha').elim id (fun ⟨r, hr⟩ => by subst hr; simp [ctxOf] at hc)
    cases legalIn_of hoths hm hc hl with
    | subscribe hidle _ =>
      have hap := aP_false_of_unsub ha (.inl hidle)
      exact ⟨fun h => by simp [hap] at h, trivial⟩
    | sinkUp u hlive hnw _ _ =>
      have hq := q_of_dq hc hnw h3
      cases u with
      | pull => exact ⟨fun _ => .inr ⟨_, rfl⟩, trivial⟩
      | term => exact ⟨fun h => .inl (gp (by simpa using h)), by simpa [DQ, Q, Concat.enter] using hq⟩
      | err e => exact ⟨fun h => .inl (gp (by simpa using h)), by simpa [DQ, Q, Concat.enter] using hq⟩
    | srcGreet _ _ => exact ⟨fun h => .inl (gp (by simpa using h)), trivial⟩
    | srcDown d _ _ =>
      refine ⟨fun h => .inl (gp (by simpa using h)), ?_⟩
      cases d <;> trivial
  · intro st stk g tr o _ ⟨h2, h3⟩ hl
    have hq : Q st tr := by
      cases o with
      | subSrc j => exact h3.resolve_left (fun h3 => by simp [legalRet, Concat.machine, h3] at hl)
      | _ => exact h3
    exact ⟨fun h => (h2 (by simpa using h)).imp_right (fun ⟨r, hr⟩ => nomatch hr), by simpa [DQ, Q] using hq⟩

end

end CK

end PlugConcat

namespace ConcatN
open PlugConcat.CK

/-- `f 0 ++ f 1 ++ … ++ f (m-1)` -/
def catN {α : Type} (f : Nat → List α) : Nat → List α
  | 0 => []
  | m + 1 => catN f m ++ f m

theorem catN_congr {α : Type} {f f' : Nat → List α} {m : Nat} (h : ∀ j, j < m → f j = f' j) : catN f m = catN f' m := by
  induction m with
  | zero => rfl
  | succ m ih => simp only [catN]; rw [ih (fun j hj => h j (by omega)), h m (by omega)]

theorem catN_tail_nil {α : Type} {f : Nat → List α} {n j : Nat} (hj : j ≤ n) (hz : ∀ i, j ≤ i → i < n → f i = []) :
    catN f n = catN f j := by
  induction hj with
  | refl => rfl
  | @step n hjn ih => rw [catN, ih (fun i h1 h2 => hz i h1 (by omega)), hz n hjn (by omega), List.append_nil]

theorem catN_split {α : Type} {f : Nat → List α} {n i : Nat} (hi : i < n) (hz : ∀ j, i < j → j < n → f j = []) :
    catN f n = catN f i ++ f i :=
  catN_tail_nil (j := i + 1) hi hz

theorem catN_prefix_of_le {α : Type} (f : Nat → List α) {j n : Nat} (h : j ≤ n) : catN f j <+: catN f n := by
  induction h with
  | refl => exact List.prefix_refl _
  | step _ ih => exact ih.trans (List.prefix_append _ _)

theorem catN_snoc {α : Type} {f f' : Nat → List α} {n k : Nat} {a : α} (hk : k < n) (hz : ∀ j, k < j → j < n → f j = [])
    (h1 : f' k = f k ++ [a]) (h2 : ∀ j, j ≠ k → f' j = f j) : catN f' n = catN f n ++ [a] := by
  rw [catN_split hk hz, catN_split hk (fun j hj hn => (h2 j (by omega)).trans (hz j hj hn)), h1,
    catN_congr (fun j hj => h2 j (by omega)), List.append_assoc]

theorem catN_prefix {α : Type} {f ys : Nat → List α} {n i0 : Nat} (hfull : ∀ j, j < i0 → j < n → f j = ys j)
    (hpre : i0 < n → f i0 <+: ys i0) (hz : ∀ j, i0 < j → j < n → f j = []) : catN f n <+: catN ys n := by
  by_cases h : i0 < n
  · rw [catN_split h hz, catN_congr (fun j hj => hfull j hj (by omega))]
    exact ((List.prefix_append_right_inj _).2 (hpre h)).trans (catN_prefix_of_le ys h)
  · rw [catN_congr (fun j hj => hfull j (by omega) hj)]
    exact List.prefix_refl _

theorem catN_shift {α : Type} (f : Nat → List α) : ∀ j, catN f (j + 1) = f 0 ++ catN (fun i => f (i + 1)) j
  | 0 => by simp [catN]
  | j + 1 => by rw [catN, catN_shift f j, catN, List.append_assoc]

theorem catN_length_le {X Y : Type} {f : Nat → List X} {g : Nat → List Y} {j : Nat} (h : ∀ i, i < j → (f i).length ≤ (g i).length) :
    (catN f j).length ≤ (catN g j).length := by
  induction j with
  | zero => exact Nat.le_refl _
  | succ j ih =>
    simp only [catN, List.length_append]
    have := ih (fun i hi => h i (by omega))
    have := h j (by omega)
    omega

theorem catN_length_eq {X Y : Type} {f : Nat → List X} {g : Nat → List Y} {j : Nat} (h : ∀ i, i < j → (f i).length = (g i).length) :
    (catN f j).length = (catN g j).length :=
  Nat.le_antisymm (catN_length_le fun i hi => Nat.le_of_eq (h i hi)) (catN_length_le fun i hi => Nat.le_of_eq (h i hi).symm)

theorem catN_getD {α : Type} (yss : List (List α)) : catN (fun i => yss.getD i []) yss.length = yss.flatten := by
  have key : ∀ m, m ≤ yss.length → catN (fun i => yss.getD i []) m = (yss.take m).flatten := by
    intro m
    induction m with
    | zero => intro _; simp [catN]
    | succ m ih =>
      intro hm
      have hlt : m < yss.length := by omega
      simp only [catN]
      rw [ih (by omega), List.take_add_one, List.getElem?_eq_getElem hlt, List.flatten_append]
      simp [List.getD_eq_getElem?_getD, List.getElem?_eq_getElem hlt]
  rw [key _ (Nat.le_refl _), List.take_length]

section Data
variable {α : Type}

/-- the data equation of `concat` at a turn: the sink has received what the members have sent, in member order -/
def KD (n : Nat) (s : Sys Concat.St (Concat.Loc α) α α) : Prop := recvData 0 s.tr = catN (fun j => sentData j s.tr) n

/-- A datum of the current member is passed on, and the members after it have sent nothing (`sentData_of_idle`). -/
theorem KD.macro {n : Nat} {s : Sys Concat.St (Concat.Loc α) α α} {m : Move α} {st : Concat.St} {r : Option (Out α × Concat.Loc α)}
    (hr : SReach (Concat.machine α n) s) (hI : Concat.Inv n s) (h : KD n s) (hM : Concat.Macro n s m st r) :
    KD n (s.next (Concat.machine α n).shape st m r) := by
  have hrv := Sys.next_recvData (Concat.machine α n).shape s st m r 0
  have hsn := Sys.next_sentData (Concat.machine α n).shape s st m r
  have plain : dataOut 0 r = [] → (∀ j, dataIn j m = []) → KD n (s.next (Concat.machine α n).shape st m r) := fun ho hin => by
    unfold KD
    rw [hrv, ho, List.append_nil, h]
    exact catN_congr fun j _ => ((hsn j).trans (by rw [hin j, List.append_nil])).symm
  cases hM with
  | data a _ hl =>
    obtain ⟨_, _, _, hm⟩ := hI
    unfold KD
    rw [hrv, h]
    cases hm with
    | idle _ h2 => rw [h2] at hl; cases hl
    | waiting _ h2 => rw [h2] at hl; cases hl
    | over _ h2 => exact absurd hl (h2 _).1
    | live h1 _ _ _ _ h6 =>
      exact (catN_snoc h1 (fun j hj _ => sentData_of_idle hr (h6 j hj)) ((hsn _).trans (by simp [dataIn]))
        (fun j hj => (hsn j).trans (by simp [dataIn, Ne.symm hj]))).symm
  | _ => exact plain rfl fun _ => rfl

theorem KD_of_turn (n : Nat) (hn : 0 < n) {s : Sys Concat.St (Concat.Loc α) α α} (hs : SReach (Concat.machine α n) s) (ht : EnvTurn s) :
    KD n s :=
  (Lands.at_turn anyEnv (KD n) (Concat.inv_init n)
    (by
      have : ∀ m, catN (fun j => sentData j ([] : List (Ev α α))) m = [] := by
        intro m; induction m with
        | zero => rfl
        | succ m ih => simp only [catN, ih]; rfl
      exact (this n).symm)
    (fun s h => (Concat.inv_turn n s h).1) (Concat.macro_inv hn)
    (fun _ _ _ _ hr hi h _ hm _ _ => h.macro hr hi hm) hs ht).2

/-- The data equation just before `concat` pulls a member: the configuration after that call is a turn, and the `Pull` is in neither
view. -/
theorem KD.at_pull {n : Nat} (hn : 0 < n) {st st' : Concat.St} {l l' : Concat.Loc α} {stk : List (Fm α)} {g : G} {tr : List (Ev α α)}
    {k : Nat} (ha : SReach (Concat.machine α n) ⟨st, .run l :: stk, g, tr, none⟩)
    (hst : (Concat.machine α n).step st l = .call (.srcUp k .pull) st' l') : recvData 0 tr = catN (fun j => sentData j tr) n :=
  KD_of_turn n hn (ha.step (.op (opStep_of_oStep (.call hst)))) ⟨rfl, rfl⟩

end Data

end ConcatN

end Cb

#print axioms Cb.ConcatN.KD_of_turn
