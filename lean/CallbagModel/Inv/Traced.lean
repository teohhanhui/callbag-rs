import CallbagModel.Ops.Traced
/-!
# Tracing is observationally inert (C20)

For EVERY machine `M`, the reachable configurations of `traced M` and of `M` are the same up to `eraseSys`: same operator state,
same ghost (hence the same recorded violations), same boundary trace, same panic flag.
-/
namespace Cb
variable {St Loc α β : Type}

theorem ctxOf_map_eraseFrame (stk : List (Frame (TLoc Loc) β)) : ctxOf (stk.map eraseFrame) = ctxOf stk := by
  cases stk with
  | nil => rfl
  | cons f r =>
    cases f with
    | run l => cases l <;> rfl
    | wait o l => cases l <;> rfl

theorem eraseSys_init (M : Machine St Loc α β) : eraseSys (Sys.init (traced M)) = Sys.init M := rfl

theorem traced_step_at (M : Machine St Loc α β) (st : St) (l : Loc) :
    (traced M).step st (.at l) = match M.step st l with
      | .call _ _ _ => .tau st (.logged l) | .tau st' l' => .tau st' (.at l') | .ret => .ret | .panic m => .panic m := rfl

theorem traced_step_logged (M : Machine St Loc α β) (st : St) (l : Loc) :
    (traced M).step st (.logged l) = match M.step st l with
      | .call o st' l' => .call o st' (.at l') | .tau st' l' => .tau st' (.at l') | .ret => .ret | .panic m => .panic m := rfl

theorem opStep_traced_erase (M : Machine St Loc α β) (a b : Sys St (TLoc Loc) α β) (h : opStep (traced M) a = some b) :
    eraseSys b = eraseSys a ∨ opStep M (eraseSys a) = some (eraseSys b) := by
  have ret : ∀ {st l} {r : List (Frame (TLoc Loc) β)} {g tr}, M.step st l = .ret →
      opStep M ⟨st, .run l :: r.map eraseFrame, g, tr, none⟩ = some ⟨st, r.map eraseFrame, g.onRetO r.length, .retO :: tr, none⟩ :=
    fun hst => by rw [opStep_of_oStep (.ret hst), List.length_map]
  obtain ⟨st, stk, g, tr, p⟩ := a
  obtain ⟨hp, tl, r, hs, rfl⟩ := opStep_eq_some h
  simp only at hp hs
  subst hp hs
  cases tl with
  | pre l => exact .inl rfl
  | «at» l =>
    simp only [traced_step_at]
    cases hst : M.step st l with
    | call o st' l' => exact .inl rfl
    | tau st' l' => exact .inr (opStep_of_oStep (.tau hst))
    | ret => exact .inr (ret hst)
    | panic m => exact .inr (opStep_of_oStep (.panic hst))
  | logged l =>
    simp only [traced_step_logged]
    cases hst : M.step st l with
    | call o st' l' => exact .inr (opStep_of_oStep (.call hst))
    | tau st' l' => exact .inr (opStep_of_oStep (.tau hst))
    | ret => exact .inr (ret hst)
    | panic m => exact .inr (opStep_of_oStep (.panic hst))

theorem envStep_traced_erase (M : Machine St Loc α β) (m : Move α) (a b : Sys St (TLoc Loc) α β) (h : EnvStep (traced M) m a b) :
    EnvStep M m (eraseSys a) (eraseSys b) := by
  cases h with
  | @call st stk g tr c i hc hl =>
    have h1 : ctxOf (stk.map (eraseFrame (β := β))) = some c := by rw [ctxOf_map_eraseFrame]; exact hc
    have := EnvStep.call (M := M) (st := st) (g := g) (tr := tr) i h1 hl
    rw [List.length_map] at this
    exact this
  | @ret st stk g tr o l hl =>
    cases l <;> exact EnvStep.ret (M := M) (stk := stk.map eraseFrame) hl

theorem traced_refines (M : Machine St Loc α β) :
    ∀ s, SReach (traced M) s → SReach M (eraseSys s) := by
  refine SReachR.ind _ .init (fun a b _ ih h => ?_) (fun a b m _ ih h _ => reach_env ih (envStep_traced_erase M m a b h))
  rcases opStep_traced_erase M a b h with h | h
  · rw [h]; exact ih
  · exact .step ih (.op h)

/-- the traced frame that is at the program point proper -/
def liftFrame : Frame Loc β → Frame (TLoc Loc) β
  | .run l => .run (.at l)
  | .wait o l => .wait o (.at l)

def liftSys (s : Sys St Loc α β) : Sys St (TLoc Loc) α β :=
  { st := s.st, stack := s.stack.map liftFrame, g := s.g, tr := s.tr, panicked := s.panicked }

theorem eraseFrame_liftFrame (f : Frame Loc β) : eraseFrame (liftFrame f) = f := by
  cases f <;> rfl

theorem eraseSys_liftSys (s : Sys St Loc α β) : eraseSys (liftSys s) = s := by
  obtain ⟨st, stk, g, tr, p⟩ := s
  have : (stk.map liftFrame).map eraseFrame = stk := by
    induction stk with
    | nil => rfl
    | cons f r ih => rw [List.map_cons, List.map_cons, ih, eraseFrame_liftFrame]
  simp only [eraseSys, liftSys, this]

theorem ctxOf_map_liftFrame (stk : List (Frame Loc β)) : ctxOf (stk.map liftFrame) = ctxOf stk := by
  cases stk with
  | nil => rfl
  | cons f r => cases f <;> rfl

/-- the traced machine follows every reachable configuration of the original one, frame by frame at the program point proper:
a call takes two steps (`at l`, `logged l`), entering a handler two (`pre l`, `at l`), everything else one -/
theorem traced_follows (M : Machine St Loc α β) : ∀ s, SReach M s → SReach (traced M) (liftSys s) := by
  refine reach_ind M (fun s => SReach (traced M) (liftSys s)) .init (fun a b _ ih h => ?_) (fun a b m _ ih h => ?_)
  · cases h with
    | tau hst => exact reach_op ih (.tau (by rw [traced_step_at, hst]))
    | call hst => exact reach_op (reach_op ih (.tau (by rw [traced_step_at, hst]))) (.call (by rw [traced_step_logged, hst]))
    | @ret st l stk g tr hst =>
      have := reach_op ih (.ret (M := traced M) (l := .at l) (by rw [traced_step_at, hst]))
      rwa [List.length_map] at this
    | panic hst => exact reach_op ih (.panic (by rw [traced_step_at, hst]))
  · cases h with
    | @call st stk g tr c i hc hl =>
      have := reach_call (M := traced M) ih i (c := c) (by rw [ctxOf_map_liftFrame]; exact hc) hl
      rw [List.length_map] at this
      exact reach_op this (.tau rfl)
    | ret hl => exact reach_ret (M := traced M) ih hl

theorem traced_complete (M : Machine St Loc α β) :
    ∀ s, SReach M s → ∃ s', SReach (traced M) s' ∧ eraseSys s' = s :=
  fun s hs => ⟨liftSys s, traced_follows M s hs, eraseSys_liftSys s⟩

theorem traced_transfer (M : Machine St Loc α β) (P : St → G → List (Ev α β) → Option String → Prop)
    (h : ∀ s, SReach M s → P s.st s.g s.tr s.panicked) :
    ∀ s, SReach (traced M) s → P s.st s.g s.tr s.panicked :=
  fun s hs => h (eraseSys s) (traced_refines M s hs)

theorem traced_transfer_iff (M : Machine St Loc α β) (P : St → G → List (Ev α β) → Option String → Prop) :
    (∀ s, SReach (traced M) s → P s.st s.g s.tr s.panicked) ↔ (∀ s, SReach M s → P s.st s.g s.tr s.panicked) := by
  refine ⟨fun h s hs => ?_, traced_transfer M P⟩
  obtain ⟨s', hs', rfl⟩ := traced_complete M s hs
  exact h s' hs'

/-- each message expression is evaluated exactly once: a call of the traced machine is performed from `logged l`, which is entered
exactly once per call from `at l`, and the message sent is the one `M.step` computes at `l` in the state in which it was logged -/
theorem traced_call_once (M : Machine St Loc α β) (st : St) (l : Loc) (o : Out β) (st' : St) (l' : Loc) (h : M.step st l = .call o st' l') :
    (traced M).step st (.at l) = .tau st (.logged l) ∧ (traced M).step st (.logged l) = .call o st' (.at l') := by
  exact ⟨by rw [traced_step_at, h], by rw [traced_step_logged, h]⟩

#print axioms traced_refines
#print axioms traced_complete
#print axioms traced_transfer
#print axioms traced_transfer_iff
#print axioms traced_call_once

end Cb
