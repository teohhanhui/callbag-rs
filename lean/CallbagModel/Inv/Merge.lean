import CallbagModel.Inv.Ghost2
import CallbagModel.Inv.Runs
import CallbagModel.Ops.Merge
/-!
# merge: the phase-level safety invariant (every member count, late greeters allowed)

The two loops that skip members (`uLoop`, `eLoop`) are handled by scan lemmas, instances of `Runs.scan`: from a loop head
the operator either reaches the first member `≥ j` whose slot is set (and calls it) or leaves the loop.

* Pull broadcast (`uLoop j pull`): its waiting frame carries **no** assumption — when it resumes it re-reads `ended` and the
  slots, and in every stable mode "slot set ⇒ member live" (while not ended) holds.
* `Terminate`/`Error` broadcast (`uLoop j u`) and the sibling disposal of an erroring member (`eLoop i j e`): the callee of
  their waiting frames can only return, so "exactly the members after `j` with a slot set (other than `i`) are live" is
  stable; it is part of the modes `uloop`/`eloop`.
* The subscription loop frame sits at the bottom of the stack; it assumes the members not yet subscribed are idle.

Each iteration of a broadcast loop that calls a member is a macro step of its own, begun by the return of the previous callee.  A loop
head is reached by a call (the sink's `Pull`, its end, a member's `Error`, the subscription) or by a return (`Entry`); what the run does
from there (`Tail`) is the same for both, and is proved of the handler alone (`GoodT`: no turn, no move).
-/
namespace Cb.Merge

variable {α : Type}

def cnt (f : Nat → Bool) : Nat → Nat
  | 0 => 0
  | n+1 => cnt f n + (if f n then 1 else 0)

theorem cnt_eq_countP (f : Nat → Bool) : ∀ n, cnt f n = (List.range n).countP f
  | 0 => rfl
  | n+1 => by rw [cnt, cnt_eq_countP f n, List.range_succ, List.countP_append, List.countP_singleton]

theorem cnt_congr {f g : Nat → Bool} {n : Nat} (h : ∀ j, j < n → f j = g j) : cnt f n = cnt g n := by
  rw [cnt_eq_countP, cnt_eq_countP]; exact countP_range_congr h

theorem cnt_eq_zero_iff {f : Nat → Bool} {n : Nat} : cnt f n = 0 ↔ ∀ j, j < n → f j = false := by
  rw [cnt_eq_countP]; exact countP_range_eq_zero

theorem cnt_eq_all_iff {f : Nat → Bool} {n : Nat} : cnt f n = n ↔ ∀ j, j < n → f j = true := by
  rw [cnt_eq_countP]; exact countP_range_eq_self

theorem cnt_flip {f g : Nat → Bool} {n i : Nat} (hi : i < n) (hf : f i = true) (hg : g i = false)
    (h : ∀ j, j ≠ i → f j = g j) : cnt f n = cnt g n + 1 := by
  rw [cnt_eq_countP, cnt_eq_countP]; exact countP_range_flip hi hf hg h

abbrev Cfg (α : Type) := Sys St (Loc α) α α

section runs
variable {n : Nat} {st : St}

theorem step_uLoop_skip {u : Up} {j : Nat} (hjn : j < n) (hc : isEnd u = true ∨ st.ended = false) (hs : phAt st.slots j = false) :
    (machine α n).step st (.uLoop j u) = .tau st (.uLoop (j+1) u) := by
  rcases hc with hc | hc <;> simp [machine, step, hjn, hc, hs]

theorem step_uLoop_call {u : Up} {j : Nat} (hjn : j < n) (hc : isEnd u = true ∨ st.ended = false) (hs : phAt st.slots j = true) :
    (machine α n).step st (.uLoop j u) = .call (.srcUp j u) st (.uLoop (j+1) u) := by
  rcases hc with hc | hc <;> simp [machine, step, hjn, hc, hs]

theorem step_uLoop_exit {u : Up} {j : Nat} (hjn : ¬ j < n) : (machine α n).step st (.uLoop j u) = .ret := by
  simp [machine, step, hjn]

/-- `hc`: the early exit of the loop does not apply -/
theorem uLoop_scan (n : Nat) (st : St) (u : Up) (hc : isEnd u = true ∨ st.ended = false) (j : Nat) :
    (Runs (machine α n) st (.uLoop j u) st none ∧ ∀ j', j ≤ j' → j' < n → phAt st.slots j' = false) ∨
    (∃ j'', j ≤ j'' ∧ j'' < n ∧ phAt st.slots j'' = true ∧ (∀ j', j ≤ j' → j' < j'' → phAt st.slots j' = false) ∧
      Runs (machine α n) st (.uLoop j u) st (some (.srcUp j'' u, .uLoop (j''+1) u))) := by
  obtain ⟨j'', h1, h2, h3, hr⟩ := Runs.scan (M := machine α n) (st := st) (fun j => .uLoop j u)
    (fun j => phAt st.slots j = true) n (fun j hj hs => step_uLoop_skip hj hc (Bool.eq_false_iff.2 hs)) j
  have hempty : ∀ j', j ≤ j' → j' < j'' → phAt st.slots j' = false := fun j' a b => Bool.eq_false_iff.2 (h3 j' a b)
  by_cases hlt : j'' < n
  · have hs : phAt st.slots j'' = true := h2.resolve_left (by omega)
    exact .inr ⟨j'', h1, hlt, hs, hempty, hr (.call (step_uLoop_call hlt hc hs))⟩
  · exact .inl ⟨hr (.ret (step_uLoop_exit hlt)), fun j' a b => hempty j' a (by omega)⟩

theorem step_eLoop_skip {i j e : Nat} (hjn : j < n) (hs : j = i ∨ phAt st.slots j = false) :
    (machine α n).step st (.eLoop i j e) = .tau st (.eLoop i (j+1) e) := by
  rcases hs with hs | hs
  · subst hs; simp [machine, step, hjn]
  · simp [machine, step, hjn, hs]

theorem step_eLoop_call {i j e : Nat} (hjn : j < n) (hji : j ≠ i) (hs : phAt st.slots j = true) :
    (machine α n).step st (.eLoop i j e) = .call (.srcUp j .term) st (.eLoop i (j+1) e) := by
  simp [machine, step, hjn, hs, hji]

theorem run_eLoop_exit {i j e : Nat} (hjn : ¬ j < n) :
    Runs (machine α n) st (.eLoop i j e) st (some (.down 0 (.err e), .done)) :=
  .tau (st' := st) (l' := .eOut e) (by simp [machine, step, hjn]) (.call rfl)

theorem eLoop_scan (n : Nat) (st : St) (i e : Nat) (j : Nat) :
    (Runs (machine α n) st (.eLoop i j e) st (some (.down 0 (.err e), .done)) ∧
        ∀ j', j ≤ j' → j' < n → j' ≠ i → phAt st.slots j' = false) ∨
    (∃ j'', j ≤ j'' ∧ j'' < n ∧ j'' ≠ i ∧ phAt st.slots j'' = true ∧
      (∀ j', j ≤ j' → j' < j'' → j' ≠ i → phAt st.slots j' = false) ∧
      Runs (machine α n) st (.eLoop i j e) st (some (.srcUp j'' .term, .eLoop i (j''+1) e))) := by
  obtain ⟨j'', h1, h2, h3, hr⟩ := Runs.scan (M := machine α n) (st := st) (fun j => .eLoop i j e)
    (fun j => j ≠ i ∧ phAt st.slots j = true) n
    (fun j hj hs => step_eLoop_skip hj (Decidable.or_iff_not_imp_left.2 fun hji => Bool.eq_false_iff.2 fun h => hs ⟨hji, h⟩)) j
  have hempty : ∀ j', j ≤ j' → j' < j'' → j' ≠ i → phAt st.slots j' = false :=
    fun j' a b c => Bool.eq_false_iff.2 fun h => h3 j' a b ⟨c, h⟩
  by_cases hlt : j'' < n
  · have hs : j'' ≠ i ∧ phAt st.slots j'' = true := h2.resolve_left (by omega)
    exact .inr ⟨j'', h1, hlt, hs.1, hs.2, hempty, hr (.call (step_eLoop_call hlt hs.1 hs.2))⟩
  · exact .inl ⟨hr (run_eLoop_exit hlt), fun j' a b => hempty j' a (by omega)⟩

theorem run_subLoop_call {i : Nat} (hin : i < n) (he : st.ended = false) :
    Runs (machine α n) st (.subLoop i) st (some (.subSrc i, .subLoop (i+1))) :=
  .tau (st' := st) (l' := .subCall i) (by simp [machine, step, hin, he]) (.call rfl)

theorem run_subLoop_ret {i : Nat} (h : ¬ i < n ∨ st.ended = true) : Runs (machine α n) st (.subLoop i) st none := by
  rcases h with h | h
  · exact .ret (by simp [machine, step, h])
  · exact .ret (by by_cases hin : i < n <;> simp [machine, step, h, hin])

theorem run_pull_ended {j : Nat} (he : st.ended = true) : Runs (machine α n) st (.uLoop j .pull) st none :=
  .ret (by by_cases hjn : j < n <;> simp [machine, step, hjn, he, isEnd])

theorem run_g0_first {i : Nat} (he : st.ended = false) (hsc : st.startCount = 0) :
    Runs (machine α n) st (.g0 i) ⟨setAt st.slots i true, st.startCount + 1, st.endCount, st.ended⟩ (some (.greet 0, .done)) :=
  .tau (st' := { st with slots := setAt st.slots i true }) (l' := .g1 i) (by simp [machine, step, he])
    (.tau (l' := .g2) (by simp [machine, step, hsc]) (.call rfl))

theorem run_g0_later {i : Nat} (he : st.ended = false) (hsc : st.startCount ≠ 0) :
    Runs (machine α n) st (.g0 i) ⟨setAt st.slots i true, st.startCount + 1, st.endCount, st.ended⟩ none :=
  .tau (st' := { st with slots := setAt st.slots i true }) (l' := .g1 i) (by simp [machine, step, he])
    (.tau (l' := .done) (by simp [machine, step, hsc]) (.ret rfl))

theorem run_g0_ended {i : Nat} (he : st.ended = true) : Runs (machine α n) st (.g0 i) st (some (.srcUp i .term, .done)) :=
  .call (by simp [machine, step, he])

theorem run_t0_last {i : Nat} (hlast : st.endCount + 1 = n) :
    Runs (machine α n) st (.t0 i) ⟨setAt st.slots i false, st.startCount, st.endCount + 1, st.ended⟩ (some (.down 0 .term, .done)) :=
  .tau (st' := { st with slots := setAt st.slots i false }) (l' := .t1) rfl (.tau (l' := .t2) (by simp [machine, step, hlast]) (.call rfl))

theorem run_t0_notLast {i : Nat} (hlast : ¬ st.endCount + 1 = n) :
    Runs (machine α n) st (.t0 i) ⟨setAt st.slots i false, st.startCount, st.endCount + 1, st.ended⟩ none :=
  .tau (st' := { st with slots := setAt st.slots i false }) (l' := .t1) rfl (.tau (l' := .done) (by simp [machine, step, hlast]) (.ret rfl))

end runs

/-- continuations that may wait below the top of the stack in a stable mode; only the subscription loop assumes something,
and it is the bottom frame -/
def ContOk (g : Ph) (l : Loc α) (rest : List (Frame (Loc α) α)) : Prop :=
  match l with
  | .done => True
  | .uLoop _ .pull => True
  | .subLoop i => rest = [] ∧ ∀ j, i ≤ j → g.srcPh j = .idle
  | _ => False

def Stk (g : Ph) : List (Frame (Loc α) α) → Prop
  | [] => True
  | .wait _ l :: rest => ContOk g l rest ∧ Stk g rest
  | .run _ :: _ => False

theorem ContOk.mono {g g' : Ph} (h : ∀ j, g.srcPh j = .idle → g'.srcPh j = .idle)
    {l : Loc α} {rest : List (Frame (Loc α) α)} (h1 : ContOk g l rest) : ContOk g' l rest := by
  cases l with
  | subLoop i => exact ⟨h1.1, fun j hj => h _ (h1.2 j hj)⟩
  | uLoop j u => cases u <;> exact h1
  | _ => exact h1

theorem Stk.mono {g g' : Ph} (h : ∀ j, g.srcPh j = .idle → g'.srcPh j = .idle) :
    ∀ {stk : List (Frame (Loc α) α)}, Stk g stk → Stk g' stk
  | [], _ => trivial
  | .wait _ _ :: _, ⟨h1, h2⟩ => ⟨h1.mono h, Stk.mono h h2⟩
  | .run _ :: _, h1 => h1.elim

theorem Stk.setSink {g : Ph} {stk : List (Frame (Loc α) α)} (h : Stk g stk) (k : Nat) (p : SinkPh) :
    Stk (g.setSink k p) stk := Stk.mono (g := g) (g' := g.setSink k p) (fun _ h => h) h

theorem idle_setSrc {g : Ph} {i : Nat} (p : SrcPh) (hi : g.srcPh i ≠ .idle) :
    ∀ j, g.srcPh j = .idle → (g.setSrc i p).srcPh j = .idle := by
  intro j hj
  by_cases hji : j = i
  · subst hji; exact absurd hj hi
  · simp [hji, hj]

theorem Stk.ctx {g : Ph} {stk : List (Frame (Loc α) α)} (h : Stk g stk) : (ctxOf stk).isSome := by
  cases stk with
  | nil => simp [ctxOf]
  | cons f r =>
    cases f with
    | run l => exact h.elim
    | wait o l => simp [ctxOf]

def endedCnt (g : Ph) (n : Nat) : Nat := cnt (fun j => decide (g.srcPh j = .ended)) n

theorem endedCnt_setSink (g : Ph) (k : Nat) (p : SinkPh) (n : Nat) : endedCnt (g.setSink k p) n = endedCnt g n := rfl

theorem endedCnt_setSrc_ne {g : Ph} {i : Nat} {p : SrcPh} (n : Nat) (h1 : g.srcPh i ≠ .ended) (h2 : p ≠ .ended) :
    endedCnt (g.setSrc i p) n = endedCnt g n := by
  refine cnt_congr fun j _ => ?_
  by_cases hj : j = i
  · subst hj; simp [h1, h2]
  · simp [hj]

theorem endedCnt_setSrc_ended {g : Ph} {i : Nat} (n : Nat) (hi : i < n) (h1 : g.srcPh i ≠ .ended) :
    endedCnt (g.setSrc i .ended) n = endedCnt g n + 1 := by
  apply cnt_flip hi
  · simp
  · simp [h1]
  · intro j hj; simp [hj]

theorem endedCnt_all {g : Ph} {n : Nat} (h : endedCnt g n = n) : ∀ j, j < n → g.srcPh j = .ended := by
  intro j hj
  simpa using cnt_eq_all_iff.1 h j hj

/-- the sink is greeted exactly by the first stored greeting -/
def OpenSink (st : St) (g : Ph) : Prop :=
  (g.sinkPh 0 = .subscribed ∧ st.startCount = 0 ∧ ∀ j, g.srcPh j ≠ .live) ∨ (g.sinkPh 0 = .live ∧ st.startCount ≠ 0)

theorem OpenSink.sink {st : St} {g : Ph} (h : OpenSink st g) : g.sinkPh 0 = .subscribed ∨ g.sinkPh 0 = .live :=
  h.imp (·.1) (·.1)

/-- the modes in which any peer may have control -/
inductive Stable (n : Nat) (st : St) (g : Ph) : Prop where
  /-- output open: a slot is set exactly for the live members, `endCount` counts the members that completed -/
  | opn : st.ended = false → OpenSink st g → (∀ j, phAt st.slots j = true ↔ g.srcPh j = .live) →
      st.endCount = endedCnt g n → Stable n st g
  /-- every member completed, the sink was sent `Terminate` -/
  | compl : st.ended = false → g.sinkPh 0 = .doneBySrc → (∀ j, j < n → g.srcPh j = .ended) →
      (∀ j, phAt st.slots j = false) → Stable n st g
  /-- the sink disposed or a member failed: nobody is live any more -/
  | closed : st.ended = true → (g.sinkPh 0 = .doneBySelf ∨ g.sinkPh 0 = .doneBySrc) → (∀ j, g.srcPh j ≠ .live) → Stable n st g

inductive Mode (n : Nat) (st : St) (g : Ph) (stk : List (Frame (Loc α) α)) : Prop where
  | init : g.sinkPh 0 = .idle → stk = [] → st.ended = false → st.startCount = 0 → st.endCount = 0 →
      (∀ j, phAt st.slots j = false) → (∀ j, g.srcPh j = .idle) → Mode n st g stk
  | stable : Stable n st g → Stk g stk → Mode n st g stk
  /-- the sink's `Terminate`/`Error` is being broadcast; member `j` has just been told -/
  | uloop (j : Nat) (u : Up) (rest : List (Frame (Loc α) α)) : isEnd u = true → st.ended = true → g.sinkPh 0 = .doneBySelf →
      stk = .wait (.srcUp j u) (.uLoop (j+1) u) :: rest → Stk g rest →
      (∀ j', g.srcPh j' = .live ↔ (j < j' ∧ phAt st.slots j' = true)) → Mode n st g stk
  /-- member `i` failed, its siblings are being disposed; member `j` has just been told -/
  | eloop (i j e : Nat) (rest : List (Frame (Loc α) α)) : st.ended = true → g.sinkPh 0 = .live →
      stk = .wait (.srcUp j .term) (.eLoop i (j+1) e) :: rest → Stk g rest →
      (∀ j', g.srcPh j' = .live ↔ (j < j' ∧ j' ≠ i ∧ phAt st.slots j' = true)) → Mode n st g stk

structure Base (n : Nat) (g : Ph) : Prop where
  viols : g.viols = []
  srcs : ∀ j, n ≤ j → g.srcPh j = .idle
  sinks : ∀ k, k ≠ 0 → g.sinkPh k = .idle

theorem Base.lt {n : Nat} {g : Ph} (h : Base n g) {i : Nat} (hi : g.srcPh i ≠ .idle) : i < n :=
  src_lt_of_ne_idle h.srcs hi

theorem Base.setSrc {n : Nat} {g : Ph} (h : Base n g) {i : Nat} (hi : i < n) (p : SrcPh) : Base n (g.setSrc i p) :=
  ⟨h.viols, aboveIdle_setSrc h.srcs hi p, h.sinks⟩

theorem Base.setSink {n : Nat} {g : Ph} (h : Base n g) (p : SinkPh) : Base n (g.setSink 0 p) :=
  ⟨h.viols, h.srcs, fun k hk => by simp [hk, h.sinks k hk]⟩

structure Facts (n : Nat) (st : St) (g : Ph) (stk : List (Frame (Loc α) α)) : Prop where
  base : Base n g
  mode : Mode n st g stk

def Inv (n : Nat) (s : Cfg α) : Prop := s.panicked = none ∧ Facts n s.st s.g.ph s.stack

theorem inv_turn (n : Nat) (s : Cfg α) (h : Inv n s) : EnvTurn s ∧ BasicSafe s := by
  obtain ⟨hp, hb, hm⟩ := h
  refine ⟨⟨hp, ?_⟩, hb.viols, hp⟩
  cases hm with
  | init _ h => simp [h, ctxOf]
  | stable _ h => exact h.ctx
  | uloop j u rest _ _ _ h => simp [h, ctxOf]
  | eloop i j e rest _ _ h => simp [h, ctxOf]

theorem inv_init (n : Nat) : Inv n (Sys.init (machine α n) : Cfg α) :=
  ⟨rfl, ⟨rfl, fun _ _ => by simp [Sys.init], fun _ _ => by simp [Sys.init]⟩,
    .init (by simp [Sys.init]) rfl rfl rfl rfl (fun j => phAt_replicate (α := Bool) n j) (fun _ => by simp [Sys.init])⟩

theorem ne_pull_of_isEnd {u : Up} (hu : isEnd u = true) : u ≠ .pull := by rintro rfl; cases hu

/-- How the move `m` from the turn `s` hands control to a loop or to a waiting continuation: the handler is at `l` in state `st`
(after the store to `ended`, for the sink's `Terminate`/`Error` and a member's `Error`). -/
inductive Entry (n : Nat) (s : Cfg α) : Move α → St → Loc α → Prop
  | subscribe (hb : Base n s.g.ph) (hk : s.g.ph.sinkPh 0 = .idle) (h0 : s.stack = []) :
      Entry n s (.call (.subscribe 0)) s.st (.subLoop 0)
  | pull (hb : Base n s.g.ph) (hstk : Stk s.g.ph s.stack) (hk : s.g.ph.sinkPh 0 = .live) :
      Entry n s (.call (.sinkUp 0 .pull)) s.st (.uLoop 0 .pull)
  | sinkEnd (u : Up) (hu : isEnd u = true) (hb : Base n s.g.ph) (hstk : Stk s.g.ph s.stack) (hk : s.g.ph.sinkPh 0 = .live) :
      Entry n s (.call (.sinkUp 0 u)) { s.st with ended := true } (.uLoop 0 u)
  | srcErr (i e : Nat) (hb : Base n s.g.ph) (hstk : Stk s.g.ph s.stack) (hk : s.g.ph.sinkPh 0 = .live) :
      Entry n s (.call (.srcDown i (.err e))) { s.st with ended := true } (.eLoop i 0 e)
  | ret {o l stk} (h : s.stack = .wait o l :: stk) : Entry n s .ret s.st l

/-- What the run does from a loop head or a waiting continuation `l`, with phases `g`, above the stack `stk`: the call it ends with (the
state stays).  One constructor per control path; each carries what the invariant knows on that path about the phases at the moment the
operator acts. -/
inductive Tail (n : Nat) (g : Ph) (stk : List (Frame (Loc α) α)) (st : St) : Loc α → Option (Out α × Loc α) → Prop
  | done (hstk : Stk g stk) : Tail n g stk st .done none
  | subCall {i : Nat} (hb : Base n g) (ho : OpenSink st g) (hi : g.srcPh i = .idle) :
      Tail n g stk st (.subLoop i) (some (.subSrc i, .subLoop (i+1)))
  | subRet {i : Nat} (hstk : Stk g stk) : Tail n g stk st (.subLoop i) none
  | pullRet {j : Nat} (hstk : Stk g stk) : Tail n g stk st (.uLoop j .pull) none
  /-- the phase facts are for `Inv/MergeFull.lean`: across a `Pull` the second-layer clause stays `XOk`, which speaks of phases
  (nothing delivered to the sink, no orphan) -/
  | pullCall {j : Nat} (j' : Nat) (hb : Base n g) (ho : OpenSink st g) (hlive : g.srcPh j' = .live) :
      Tail n g stk st (.uLoop j .pull) (some (.srcUp j' .pull, .uLoop (j'+1) .pull))
  | endRet {j : Nat} {u : Up} (hu : isEnd u = true) (hstk : Stk g stk) (hnl : ∀ j, g.srcPh j ≠ .live) :
      Tail n g stk st (.uLoop j u) none
  /-- no phase fact: while the sink's end is broadcast the second-layer clause (`Quiet`, `MergeFull.ExtAt`) is about `xviols`, `pend`, `sinkErr` only -/
  | endCall {j : Nat} {u : Up} (j' : Nat) (hu : isEnd u = true) : Tail n g stk st (.uLoop j u) (some (.srcUp j' u, .uLoop (j'+1) u))
  | errOut {i j e : Nat} (hk : g.sinkPh 0 = .live) (hnl : ∀ j, g.srcPh j ≠ .live) :
      Tail n g stk st (.eLoop i j e) (some (.down 0 (.err e), .done))
  /-- no phase fact, as for `endCall` (`PendErr`) -/
  | errCall {i j e : Nat} (j' : Nat) : Tail n g stk st (.eLoop i j e) (some (.srcUp j' .term, .eLoop i (j'+1) e))

/-- Either the move leads to a loop head or a continuation and the run is a `Tail` from there (with the phases and the stack after the
move: `s.gIn m`, `s.below m`), or a member greets, delivers or completes, and the handler runs straight to its one call or its return. -/
inductive Macro (n : Nat) (s : Cfg α) : Move α → St → Option (Out α × Loc α) → Prop
  | tail {m st l r} (hent : Entry n s m st l) (ht : Tail n (s.gIn m).ph (s.below m) st l r) : Macro n s m st r
  | greetFirst (i : Nat) (hb : Base n s.g.ph) (hstk : Stk s.g.ph s.stack) (he : s.st.ended = false) (hsc : s.st.startCount = 0)
      (hk : s.g.ph.sinkPh 0 = .subscribed) :
      Macro n s (.call (.srcGreet i)) ⟨setAt s.st.slots i true, s.st.startCount + 1, s.st.endCount, s.st.ended⟩ (some (.greet 0, .done))
  | greetLater (i : Nat) (hb : Base n s.g.ph) (hstk : Stk s.g.ph s.stack) (he : s.st.ended = false) (hsc : s.st.startCount ≠ 0)
      (hk : s.g.ph.sinkPh 0 = .live) :
      Macro n s (.call (.srcGreet i)) ⟨setAt s.st.slots i true, s.st.startCount + 1, s.st.endCount, s.st.ended⟩ none
  | greetLate (i : Nat) (hb : Base n s.g.ph) (hstk : Stk s.g.ph s.stack) (he : s.st.ended = true)
      (hk : s.g.ph.sinkPh 0 = .doneBySelf ∨ s.g.ph.sinkPh 0 = .doneBySrc) (hnl : ∀ j, s.g.ph.srcPh j ≠ .live) :
      Macro n s (.call (.srcGreet i)) s.st (some (.srcUp i .term, .done))
  | data (i : Nat) (a : α) (hb : Base n s.g.ph) (hstk : Stk s.g.ph s.stack) (hk : s.g.ph.sinkPh 0 = .live) :
      Macro n s (.call (.srcDown i (.data a))) s.st (some (.down 0 (.data a), .done))
  | termLast (i : Nat) (hb : Base n s.g.ph) (hstk : Stk s.g.ph s.stack) (he : s.st.ended = false) (hk : s.g.ph.sinkPh 0 = .live)
      (hall : ∀ j, j < n → (s.g.ph.setSrc i .ended).srcPh j = .ended) (hnl : ∀ j, (s.g.ph.setSrc i .ended).srcPh j ≠ .live) :
      Macro n s (.call (.srcDown i .term)) ⟨setAt s.st.slots i false, s.st.startCount, s.st.endCount + 1, s.st.ended⟩
        (some (.down 0 .term, .done))
  | termNotLast (i : Nat) (hb : Base n s.g.ph) (hstk : Stk s.g.ph s.stack) (hk : s.g.ph.sinkPh 0 = .live)
      (hcnt : endedCnt (s.g.ph.setSrc i .ended) n = s.st.endCount + 1) (hlast : ¬ s.st.endCount + 1 = n) :
      Macro n s (.call (.srcDown i .term)) ⟨setAt s.st.slots i false, s.st.startCount, s.st.endCount + 1, s.st.ended⟩ none

/-- from the loop head or continuation `l` the handler runs to the end of a `Tail`, where the invariant holds -/
def GoodT (n : Nat) (g : G) (stk : List (Frame (Loc α) α)) (st : St) (l : Loc α) : Prop :=
  ∃ r, Tail n g.ph stk st l r ∧ Runs (machine α n) st l st r ∧ ∀ tr, Inv n (Sys.ends (machine α n).shape st stk g tr r)

/-- from `l` in state `st`, on the run that the move `m` from the turn `s` started, the handler completes a macro step of `s` and the
invariant holds where it ends -/
def Good (n : Nat) (s : Cfg α) (m : Move α) (st : St) (l : Loc α) : Prop :=
  ∃ st' r, Macro n s m st' r ∧ Runs (machine α n) st l st' r ∧ Inv n (s.next (machine α n).shape st' m r)

section good
variable {n : Nat} {s : Cfg α} {m : Move α} {st st' : St} {l l' : Loc α} {g : G} {stk : List (Frame (Loc α) α)}

theorem Good.tau (h : (machine α n).step st l = .tau st' l') (hg : Good n s m st' l') : Good n s m st l :=
  have ⟨st'', r, hm, hr, hi⟩ := hg
  ⟨st'', r, hm, .tau h hr, hi⟩

theorem good_ret (hm : Macro n s m st' none) (hr : Runs (machine α n) st l st' none) (h : Facts n st' (s.gIn m).ph (s.below m)) :
    Good n s m st l :=
  ⟨st', none, hm, hr, by rw [Sys.next_eq]; exact ⟨rfl, by rw [Sys.ends_none_ph]; exact h⟩⟩

theorem good_call {o : Out α} (hm : Macro n s m st' (some (o, l'))) (hr : Runs (machine α n) st l st' (some (o, l')))
    (h : Facts n st' ((s.gIn m).ph.onOut o) (.wait o l' :: s.below m)) : Good n s m st l :=
  ⟨st', _, hm, hr, by rw [Sys.next_eq]; exact ⟨rfl, by rw [Sys.ends_some_ph]; exact h⟩⟩

theorem Entry.good (hent : Entry n s m st l) (h : GoodT n (s.gIn m) (s.below m) st l) : Good n s m st l :=
  have ⟨r, ht, hr, hi⟩ := h
  ⟨st, r, .tail hent ht, hr, by rw [Sys.next_eq]; exact hi _⟩

theorem tail_ret (ht : Tail n g.ph stk st l none) (hr : Runs (machine α n) st l st none) (h : Facts n st g.ph stk) :
    GoodT n g stk st l :=
  ⟨none, ht, hr, fun _ => ⟨rfl, by rw [Sys.ends_none_ph]; exact h⟩⟩

theorem tail_call {o : Out α} (ht : Tail n g.ph stk st l (some (o, l'))) (hr : Runs (machine α n) st l st (some (o, l')))
    (h : Facts n st (g.ph.onOut o) (.wait o l' :: stk)) : GoodT n g stk st l :=
  ⟨_, ht, hr, fun _ => ⟨rfl, by rw [Sys.ends_some_ph]; exact h⟩⟩

theorem good_pull (j : Nat) (hb : Base n g.ph) (hs : Stable n st g.ph) (hstk : Stk g.ph stk) : GoodT n g stk st (.uLoop j .pull) := by
  have hret : Runs (machine α n) st (.uLoop j .pull) st none → GoodT n g stk st (.uLoop j .pull) := fun hr =>
    tail_ret (.pullRet hstk) hr ⟨hb, .stable hs hstk⟩
  cases hs with
  | opn he ho hsl hec =>
    rcases uLoop_scan n st .pull (Or.inr he) j with ⟨hr, _⟩ | ⟨j'', _, _, hs, _, hr⟩
    · exact hret hr
    · have hlive := (hsl j'').1 hs
      refine tail_call (.pullCall j'' hb ho hlive) hr ?_
      rw [Ph.onOut_pull hlive]
      exact ⟨hb, .stable (.opn he ho hsl hec) ⟨trivial, hstk⟩⟩
  | compl he h1 h2 h3 =>
    rcases uLoop_scan n st .pull (Or.inr he) j with ⟨hr, _⟩ | ⟨j'', _, _, hs, _, hr⟩
    · exact hret hr
    · rw [h3 j''] at hs; cases hs
  | closed he h1 h2 => exact hret (run_pull_ended he)

/-! The invariant of the two disposal loops, at member `j`: the live members are those `≥ j` that the loop will call (`hit`). -/

theorem noLive_of_noHit {n : Nat} {g : Ph} {hit : Nat → Prop} {j : Nat} (hb : Base n g)
    (hl : ∀ j', g.srcPh j' = .live ↔ (j ≤ j' ∧ hit j')) (hall : ∀ j', j ≤ j' → j' < n → ¬ hit j') : ∀ j', g.srcPh j' ≠ .live := by
  intro j' hj'
  have h := (hl j').1 hj'
  exact hall j' h.1 (hb.lt (by rw [hj']; simp)) h.2

theorem live_after_hit {g : Ph} {hit : Nat → Prop} {j j'' : Nat} {p : SrcPh} (hp : p ≠ .live)
    (hl : ∀ j', g.srcPh j' = .live ↔ (j ≤ j' ∧ hit j')) (hle : j ≤ j'') (hfirst : ∀ j', j ≤ j' → j' < j'' → ¬ hit j') (j' : Nat) :
    (g.setSrc j'' p).srcPh j' = .live ↔ (j'' < j' ∧ hit j') := by
  by_cases hjj : j' = j''
  · subst hjj; simp [hp]
  · rw [Ph.srcPh_setSrc_ne _ _ hjj, hl j']
    constructor
    · rintro ⟨ha, hh⟩
      exact ⟨Nat.lt_of_le_of_ne (Nat.not_lt.1 fun hlt => hfirst j' ha hlt hh) (Ne.symm hjj), hh⟩
    · rintro ⟨ha, hh⟩; exact ⟨by omega, hh⟩

theorem good_uLoop_end (u : Up) (j : Nat) (hb : Base n g.ph) (hu : isEnd u = true) (he : st.ended = true)
    (hsink : g.ph.sinkPh 0 = .doneBySelf) (hstk : Stk g.ph stk)
    (hl : ∀ j', g.ph.srcPh j' = .live ↔ (j ≤ j' ∧ phAt st.slots j' = true)) : GoodT n g stk st (.uLoop j u) := by
  rcases uLoop_scan n st u (Or.inl hu) j with ⟨hr, hall⟩ | ⟨j'', h1, h2, hs, h4, hr⟩
  · have hnl := noLive_of_noHit hb hl fun j' a b => Bool.eq_false_iff.1 (hall j' a b)
    exact tail_ret (.endRet hu hstk hnl) hr ⟨hb, .stable (.closed he (Or.inl hsink) hnl) hstk⟩
  · have hlive : g.ph.srcPh j'' = .live := (hl j'').2 ⟨h1, hs⟩
    refine tail_call (.endCall j'' hu) hr ?_
    rw [Ph.onOut_srcEnd hlive (ne_pull_of_isEnd hu)]
    exact ⟨hb.setSrc h2 _, .uloop j'' u _ hu he (by simpa using hsink) rfl (hstk.mono (idle_setSrc _ (by rw [hlive]; simp)))
      (live_after_hit (by simp) hl h1 fun j' a b => Bool.eq_false_iff.1 (h4 j' a b))⟩

theorem good_eLoop (i e : Nat) (j : Nat) (hb : Base n g.ph) (he : st.ended = true) (hsink : g.ph.sinkPh 0 = .live)
    (hstk : Stk g.ph stk) (hl : ∀ j', g.ph.srcPh j' = .live ↔ (j ≤ j' ∧ j' ≠ i ∧ phAt st.slots j' = true)) :
    GoodT n g stk st (.eLoop i j e) := by
  rcases eLoop_scan n st i e j with ⟨hr, hall⟩ | ⟨j'', h1, h2, h2', hs, h4, hr⟩
  · have hnl := noLive_of_noHit hb hl fun j' a b h => Bool.eq_false_iff.1 (hall j' a b h.1) h.2
    refine tail_call (.errOut hsink hnl) hr ?_
    rw [Ph.onOut_final hsink rfl]
    exact ⟨hb.setSink _, .stable (.closed he (Or.inr (by simp)) (fun j' => by simpa using hnl j')) ⟨trivial, hstk.setSink _ _⟩⟩
  · have hlive : g.ph.srcPh j'' = .live := (hl j'').2 ⟨h1, h2', hs⟩
    refine tail_call (.errCall j'') hr ?_
    rw [Ph.onOut_srcEnd hlive (ne_pull_of_isEnd rfl)]
    exact ⟨hb.setSrc h2 _, .eloop i j'' e _ he (by simpa using hsink) rfl (hstk.mono (idle_setSrc _ (by rw [hlive]; simp)))
      (live_after_hit (by simp) hl h1 fun j' a b h => Bool.eq_false_iff.1 (h4 j' a b h.1) h.2)⟩

theorem good_cont {l : Loc α} (hb : Base n g.ph) (hs : Stable n st g.ph) (hf : ContOk g.ph l stk) (hrest : Stk g.ph stk) :
    GoodT n g stk st l := by
  cases l with
  | done => exact tail_ret (.done hrest) (.ret rfl) ⟨hb, .stable hs hrest⟩
  | uLoop j u =>
    cases u with
    | pull => exact good_pull j hb hs hrest
    | _ => exact hf.elim
  | subLoop i =>
    obtain ⟨rfl, hidle⟩ := hf
    have hret : (¬ i < n ∨ st.ended = true) → GoodT n g [] st (.subLoop i) := fun h =>
      tail_ret (.subRet hrest) (run_subLoop_ret h) ⟨hb, .stable hs hrest⟩
    by_cases hin : i < n
    · cases hs with
      | opn he ho hsl hec =>
        have hi : g.ph.srcPh i = .idle := hidle i (Nat.le_refl _)
        refine tail_call (.subCall hb ho hi) (run_subLoop_call hin he) ?_
        rw [Ph.onOut_subSrc hi ((Ph.anySinkOpen_iff _).2 ⟨0, ho.sink⟩)]
        refine ⟨hb.setSrc hin _, .stable (.opn he ?_ ?_ ?_) ⟨⟨rfl, ?_⟩, trivial⟩⟩
        · rcases ho with ⟨h1, h2, h3⟩ | ⟨h1, h2⟩
          · refine Or.inl ⟨by simpa using h1, h2, fun j => ?_⟩
            by_cases hj : j = i
            · subst hj; simp
            · simpa [hj] using h3 j
          · exact Or.inr ⟨by simpa using h1, h2⟩
        · intro j
          by_cases hj : j = i
          · subst hj; simp [hsl j, hi]
          · simp [hj, hsl j]
        · rw [endedCnt_setSrc_ne n (by rw [hi]; simp) (by simp)]; exact hec
        · intro j hj
          simp [show j ≠ i by omega, hidle j (by omega)]
      | compl he h1 h2 h3 =>
        have := h2 i hin
        rw [hidle i (Nat.le_refl _)] at this; cases this
      | closed he h1 h2 => exact hret (Or.inr he)
    · exact hret (Or.inl hin)
  | _ => exact hf.elim

end good

section enter
variable {n : Nat} {st : St} {g : G} {tr : List (Ev α α)} {stk : List (Frame (Loc α) α)} {c : Ctx α}

theorem good_subscribe (k : Nat) (hb : Base n g.ph) (hm : Mode n st g.ph stk)
    (hl : legalIn (machine α n).shape g.ph c (.subscribe k : In α) = true) :
    Good n ⟨st, stk, g, tr, none⟩ (.call (.subscribe k)) st (enter (.subscribe k)) := by
  obtain ⟨⟨_, hidle⟩, hk⟩ := legalIn_subscribe.1 hl
  obtain rfl : k = 0 := hk.resolve_right nofun
  cases hm with
  | init h1 h2 h3 h4 h5 h6 h7 =>
    subst h2
    have e := (Sys.gIn_ph (⟨st, [], g, tr, none⟩ : Cfg α) (.subscribe 0)).trans (Ph.onIn_subscribe g.ph 0)
    refine Entry.good (s := ⟨st, [], g, tr, none⟩) (.subscribe hb h1 rfl) (good_cont (by rw [e]; exact hb.setSink _) ?_ ⟨rfl, fun j _ => by rw [e]; simp [h7 j]⟩ trivial)
    rw [e]
    refine .opn h3 (Or.inl ⟨by simp, h4, fun j => by simp [h7 j]⟩) (fun j => by simp [h6, h7]) ?_
    rw [h5]; exact (cnt_eq_zero_iff.2 fun j _ => by simp [h7 j]).symm
  | stable hs hstk =>
    cases hs with
    | opn he ho _ _ => rcases ho.sink with h | h <;> (rw [h] at hidle; cases hidle)
    | compl he h _ _ => rw [h] at hidle; cases hidle
    | closed he h _ => rcases h with h | h <;> (rw [h] at hidle; cases hidle)
  | uloop j u rest _ _ h => rw [h] at hidle; cases hidle
  | eloop i j e rest _ h => rw [h] at hidle; cases hidle

theorem good_sinkUp (k : Nat) (u : Up) (hb : Base n g.ph) (hm : Mode n st g.ph stk) (hc : ctxOf stk = some c)
    (hl : legalIn (machine α n).shape g.ph c (.sinkUp k u : In α) = true) :
    Good n ⟨st, stk, g, tr, none⟩ (.call (.sinkUp k u)) st (enter (.sinkUp k u)) := by
  obtain ⟨hlive, hctx⟩ := legalIn_sinkUp.1 hl
  obtain rfl : k = 0 := sink_zero_of_live hb.sinks hlive
  cases hm with
  | init h => rw [h] at hlive; cases hlive
  | stable hs hstk =>
    cases hs with
    | opn he ho hsl hec =>
      rcases ho with ⟨h, _⟩ | ⟨_, hsc⟩
      · rw [h] at hlive; cases hlive
      · cases hu : isEnd u with
        | false =>
          obtain rfl : u = .pull := by cases u <;> first | rfl | cases hu
          have e := (Sys.gIn_ph (⟨st, stk, g, tr, none⟩ : Cfg α) (.sinkUp 0 .pull)).trans (Ph.onIn_pull g.ph 0)
          refine Good.tau (l' := .uLoop 0 .pull) (by simp [machine, step, enter, isEnd]) (Entry.good (s := ⟨st, stk, g, tr, none⟩) (.pull hb hstk hlive) (good_pull 0 ?_ ?_ ?_)) <;> rw [e]
          · exact hb
          · exact .opn he (Or.inr ⟨hlive, hsc⟩) hsl hec
          · exact hstk
        | true =>
          have e := (Sys.gIn_ph (⟨st, stk, g, tr, none⟩ : Cfg α) (.sinkUp 0 u)).trans (Ph.onIn_sinkEnd _ _ (ne_pull_of_isEnd hu))
          refine Good.tau (st' := { st with ended := true }) (l' := .uLoop 0 u) (by simp [machine, step, enter, hu])
            (Entry.good (s := ⟨st, stk, g, tr, none⟩) (.sinkEnd u hu hb hstk hlive) (good_uLoop_end u 0 ?_ hu rfl ?_ ?_ ?_)) <;> rw [e]
          · exact hb.setSink _
          · simp
          · exact hstk.setSink _ _
          · exact fun j' => ⟨fun h => ⟨Nat.zero_le _, (hsl j').2 h⟩, fun h => (hsl j').1 h.2⟩
    | compl he h _ _ => rw [h] at hlive; cases hlive
    | closed he h _ => rcases h with h | h <;> (rw [h] at hlive; cases hlive)
  | uloop j u rest _ _ h => rw [h] at hlive; cases hlive
  | eloop i j e rest _ _ h =>
    subst h
    simp [ctxOf] at hc; subst hc; simp [isTop, inGreet, inData] at hctx

theorem good_srcGreet (i : Nat) (hb : Base n g.ph) (hm : Mode n st g.ph stk) (hc : ctxOf stk = some c)
    (hl : legalIn (machine α n).shape g.ph c (.srcGreet i : In α) = true) :
    Good n ⟨st, stk, g, tr, none⟩ (.call (.srcGreet i)) st (enter (.srcGreet i)) := by
  obtain ⟨hsub, hctx⟩ := legalIn_srcGreet.1 hl
  have hin : i < n := hb.lt (by rw [hsub]; simp)
  have hidle := idle_setSrc (g := g.ph) (i := i) .live (by rw [hsub]; simp)
  have e0 := (Sys.gIn_ph (⟨st, stk, g, tr, none⟩ : Cfg α) (.srcGreet i)).trans (Ph.onIn_srcGreet g.ph i)
  cases hm with
  | init _ _ _ _ _ _ h => rw [h] at hsub; cases hsub
  | stable hs hstk =>
    cases hs with
    | opn he ho hsl hec =>
      have hsl' : ∀ j, phAt (setAt st.slots i true) j = true ↔ (g.ph.setSrc i .live).srcPh j = .live := by
        intro j
        by_cases hj : j = i
        · subst hj; simp [phAt_setAt]
        · simp [phAt_setAt, hj, hsl j]
      have hec' : st.endCount = endedCnt (g.ph.setSrc i .live) n := by
        rw [endedCnt_setSrc_ne n (by rw [hsub]; simp) (by simp)]; exact hec
      rcases ho with ⟨hsk, hsc, hnl⟩ | ⟨hsk, hsc⟩
      · refine good_call (.greetFirst i hb hstk he hsc hsk) (run_g0_first he hsc) ?_
        rw [e0, Ph.onOut_greet (by simpa using hsk)]
        exact ⟨(hb.setSrc hin _).setSink _, .stable (.opn he (Or.inr ⟨by simp, by simp⟩) hsl' hec')
          ⟨trivial, (hstk.mono hidle).setSink _ _⟩⟩
      · refine good_ret (.greetLater i hb hstk he hsc hsk) (run_g0_later he hsc) ?_
        rw [e0]
        exact ⟨hb.setSrc hin _, .stable (.opn he (Or.inr ⟨by simpa using hsk, by simp⟩) hsl' hec') (hstk.mono hidle)⟩
    | compl he _ h _ => rw [h i hin] at hsub; cases hsub
    | closed he hsk hnl =>
      refine good_call (.greetLate i hb hstk he hsk hnl) (run_g0_ended he) ?_
      rw [e0, Ph.onOut_srcEnd (by simp) (ne_pull_of_isEnd rfl)]
      refine ⟨(hb.setSrc hin _).setSrc hin _, .stable (.closed he hsk ?_) ⟨trivial, (hstk.mono hidle).mono (idle_setSrc _ (by simp))⟩⟩
      intro j
      by_cases hj : j = i
      · subst hj; simp
      · simpa [hj] using hnl j
  | uloop j u rest _ _ _ h =>
    subst h
    simp [ctxOf] at hc; subst hc; simp [isTop, inSub] at hctx
  | eloop j' j e rest _ _ h =>
    subst h
    simp [ctxOf] at hc; subst hc; simp [isTop, inSub] at hctx

theorem good_srcDown (i : Nat) (d : Down α) (hb : Base n g.ph) (hm : Mode n st g.ph stk) (hc : ctxOf stk = some c)
    (hl : legalIn (machine α n).shape g.ph c (.srcDown i d : In α) = true) :
    Good n ⟨st, stk, g, tr, none⟩ (.call (.srcDown i d)) st (enter (.srcDown i d)) := by
  obtain ⟨hlive, hctx⟩ := legalIn_srcDown.1 hl
  have hin : i < n := hb.lt (by rw [hlive]; simp)
  cases hm with
  | init _ _ _ _ _ _ h => rw [h] at hlive; cases hlive
  | stable hs hstk =>
    cases hs with
    | opn he ho hsl hec =>
      rcases ho with ⟨_, _, hnl⟩ | ⟨hsk, hsc⟩
      · exact absurd hlive (hnl i)
      · have hidle := idle_setSrc (g := g.ph) (i := i) .ended (by rw [hlive]; simp)
        cases d with
        | data a =>
          refine good_call (.data i a hb hstk hsk) (.call rfl) ?_
          rw [Sys.gIn_ph, Ph.onIn_data, Ph.onOut_data hsk]
          exact ⟨hb, .stable (.opn he (Or.inr ⟨hsk, hsc⟩) hsl hec) ⟨trivial, hstk⟩⟩
        | term =>
          have e0 := (Sys.gIn_ph (⟨st, stk, g, tr, none⟩ : Cfg α) (.srcDown i .term)).trans (Ph.onIn_srcEnd g.ph i rfl)
          have hcnt : endedCnt (g.ph.setSrc i .ended) n = st.endCount + 1 := by
            rw [endedCnt_setSrc_ended n hin (by rw [hlive]; simp), hec]
          by_cases hlast : st.endCount + 1 = n
          · have hall := endedCnt_all (g := g.ph.setSrc i .ended) (n := n) (by rw [hcnt, hlast])
            have hnl : ∀ j, (g.ph.setSrc i .ended).srcPh j ≠ .live := by
              intro j
              by_cases hj : j < n
              · rw [hall j hj]; simp
              · rw [(hb.setSrc hin _).srcs j (by omega)]; simp
            refine good_call (.termLast i hb hstk he hsk hall hnl) (run_t0_last hlast) ?_
            rw [e0, Ph.onOut_final (by simpa using hsk) rfl]
            refine ⟨(hb.setSrc hin _).setSink _, .stable (.compl he (by simp) (fun j hj => by simpa using hall j hj) ?_)
              ⟨trivial, (hstk.mono hidle).setSink _ _⟩⟩
            intro j
            by_cases hj : j = i
            · subst hj; simp [phAt_setAt]
            · simp only [phAt_setAt, hj, if_false]
              cases hsj : phAt st.slots j with
              | false => rfl
              | true =>
                have h1 := (hsl j).1 hsj
                have h2 := hall j (hb.lt (by rw [h1]; simp))
                simp [hj, h1] at h2
          · refine good_ret (.termNotLast i hb hstk hsk hcnt hlast) (run_t0_notLast hlast) ?_
            rw [e0]
            refine ⟨hb.setSrc hin _, .stable (.opn he (Or.inr ⟨by simpa using hsk, hsc⟩) ?_ hcnt.symm) (hstk.mono hidle)⟩
            intro j
            by_cases hj : j = i
            · subst hj; simp [phAt_setAt]
            · simp [phAt_setAt, hj, hsl j]
        | err x =>
          have e0 := (Sys.gIn_ph (⟨st, stk, g, tr, none⟩ : Cfg α) (.srcDown i (.err x))).trans (Ph.onIn_srcEnd g.ph i rfl)
          refine Good.tau (st' := { st with ended := true }) (l' := .eLoop i 0 x) rfl
            (Entry.good (s := ⟨st, stk, g, tr, none⟩) (.srcErr i x hb hstk hsk) (good_eLoop i x 0 ?_ rfl ?_ ?_ ?_)) <;> rw [e0]
          · exact hb.setSrc hin _
          · simpa using hsk
          · exact hstk.mono hidle
          · intro j
            by_cases hj : j = i
            · subst hj; simp
            · simp [hj, hsl j]
    | compl he _ h _ => rw [h i hin] at hlive; cases hlive
    | closed he hsk hnl => exact absurd hlive (hnl i)
  | uloop j u rest hu _ _ h =>
    subst h
    simp [ctxOf] at hc; subst hc
    cases u with
    | pull => cases hu
    | _ => simp [isTop, inSub, inPull] at hctx
  | eloop j' j e rest _ _ h =>
    subst h
    simp [ctxOf] at hc; subst hc; simp [isTop, inSub, inPull] at hctx

end enter

theorem macro_step (n : Nat) {s s' : Cfg α} {m : Move α} (h : Inv n s) (hs : EnvStep (machine α n) m s s') :
    Lands (machine α n) (Macro n) (Inv n) (fun _ => True) s s' m := by
  obtain ⟨_, hb, hm⟩ := h
  cases hs with
  | @call st stk g tr c i hc hl =>
    simp only at hb hm
    have hg : Good n ⟨st, stk, g, tr, none⟩ (.call i) st (enter i) := by
      cases i with
      | subscribe k => exact good_subscribe k hb hm hl
      | sinkUp k u => exact good_sinkUp k u hb hm hc hl
      | srcGreet i => exact good_srcGreet i hb hm hc hl
      | srcDown i d => exact good_srcDown i d hb hm hc hl
    obtain ⟨st', r, hmac, hr, hi⟩ := hg
    exact ⟨st', r, hmac, hr _ _ _, hi, id⟩
  | @ret st stk g tr o l hl =>
    simp only at hb hm
    have hg : Good n ⟨st, .wait o l :: stk, g, tr, none⟩ .ret st l := by
      cases hm with
      | init _ h => cases h
      | stable hs hstk => exact (Entry.ret rfl).good (good_cont hb hs hstk.1 hstk.2)
      | uloop j u rest hu he hsink hstk hrest hlv =>
        simp at hstk; obtain ⟨⟨rfl, rfl⟩, rfl⟩ := hstk
        exact (Entry.ret rfl).good (good_uLoop_end u (j+1) hb hu he hsink hrest hlv)
      | eloop i j e rest he hsink hstk hrest hlv =>
        simp at hstk; obtain ⟨⟨rfl, rfl⟩, rfl⟩ := hstk
        exact (Entry.ret rfl).good (good_eLoop i e (j+1) hb he hsink hrest hlv)
    obtain ⟨st', r, hmac, hr, hi⟩ := hg
    exact ⟨st', r, hmac, hr _ _ _, hi, id⟩

/-- merge, every member count, late greeters allowed: under every conformant environment (re-entrant sink, members that
greet inside the subscribing call, later, or never, and that answer a Pull synchronously), the operator never violates the
sink- or source-side protocol and never panics. -/
theorem merge_basicSafe {α : Type} (n : Nat) : ∀ s, SReach (machine α n true true) s → BasicSafe s :=
  Lands.basicSafe (inv_init n) (inv_turn n) (macro_step n)

end Cb.Merge

#print axioms Cb.Merge.merge_basicSafe
