import CallbagModel.Sem
import CallbagModel.Inv.Ghost
import CallbagModel.Inv.Views
import CallbagModel.Props
import CallbagModel.Spec
/-!
# The trace and the ghost phases agree (generic: every machine, every restriction of the environment)

`Sys.tr` and `Sys.g` are extended in lock-step by `opStep` and by the environment moves.  The chronological projections of
`Props.lean` (`srcEnded`, `sinkDisposed`, `finalsTo`, `openCalls`, …) can therefore be read off the phase layer of the ghost
monitor and off the call stack.  A relation between phases and trace that every event preserves is preserved by the operator's
steps (`opStep_ph_tr`) and holds along every run (`SReachR.ph_tr`); the invariant `TGp ph tr` (phases vs. trace) is such a
relation, and the stated lemmas are its projections.  `TG` adds the agreement of the open calls of the trace with the stack.
Then facts of every reachable configuration, which no operator's invariant needs to carry as a clause (`aP_false_of_unsub`, `sentData_of_idle`,
`finalsTo_of_c04`, the subscriptions of the trace against the phases), and, last, what ONE more event does to a projection of `Props.lean`
or a checker of `Spec.lean`.
-/
namespace Cb

variable {St Loc α β : Type}

section rule
variable {M : Machine St Loc α β} {P : Ph → List (Ev α β) → Prop}
  (skip : ∀ {ph tr} (e : Ev α β), e = .retE ∨ e = .retO ∨ e = .panic → P ph tr → P ph (e :: tr))
  (out : ∀ {ph tr} (o : Out β), P ph tr → P (ph.onOut o) (.out o :: tr))
include skip out

theorem opStep_ph_tr {a b : Sys St Loc α β} (h : opStep M a = some b) (ha : P a.g.ph a.tr) : P b.g.ph b.tr := by
  obtain ⟨_, l, r, _, rfl⟩ := opStep_eq_some h
  cases M.step a.st l with
  | tau s' l' => exact ha
  | call o s' l' => exact onOut_ph M.shape a.g o ▸ out o ha
  | ret => exact onRetO_ph a.g r.length ▸ skip .retO (.inr (.inl rfl)) ha
  | panic m => exact skip .panic (.inr (.inr rfl)) ha

theorem SReachR.ph_tr {R : Restr St Loc α β} (init : P {} [])
    (inp : ∀ {a : Sys St Loc α β} {c : Ctx β} (i : In α), legalIn M.shape a.g.ph c i = true → R a (.call i) →
      P a.g.ph a.tr → P (a.g.ph.onIn i) (.inp i :: a.tr))
    {s : Sys St Loc α β} (hs : SReachR M R s) : P s.g.ph s.tr := by
  refine SReachR.ind (fun s => P s.g.ph s.tr) init (fun _ _ _ ih h => opStep_ph_tr skip out h ih) (fun a b m _ ih h hR => ?_) s hs
  cases h with
  | @call st stk g tr c i hc hl => simpa using inp (a := ⟨st, stk, g, tr, none⟩) i hl hR ih
  | ret hl => exact skip .retE (.inl rfl) ih

end rule

/-- an invariant of the phases alone; `hout` is asked only of the calls the machine can make, where `SReachR.ph_tr` asks `out` of every
call -/
theorem ph_inv {M : Machine St Loc α β} (P : Ph → Prop) (h0 : P {})
    (hout : ∀ g o st l st' l', P g → M.step st l = .call o st' l' → P (g.onOut o))
    (hin : ∀ g (c : Ctx β) (i : In α), P g → legalIn M.shape g c i = true → P (g.onIn i)) :
    ∀ s, SReach M s → P s.g.ph := by
  apply reach_ind
  · exact h0
  · intro a b ha ih hstep
    cases hstep with
    | tau _ => exact ih
    | call hst => simp only [onOut_ph]; exact hout _ _ _ _ _ _ ih hst
    | ret _ => simpa only [onRetO_ph] using ih
    | panic _ => exact ih
  · intro a b m ha ih hstep
    cases hstep with
    | call i hc hl => simp only [onIn_ph]; exact hin _ _ _ ih hl
    | ret hl => exact ih

/-- the phases `ph` are what the trace `tr` (newest first) says they are -/
structure TGp (ph : Ph) (tr : List (Ev α β)) : Prop where
  ended : ∀ i, srcEnded i tr = true ↔ ph.srcPh i = .ended
  compl : ∀ i, srcCompleted i tr = true → ph.srcPh i = .ended
  disp : ∀ k, sinkDisposed k tr = true ↔ ph.sinkPh k = .doneBySelf
  greeted : ∀ i, srcGreeted i tr = true ↔ (ph.srcPh i = .live ∨ ph.srcPh i = .ended ∨ ph.srcPh i = .disposed)
  fin : ph.viols = [] → ∀ k, finalsTo k tr = if ph.sinkPh k = .doneBySrc then 1 else 0
  up : ph.viols = [] → ∀ i, upFinals i tr = if ph.srcPh i = .disposed then 1 else 0

theorem TGp.init : TGp ({} : Ph) ([] : List (Ev α β)) := by
  constructor <;> simp [srcEnded, srcCompleted, sinkDisposed, srcGreeted, finalsTo, upFinals]

theorem TGp.skip {ph : Ph} {tr : List (Ev α β)} (h : TGp ph tr) (e : Ev α β)
    (he : e = .retE ∨ e = .retO ∨ e = .panic) : TGp ph (e :: tr) := by
  rcases he with rfl | rfl | rfl <;> exact ⟨h.ended, h.compl, h.disp, h.greeted, h.fin, h.up⟩

/-- an upstream is live in the trace (greeted, not ended, not disposed: `liveTr`, `outerAlive`) iff its phase is `live` -/
theorem TGp.live_iff {ph : Ph} {tr : List (Ev α β)} (hG : TGp ph tr) (hv : ph.viols = []) (j : Nat) :
    (srcGreeted j tr && !srcEnded j tr && upFinals j tr == 0) = true ↔ ph.srcPh j = .live := by
  have h1 := hG.greeted j
  have h2 := hG.ended j
  have h3 := hG.up hv j
  cases h : ph.srcPh j <;> simp_all

/-! An event moves the phase of one peer `k` from `a` to `p`: `φ`, `φ'` are the phases before and after (`hφ`, `hk`).  A clause
of `TGp` says what a projection of the trace tells about a phase.  The move is *neutral* for the clause when the projection
does not change and the clause does not tell `a` from `p`; it *registers* when the projection records `k` and the clause holds
of `p`. -/
section move
variable {σ : Type} {φ φ' : Nat → σ} {k : Nat} {a p : σ} (hφ : ∀ j, φ' j = if j = k then p else φ j) (hk : φ k = a)
include hφ hk

theorem iff_neutral (Q : σ → Prop) (hn : Q a ↔ Q p) {f : Nat → Bool} (h : ∀ j, f j = true ↔ Q (φ j)) (j : Nat) :
    f j = true ↔ Q (φ' j) := by
  rw [hφ]; split
  · next hj => rw [h, hj, hk]; exact hn
  · exact h j

theorem imp_neutral (Q : σ → Prop) (hn : Q a → Q p) {f : Nat → Bool} (h : ∀ j, f j = true → Q (φ j)) (j : Nat) :
    f j = true → Q (φ' j) := by
  rw [hφ]; split
  · next hj => intro hf; have := h j hf; rw [hj, hk] at this; exact hn this
  · exact h j

theorem count_neutral (w : σ → Nat) (hn : w a = w p) {c : Nat → Nat} (h : ∀ j, c j = w (φ j)) (j : Nat) :
    c j = w (φ' j) := by
  rw [hφ, h]; split
  · next hj => rw [hj, hk, hn]
  · rfl

omit hk in
theorem iff_registers (Q : σ → Prop) (hp : Q p) {f : Nat → Bool} (h : ∀ j, f j = true ↔ Q (φ j)) (j : Nat) :
    (k == j || f j) = true ↔ Q (φ' j) := by
  rw [hφ, Bool.or_eq_true, beq_iff_eq, h]; split
  · next hj => exact ⟨fun _ => hp, fun _ => .inl hj.symm⟩
  · next hj => exact ⟨fun h => h.resolve_left fun e => hj e.symm, .inr⟩

omit hk in
theorem imp_registers (Q : σ → Prop) (hp : Q p) {f : Nat → Bool} (h : ∀ j, f j = true → Q (φ j)) (j : Nat) :
    (k == j || f j) = true → Q (φ' j) := by
  rw [hφ, Bool.or_eq_true, beq_iff_eq]; split
  · exact fun _ => hp
  · next hj => exact fun hf => h j (hf.resolve_left fun e => hj e.symm)

theorem count_registers (w : σ → Nat) (ha : w a = 0) (hp : w p = 1) {c : Nat → Nat} (h : ∀ j, c j = w (φ j)) (j : Nat) :
    (if k = j then 1 else 0) + c j = w (φ' j) := by
  rw [hφ, h]
  by_cases hj : j = k
  · rw [if_pos hj, if_pos hj.symm, hj, hk, ha, hp]
  · rw [if_neg hj, if_neg fun e => hj e.symm, Nat.zero_add]

end move

theorem TGp.inp {sh : Shape} {ph : Ph} {c : Ctx β} {tr : List (Ev α β)} (h : TGp ph tr) (i : In α)
    (hl : legalIn sh ph c i = true) : TGp (ph.onIn i) (.inp i :: tr) := by
  cases i with
  | subscribe k =>
    have hφ := fun j => Ph.sinkPh_setSink ph k j .subscribed
    have hk := legal_subscribe hl
    exact ⟨h.ended, h.compl, iff_neutral hφ hk (· = .doneBySelf) (by decide) h.disp, h.greeted,
      fun hv => count_neutral hφ hk (if · = .doneBySrc then 1 else 0) rfl (h.fin hv), h.up⟩
  | sinkUp k u =>
    have hφ := fun j => Ph.sinkPh_setSink ph k j .doneBySelf
    have hk := legal_sinkUp hl
    cases u with
    | pull => exact ⟨h.ended, h.compl, h.disp, h.greeted, h.fin, h.up⟩
    | term | err e =>
      exact ⟨h.ended, h.compl, iff_registers hφ (· = .doneBySelf) rfl h.disp, h.greeted,
        fun hv => count_neutral hφ hk (if · = .doneBySrc then 1 else 0) rfl (h.fin hv), h.up⟩
  | srcGreet i =>
    have hφ := fun j => Ph.srcPh_setSrc ph i j .live
    have hi := legal_srcGreet hl
    exact ⟨iff_neutral hφ hi (· = .ended) (by decide) h.ended, imp_neutral hφ hi (· = .ended) (fun e => nomatch e) h.compl, h.disp,
      iff_registers hφ (fun x => x = .live ∨ x = .ended ∨ x = .disposed) (.inl rfl) h.greeted, h.fin, fun hv => count_neutral hφ hi (if · = .disposed then 1 else 0) rfl (h.up hv)⟩
  | srcDown i d =>
    have hφ := fun j => Ph.srcPh_setSrc ph i j .ended
    have hi := legal_srcDown hl
    cases d with
    | data a => exact ⟨h.ended, h.compl, h.disp, h.greeted, h.fin, h.up⟩
    | term =>
      exact ⟨iff_registers hφ (· = .ended) rfl h.ended, imp_registers hφ (· = .ended) rfl h.compl, h.disp,
        iff_neutral hφ hi (fun x => x = .live ∨ x = .ended ∨ x = .disposed) (by decide) h.greeted, h.fin, fun hv => count_neutral hφ hi (if · = .disposed then 1 else 0) rfl (h.up hv)⟩
    | err e =>
      exact ⟨iff_registers hφ (· = .ended) rfl h.ended, imp_neutral hφ hi (· = .ended) (fun _ => rfl) h.compl, h.disp,
        iff_neutral hφ hi (fun x => x = .live ∨ x = .ended ∨ x = .disposed) (by decide) h.greeted, h.fin, fun hv => count_neutral hφ hi (if · = .disposed then 1 else 0) rfl (h.up hv)⟩

/-- a call made by the operator that the monitor flags: the phases stay, and the counting clauses no longer apply -/
theorem TGp.flag {ph : Ph} {tr : List (Ev α β)} (h : TGp ph tr) (o : Out β) (v : Viol) : TGp (ph.flag v) (.out o :: tr) :=
  ⟨h.ended, h.compl, h.disp, h.greeted, (fun hv => nomatch hv), (fun hv => nomatch hv)⟩

theorem TGp.out {ph : Ph} {tr : List (Ev α β)} (h : TGp ph tr) (o : Out β) : TGp (ph.onOut o) (.out o :: tr) := by
  rcases ph.onOut_eq o with ⟨ha, e⟩ | ⟨-, e⟩ <;> rw [e]
  · cases o with
    | greet k =>
      have hφ := fun j => Ph.sinkPh_setSink ph k j .live
      exact ⟨h.ended, h.compl, iff_neutral hφ ha (· = .doneBySelf) (by decide) h.disp, h.greeted,
        fun hv => count_neutral hφ ha (if · = .doneBySrc then 1 else 0) rfl (h.fin hv), h.up⟩
    | down k d =>
      have hφ := fun j => Ph.sinkPh_setSink ph k j .doneBySrc
      cases d with
      | data b => exact ⟨h.ended, h.compl, h.disp, h.greeted, h.fin, h.up⟩
      | term | err e =>
        exact ⟨h.ended, h.compl, iff_neutral hφ ha (· = .doneBySelf) (by decide) h.disp, h.greeted,
          fun hv => count_registers hφ ha (if · = .doneBySrc then 1 else 0) rfl rfl (h.fin hv), h.up⟩
    | subSrc i =>
      have hφ := fun j => Ph.srcPh_setSrc ph i j .subscribed
      have hi := ha.1
      exact ⟨iff_neutral hφ hi (· = .ended) (by decide) h.ended, imp_neutral hφ hi (· = .ended) (fun e => nomatch e) h.compl, h.disp,
        iff_neutral hφ hi (fun x => x = .live ∨ x = .ended ∨ x = .disposed) (by decide) h.greeted, h.fin,
        fun hv => count_neutral hφ hi (if · = .disposed then 1 else 0) rfl (h.up hv)⟩
    | srcUp i u =>
      have hφ := fun j => Ph.srcPh_setSrc ph i j .disposed
      cases u with
      | pull => exact ⟨h.ended, h.compl, h.disp, h.greeted, h.fin, h.up⟩
      | term | err e =>
        exact ⟨iff_neutral hφ ha (· = .ended) (by decide) h.ended, imp_neutral hφ ha (· = .ended) (fun e => nomatch e) h.compl, h.disp,
          iff_neutral hφ ha (fun x => x = .live ∨ x = .ended ∨ x = .disposed) (by decide) h.greeted, h.fin,
          fun hv => count_registers hφ ha (if · = .disposed then 1 else 0) rfl rfl (h.up hv)⟩
    | app b => exact ⟨h.ended, h.compl, h.disp, h.greeted, h.fin, h.up⟩
  · exact h.flag _ _

/-- the stack as `openCalls` sees it in the trace: `none` for a handler, `some o` for a call `o` the operator is waiting in -/
def framesOf {Loc β} : List (Frame Loc β) → List (Option (Out β))
  | [] => []
  | .run _ :: r => none :: framesOf r
  | .wait o _ :: r => some o :: none :: framesOf r

theorem framesOf_eq_nil {Loc β : Type} (stk : List (Frame Loc β)) (h : (framesOf stk).isEmpty = true) : stk = [] := by
  cases stk with
  | nil => rfl
  | cons f r => cases f <;> simp [framesOf] at h

structure TG (s : Sys St Loc α β) : Prop where
  ph : TGp s.g.ph s.tr
  stk : s.panicked = none → openCalls s.tr = framesOf s.stack

theorem TG.init (M : Machine St Loc α β) : TG (Sys.init M) :=
  ⟨TGp.init, fun _ => rfl⟩

theorem TG.opStep {M : Machine St Loc α β} {a b : Sys St Loc α β} (ha : TG a) (h : opStep M a = some b) : TG b := by
  refine ⟨opStep_ph_tr (fun e he h => h.skip e he) (fun o h => h.out o) h ha.ph, ?_⟩
  obtain ⟨hp, l, r, hs, rfl⟩ := opStep_eq_some h
  have hstk := ha.stk hp
  rw [hs] at hstk
  cases M.step a.st l with
  | tau s' l' => exact fun _ => hstk
  | call o s' l' => exact fun _ => congrArg (some o :: ·) hstk
  | ret => exact fun _ => congrArg List.tail hstk
  | panic m => exact fun hp' => nomatch hp'

theorem TG.envStep {M : Machine St Loc α β} {m : Move α} {a b : Sys St Loc α β} (ha : TG a) (h : EnvStep M m a b) : TG b := by
  obtain ⟨hph, hstk⟩ := ha
  cases h with
  | call i hc hl =>
    refine ⟨?_, fun _ => ?_⟩
    · simpa using hph.inp i hl
    · have := hstk rfl
      simp only at this
      simp [openCalls, this, framesOf]
  | ret hl =>
    refine ⟨hph.skip .retE (.inl rfl), fun _ => ?_⟩
    have := hstk rfl
    simp only at this
    simp [openCalls, this, framesOf]

theorem TG.of_reach {M : Machine St Loc α β} {R : Restr St Loc α β} {s : Sys St Loc α β} (hs : SReachR M R s) : TG s :=
  SReachR.ind TG (TG.init M) (fun _ _ _ ih h => ih.opStep h) (fun _ _ _ _ ih h _ => ih.envStep h) s hs

variable {M : Machine St Loc α β} {R : Restr St Loc α β} {s : Sys St Loc α β}

theorem srcEnded_iff (hs : SReachR M R s) (i : Nat) : srcEnded i s.tr = true ↔ s.g.ph.srcPh i = .ended :=
  (TG.of_reach hs).ph.ended i

theorem srcCompleted_imp (hs : SReachR M R s) (i : Nat) : srcCompleted i s.tr = true → s.g.ph.srcPh i = .ended :=
  (TG.of_reach hs).ph.compl i

theorem sinkDisposed_iff (hs : SReachR M R s) (k : Nat) : sinkDisposed k s.tr = true ↔ s.g.ph.sinkPh k = .doneBySelf :=
  (TG.of_reach hs).ph.disp k

theorem srcGreeted_iff (hs : SReachR M R s) (i : Nat) :
    srcGreeted i s.tr = true ↔ (s.g.ph.srcPh i = .live ∨ s.g.ph.srcPh i = .ended ∨ s.g.ph.srcPh i = .disposed) :=
  (TG.of_reach hs).ph.greeted i

/-- while every violation on record is one of C04 (a message to an upstream, a subscription), every terminal sent to a sink was
accepted: the terminals to sink `k` are counted by its phase -/
theorem finalsTo_of_c04 (hs : SReachR M R s)
    (hv : ∀ v ∈ s.g.ph.viols, v.prop = 4) (k : Nat) :
    finalsTo k s.tr = if s.g.ph.sinkPh k = .doneBySrc then 1 else 0 := by
  refine SReachR.ph_tr (P := fun ph tr => (∀ v ∈ ph.viols, v.prop = 4) → ∀ k, finalsTo k tr = if ph.sinkPh k = .doneBySrc then 1 else 0)
    (fun e he ih hv k => ?_) (fun {ph tr} o ih hv k => ?_) (fun _ k => by simp [finalsTo]) (fun {a c} i hl _ ih hv k => ?_) hs hv k
  · rcases he with rfl | rfl | rfl <;> exact ih hv k
  · rcases ph.onOut_eq o with ⟨ha, e⟩ | ⟨hna, e⟩ <;> rw [e] at hv ⊢
    · have ih := ih (by rwa [Ph.viols_after] at hv)
      cases o with
      | greet j =>
        exact count_neutral (fun j' => Ph.sinkPh_setSink ph j j' .live) ha (if · = .doneBySrc then 1 else 0) rfl ih k
      | down j d =>
        cases d with
        | data b => exact ih k
        | term | err e =>
          exact count_registers (fun j' => Ph.sinkPh_setSink ph j j' .doneBySrc) ha (if · = .doneBySrc then 1 else 0) rfl rfl ih k
      | srcUp i u => cases u <;> exact ih k
      | subSrc i | app b => exact ih k
    · have h4 := hv _ List.mem_cons_self
      have ih := ih (fun v hm => hv v (List.mem_cons_of_mem _ hm))
      cases o with
      | down j d => simp only [Ph.violOf] at h4; split at h4 <;> cases h4
      | greet j => exact ih k
      | srcUp i u => cases u <;> exact ih k
      | subSrc i | app b => exact ih k
  · have ih := ih (by rwa [Ph.onIn_viols] at hv)
    cases i with
    | subscribe j => exact count_neutral (fun j' => Ph.sinkPh_setSink a.g.ph j j' .subscribed) (legal_subscribe hl) (if · = .doneBySrc then 1 else 0) rfl ih k
    | sinkUp j u =>
      cases u with
      | pull => exact ih k
      | term | err e => exact count_neutral (fun j' => Ph.sinkPh_setSink a.g.ph j j' .doneBySelf) (legal_sinkUp hl) (if · = .doneBySrc then 1 else 0) rfl ih k
    | srcGreet j => exact ih k
    | srcDown j d => cases d <;> exact ih k

theorem finalsTo_iff (hs : SReachR M R s) (hv : s.g.ph.viols = []) (k : Nat) :
    (finalsTo k s.tr = 1 ↔ s.g.ph.sinkPh k = .doneBySrc) ∧ finalsTo k s.tr ≤ 1 := by
  rw [(TG.of_reach hs).ph.fin hv k]
  split <;> simp [*]

theorem upFinals_iff (hs : SReachR M R s) (hv : s.g.ph.viols = []) (i : Nat) :
    (upFinals i s.tr = 1 ↔ s.g.ph.srcPh i = .disposed) ∧ upFinals i s.tr ≤ 1 := by
  rw [(TG.of_reach hs).ph.up hv i]
  split <;> simp [*]

theorem srcEnded_eq_false (hs : SReachR M R s) {i : Nat} (h : s.g.ph.srcPh i ≠ .ended) : srcEnded i s.tr = false :=
  Bool.eq_false_iff.2 fun he => h ((srcEnded_iff hs i).1 he)

theorem sinkDisposed_eq_false (hs : SReachR M R s) {k : Nat} (h : s.g.ph.sinkPh k ≠ .doneBySelf) :
    sinkDisposed k s.tr = false :=
  Bool.eq_false_iff.2 fun hd => h ((sinkDisposed_iff hs k).1 hd)

theorem srcGreeted_eq_false (hs : SReachR M R s) {i : Nat}
    (h : s.g.ph.srcPh i = .idle ∨ s.g.ph.srcPh i = .subscribed) : srcGreeted i s.tr = false :=
  Bool.eq_false_iff.2 fun hg => by
    rcases (srcGreeted_iff hs i).1 hg with h' | h' | h' <;> rcases h with h | h <;> rw [h] at h' <;> cases h'

theorem finalsTo_eq_zero (hs : SReachR M R s) (hv : s.g.ph.viols = []) {k : Nat} (h : s.g.ph.sinkPh k ≠ .doneBySrc) :
    finalsTo k s.tr = 0 := by
  rw [(TG.of_reach hs).ph.fin hv k, if_neg h]

theorem upFinals_eq_zero (hs : SReachR M R s) (hv : s.g.ph.viols = []) {i : Nat} (h : s.g.ph.srcPh i ≠ .disposed) :
    upFinals i s.tr = 0 := by
  rw [(TG.of_reach hs).ph.up hv i, if_neg h]

theorem openCalls_eq (hs : SReachR M R s) (hp : s.panicked = none) : openCalls s.tr = framesOf s.stack :=
  (TG.of_reach hs).stk hp

/-- a `Pull` of the sink is legal only once it is live, and no other event sets the flag -/
theorem aP_false_of_unsub (hs : SReachR M R s) (h : s.g.ph.sinkPh 0 = .idle ∨ s.g.ph.sinkPh 0 = .subscribed) :
    ComposeComplete.aP s.tr = false := by
  refine SReachR.ph_tr (P := fun ph tr => (ph.sinkPh 0 = .idle ∨ ph.sinkPh 0 = .subscribed) → ComposeComplete.aP tr = false)
    (fun e he ih => ?_) (fun {ph tr} o ih h => ?_) (fun _ => rfl) (fun {a c} i hl _ ih h => ?_) hs h
  · rcases he with rfl | rfl | rfl <;> exact ih
  · have h0 : ComposeComplete.aP tr = false := by
      rcases ph.onOut_sinkPh o 0 with h' | ⟨_, _, h'⟩ | ⟨_, h', _⟩
      · exact ih (h' ▸ h)
      all_goals rw [h'] at h; exact h.elim nofun nofun
    cases o with
    | down k d => cases k <;> first | rfl | exact h0
    | _ => exact h0
  · cases i with
    | subscribe k =>
      by_cases hk : k = 0
      · subst hk; exact ih (.inl (legal_subscribe hl))
      · have hk' : ¬ 0 = k := fun e => hk e.symm
        exact ih (by simpa [Ph.onIn, Ph.sinkPh_setSink, hk'] using h)
    | sinkUp k u =>
      by_cases hk : k = 0
      · subst hk
        have hl' := legal_sinkUp hl
        cases u <;> simp [Ph.onIn, Ph.sinkPh_setSink, hl'] at h
      · have : ComposeComplete.aP (Ev.inp (In.sinkUp k u) :: a.tr) = ComposeComplete.aP a.tr := by
          cases k with
          | zero => exact absurd rfl hk
          | succ k => cases u <;> rfl
        have hk' : ¬ 0 = k := fun e => hk e.symm
        rw [this]; exact ih (by cases u <;> simpa [Ph.onIn, Ph.sinkPh_setSink, hk'] using h)
    | srcGreet k => exact ih (by simpa [Ph.onIn] using h)
    | srcDown k d => exact ih (by cases d <;> simpa [Ph.onIn] using h)

/-- a datum is legal only from a live upstream, and no phase leads back to `idle` -/
theorem sentData_of_idle (hs : SReachR M R s) {j : Nat} (h : s.g.ph.srcPh j = .idle) : sentData j s.tr = [] := by
  refine hs.ph_tr (P := fun ph tr => ph.srcPh j = .idle → sentData j tr = []) (fun e he ih => ?_) (fun {ph tr} o ih h => ?_)
    (fun _ => rfl) (fun {a c} i hl _ ih h => ?_) h
  · rcases he with rfl | rfl | rfl <;> exact ih
  · exact ih (PlugConcat.onOut_srcPh_idle_back _ _ _ h)
  · have hb := PlugConcat.onIn_srcPh_idle_back _ _ _ h
    have ih' := ih hb
    cases i with
    | srcDown k d =>
      cases d with
      | data x =>
        have hne : k ≠ j := by rintro rfl; have := legal_srcDown hl; rw [hb] at this; cases this
        exact (if_neg hne : sentData j (Ev.inp (In.srcDown k (Down.data x)) :: a.tr) = sentData j a.tr).trans ih'
      | _ => exact ih'
    | _ => exact ih'

theorem mem_subscriptions_cons {i : Nat} {t : List (Ev α β)} (e : Ev α β) (h : i ∈ subscriptions t) :
    i ∈ subscriptions (e :: t) := by
  cases e with
  | out o =>
    cases o with
    | subSrc i' => exact List.mem_append_left _ h
    | _ => exact h
  | _ => exact h

theorem mem_subscriptions_of_phase (hs : SReachR M R s) {i : Nat} (hp : s.g.ph.srcPh i ≠ .idle) : i ∈ subscriptions s.tr := by
  refine hs.ph_tr (P := fun ph tr => ph.srcPh i ≠ .idle → i ∈ subscriptions tr) ?_ ?_ (absurd (Ph.srcPh_empty i)) ?_ hp
  · intro _ tr e he h
    rcases he with rfl | rfl | rfl <;> exact h
  · intro ph tr o h hp
    rcases Ph.onOut_srcPh ph o i with he | ⟨rfl, _, _⟩ | ⟨hl, _, _⟩
    · exact mem_subscriptions_cons _ (h (he ▸ hp))
    · exact List.mem_append_right _ (List.mem_singleton_self i)
    · exact mem_subscriptions_cons _ (h (hl ▸ nofun))
  · intro a c m hl _ h hp
    refine mem_subscriptions_cons _ (h ?_)
    rcases Ph.onIn_srcPh a.g.ph m i with he | ⟨rfl, _⟩ | ⟨d, rfl, _⟩
    · exact he ▸ hp
    · exact legal_srcGreet hl ▸ nofun
    · exact legal_srcDown hl ▸ nofun

/-- the converse of `mem_subscriptions_of_phase`, while no violation has been recorded -/
def SubsNI (ph : Ph) (tr : List (Ev α β)) : Prop :=
  ph.viols = [] → ∀ i ∈ subscriptions tr, ph.srcPh i ≠ .idle

theorem SubsNI.inp {ph : Ph} {tr : List (Ev α β)} (h : SubsNI ph tr) (i : In α) :
    SubsNI (ph.onIn i) (.inp i :: tr) := by
  intro hv j hj
  simp only [subscriptions] at hj
  cases i with
  | subscribe k => exact h hv j hj
  | sinkUp k u => cases u <;> exact h hv j hj
  | srcGreet i' =>
    simp only [Ph.onIn, Ph.srcPh_setSrc]
    split
    · simp
    · exact h hv j hj
  | srcDown i' d =>
    cases d with
    | data a => exact h hv j hj
    | term =>
      simp only [Ph.onIn, Ph.srcPh_setSrc]
      split
      · simp
      · exact h hv j hj
    | err e =>
      simp only [Ph.onIn, Ph.srcPh_setSrc]
      split
      · simp
      · exact h hv j hj

theorem SubsNI.out {ph : Ph} {tr : List (Ev α β)} (h : SubsNI ph tr) (o : Out β) :
    SubsNI (ph.onOut o) (.out o :: tr) := by
  intro hv j hj
  -- only accepted outputs leave `viols = []`, and they move one phase
  obtain ⟨ha, e⟩ := Ph.accepts_of_ok hv
  rw [e] at hv ⊢
  rw [Ph.viols_after] at hv
  cases o with
  | subSrc i =>
    rcases List.mem_append.1 hj with hj | hj
    · have := h hv j hj
      by_cases hji : j = i
      · simp [Ph.after, hji]
      · simpa [Ph.after, hji] using this
    · simp [Ph.after, List.mem_singleton.1 hj]
  | greet k => exact h hv j hj
  | down k d => simp only [Ph.after]; split <;> exact h hv j hj
  | srcUp i u =>
    cases u with
    | pull => exact h hv j hj
    | term | err e =>
      by_cases hji : j = i
      · simp [Ph.after, Ph.afterUp, hji]
      · simpa [Ph.after, Ph.afterUp, hji] using h hv j hj
  | app b => exact h hv j hj

theorem subsNI_of_reach (hs : SReachR M R s) : SubsNI s.g.ph s.tr :=
  hs.ph_tr (P := SubsNI) (fun e he h hv j hj => h hv j (by rcases he with rfl | rfl | rfl <;> exact hj))
    (fun o h => h.out o)
    (fun _ _ hj => nomatch hj) (fun i _ _ h => h.inp i)

/-! ## One event at a time

What one more event does to a projection of `Props.lean` or to a checker of `Spec.lean`, whatever the machine. -/

theorem sentData_cons_of_not {i : Nat} {e : Ev α β} (h : isDataIn i e = false) (t : List (Ev α β)) :
    sentData i (e :: t) = sentData i t := by
  cases e with
  | inp j =>
    cases j with
    | srcDown i' d =>
      cases d with
      | data a =>
        have hi : ¬ i' = i := by simpa [isDataIn] using h
        simp only [sentData, hi, ↓reduceIte]
      | _ => rfl
    | _ => rfl
  | _ => rfl

theorem recvData_cons_of_not {k : Nat} {e : Ev α β} (h : isDataOut k e = false) (t : List (Ev α β)) :
    recvData k (e :: t) = recvData k t := by
  cases e with
  | out o =>
    cases o with
    | down k' d =>
      cases d with
      | data b =>
        have hk : ¬ k' = k := by simpa [isDataOut] using h
        simp only [recvData, hk, ↓reduceIte]
      | _ => rfl
    | _ => rfl
  | _ => rfl

theorem sentData_data (a : α) (t : List (Ev α β)) : sentData 0 (.inp (.srcDown 0 (.data a)) :: t) = sentData 0 t ++ [a] := by
  simp [sentData]

theorem recvData_data (b : β) (t : List (Ev α β)) : recvData 0 (.out (.down 0 (.data b)) :: t) = recvData 0 t ++ [b] := by
  simp [recvData]

theorem sentData_prefix_cons (i : Nat) (e : Ev α β) (tr : List (Ev α β)) : sentData i tr <+: sentData i (e :: tr) := by
  cases e with
  | inp m =>
    cases m with
    | srcDown j d =>
      cases d with
      | data a => simp only [sentData]; split <;> simp
      | _ => exact List.prefix_refl _
    | _ => exact List.prefix_refl _
  | _ => exact List.prefix_refl _

theorem srcEnded_mono (k : Nat) (e : Ev α β) (tr : List (Ev α β)) (h : srcEnded k tr = true) : srcEnded k (e :: tr) = true := by
  cases e with
  | inp i =>
    cases i with
    | srcDown j d => cases d <;> simp [srcEnded, h]
    | _ => simpa [srcEnded] using h
  | _ => simpa [srcEnded] using h

theorem srcGreeted_mono (k : Nat) (e : Ev α β) (tr : List (Ev α β)) (h : srcGreeted k tr = true) :
    srcGreeted k (e :: tr) = true := by
  cases e with
  | inp i =>
    cases i with
    | srcGreet j => simp [srcGreeted, h]
    | _ => simpa [srcGreeted] using h
  | _ => simpa [srcGreeted] using h

theorem sinkDisposed_mono (k : Nat) (e : Ev α β) (tr : List (Ev α β)) (h : sinkDisposed k tr = true) :
    sinkDisposed k (e :: tr) = true := by
  cases e with
  | inp i =>
    cases i with
    | sinkUp j u => cases u <;> simp [sinkDisposed, h]
    | _ => simpa [sinkDisposed] using h
  | _ => simpa [sinkDisposed] using h

theorem finalsTo_mono (k : Nat) (e : Ev α β) (tr : List (Ev α β)) : finalsTo k tr ≤ finalsTo k (e :: tr) := by
  cases e with
  | out o =>
    cases o with
    | down j d => cases d <;> simp [finalsTo]
    | _ => simp [finalsTo]
  | _ => simp [finalsTo]

theorem upFinals_mono (k : Nat) (e : Ev α β) (tr : List (Ev α β)) : upFinals k tr ≤ upFinals k (e :: tr) := by
  cases e with
  | out o =>
    cases o with
    | srcUp j u => cases u <;> simp [upFinals]
    | _ => simp [upFinals]
  | _ => simp [upFinals]

theorem epb_cons_of_not {p : Ev α β → Bool} {q : Ev α β → Ev α β → Bool} (e : Ev α β) (tr : List (Ev α β))
    (hp : p e = false) (h : eachPrecededBy p q tr = true) : eachPrecededBy p q (e :: tr) = true := by
  cases tr with
  | nil => simp [eachPrecededBy, hp]
  | cons e1 t => simp [eachPrecededBy, hp, h]

theorem eachPrecededBy_step {p : Ev α β → Bool} {q : Ev α β → Ev α β → Bool} {e1 e2 : Ev α β} {tr : List (Ev α β)}
    (h : eachPrecededBy p q tr = true) (h1 : p e1 = false) (h2 : p e2 = true → q e1 e2 = true) :
    eachPrecededBy p q (e2 :: e1 :: tr) = true := by
  have h0 := epb_cons_of_not e1 tr h1 h
  simp only [eachPrecededBy, Bool.and_eq_true, h0, and_true]
  split
  · rename_i hp; exact h2 hp
  · rfl

theorem efb_cons_of_not {p : Ev α β → Bool} {q : Ev α β → Ev α β → Bool} (e : Ev α β) (tr : List (Ev α β))
    (hp : p e = false) (hh : ∀ e' t, tr = e' :: t → p e' = false) (h : eachFollowedBy p q tr = true) :
    eachFollowedBy p q (e :: tr) = true := by
  cases tr with
  | nil => simp [eachFollowedBy, hp]
  | cons e1 t => simp [eachFollowedBy, hh e1 t rfl, h]

theorem efb_cons_of_rel {p : Ev α β → Bool} {q : Ev α β → Ev α β → Bool} (e2 e1 : Ev α β) (tr : List (Ev α β))
    (hq : q e1 e2 = true) (hne : tr ≠ []) (hh : ∀ e' t, tr = e' :: t → p e' = false) (h : eachFollowedBy p q tr = true) :
    eachFollowedBy p q (e2 :: e1 :: tr) = true := by
  cases tr with
  | nil => exact absurd rfl hne
  | cons e0 t => simp [eachFollowedBy, hh e0 t rfl, h, hq]

theorem eachAtNext_step {chk : List (Ev α β) → Ev α β → Ev α β → Bool} {e1 e2 : Ev α β} {tr : List (Ev α β)}
    (h : eachAtNext chk tr = true) (hb : ∀ e0 t, tr = e0 :: t → chk t e0 e1 = true) (hc : chk tr e1 e2 = true) :
    eachAtNext chk (e2 :: e1 :: tr) = true := by
  cases tr with
  | nil => simp [eachAtNext, hc]
  | cons e0 t => simp [eachAtNext, hc, hb e0 t rfl, h]

/-- the first event of a macro step: the call or the return of the environment; the clauses of a functional specification that ask
about a message to a sink pass it by -/
def isEnvEv : Ev α β → Bool | .inp _ => true | .retE => true | _ => false

theorem not_sinkOut_of_isEnvEv {e : Ev α β} (h : isEnvEv e = true) (k : Nat) :
    isDataOut k e = false ∧ isGreetOut k e = false ∧ isTermOut k e = false := by
  cases e with
  | out o => cases h
  | _ => exact ⟨rfl, rfl, rfl⟩

theorem allBelow_iff (n : Nat) (p : Nat → Bool) : allBelow n p = true ↔ ∀ j, j < n → p j = true := by
  simp [allBelow, List.all_eq_true]

end Cb

#print axioms Cb.srcEnded_iff
#print axioms Cb.srcCompleted_imp
#print axioms Cb.sinkDisposed_iff
#print axioms Cb.srcGreeted_iff
#print axioms Cb.finalsTo_iff
#print axioms Cb.upFinals_iff
#print axioms Cb.openCalls_eq
