import CallbagModel.Inv.ConcatK
import CallbagModel.Inv.PlugSafe
import CallbagModel.Ops.PlugOp
/-!
# Assume–guarantee for `plugOp j M₁ M₂`: a unary OPERATOR in upstream slot `j` of an n-ary operator

`plugOp_inv'`: every small-step reachable configuration `s` of `plugOp j M₁ M₂` projects onto reachable configurations `s₁` of `M₁` and
`s₂` of `M₂`.  `plugOp j M₁ M₂` is `wire` for the table `Wo j` (`Inv/Wire.lean`), the projection is that of `Inv/WireSafe.lean`
(`MatchW (Wo j)`: states, stacks, phases, traces), and `HypL` gives `HypW`.  `plugOp` is the common generalisation of `compose` (there
`M₂` is unary, `j = 0`) and of `plug` (there `M₁` has no upstream):

* the composite has `M₂`'s shape.  If `M₂` admits late greetings (`merge`), the environment may greet upstream `j` late, i.e. greet `M₁`
  late: hypothesis `lg` (`M₂.shape.lateGreet = true → M₁.shape.lateGreet = true`);
* `HypL.opn` is `HypW.opn` for this table (`Inv/WireSafe.lean` says what the two alternatives are for): `Open2 j M₂` or `SubIn1 M₁`.
  `Open2` is asked only of the configurations of `M₂` in which `M₁` can run (top level, or inside a call to slot `j`) because for `merge`
  it is FALSE at other environment turns: while the sink's `Terminate` is being broadcast (`uLoop`) the members not yet told are still
  live.  With late greetings it is false for `merge` even at top level (`LateMember.merge_not_open2`): a member can stay `subscribed`
  after the sink has gone (members 0 and 1 subscribed, 0 greets, the sink is greeted and terminates: member 1 is still `subscribed`, no
  sink is open).  Relays and `take` satisfy `SubIn1` (`Inv/LateMember.lean`), and then nothing is asked of `M₂` beyond its safety.

`RelO j` is `RelW (Wo j)` written out with the indices of `plugOp`, as `Rel` of
`Inv/ComposeSafe.lean` is for the table of `compose`; the projection itself is stated with `RelW`.  The namespace `LateMember` holds what
`Inv/LateMember.lean` (operators as members of `merge!`, which greet late) builds on.
-/
namespace Cb

namespace PlugOpSafe
open ComposeSafe PlugSafe

section Defs
variable {S1 L1 S2 L2 β γ : Type}

inductive RelO (j : Nat) : Side → List (CFr L1 L2) → List (Frame (List (CFr L1 L2)) γ) → List (Frame L1 β) → List (Frame L2 γ) → Prop where
  | nil {sd} : RelO j sd [] [] [] []
  | extSub {l cfs stk k1 k2} : RelO j .lo cfs stk k1 k2 →
      RelO j .lo [] (.wait (.subSrc j) (.lo l :: cfs) :: stk) (.wait (.subSrc 0) l :: k1) k2
  | extUp {u l cfs stk k1 k2} : RelO j .lo cfs stk k1 k2 →
      RelO j .lo [] (.wait (.srcUp j u) (.lo l :: cfs) :: stk) (.wait (.srcUp 0 u) l :: k1) k2
  | extHi {o l cfs stk k1 k2} : ExtOut j o → RelO j .hi cfs stk k1 k2 →
      RelO j .hi [] (.wait o (.hi l :: cfs) :: stk) k1 (.wait o l :: k2)
  | intLo {o l cfs stk k1 k2} : Internal1 o → RelO j .lo cfs stk k1 k2 →
      RelO j .hi (.lo l :: cfs) stk (.wait o l :: k1) k2
  | intSub {l cfs stk k2} : RelO j .hi cfs stk [] k2 →
      RelO j .lo (.hi l :: cfs) stk [] (.wait (.subSrc j) l :: k2)
  | intUp {u l cfs stk k1 k2} : RelO j .hi cfs stk k1 k2 →
      RelO j .lo (.hi l :: cfs) stk k1 (.wait (.srcUp j u) l :: k2)

theorem RelO.turns {j sd cfs} {stk : List (Frame (List (CFr L1 L2)) γ)} {k1 : List (Frame L1 β)} {k2 : List (Frame L2 γ)}
    (h : RelO j sd cfs stk k1 k2) : (ctxOf k1).isSome = true ∧ (ctxOf k2).isSome = true := by
  induction h with
  | nil => simp [ctxOf]
  | extSub _ ih => exact ⟨by simp [ctxOf], ih.2⟩
  | extUp _ ih => exact ⟨by simp [ctxOf], ih.2⟩
  | extHi _ _ ih => exact ⟨ih.1, by simp [ctxOf]⟩
  | intLo _ _ ih => exact ⟨by simp [ctxOf], ih.2⟩
  | intSub _ ih => exact ⟨by simp [ctxOf], by simp [ctxOf]⟩
  | intUp _ ih => exact ⟨ih.1, by simp [ctxOf]⟩

structure HypO (j : Nat) (M1 : Machine S1 L1 β β) (M2 : Machine S2 L2 β γ) : Prop where
  /-- the environment of the composite may greet (upstream `j`, hence `M₁`) late only if `M₁` admits it -/
  lg : M2.shape.lateGreet = true → M1.shape.lateGreet = true
  noApp1 : ∀ st l b st' l', M1.step st l ≠ .call (.app b) st' l'
  oneSrc1 : ∀ st l i st' l', M1.step st l ≠ .call (.subSrc (i + 1)) st' l'
  sync : M2.shape.lateGreet = true ∨ ∀ s, SReach M1 s → s.stack = [] → s.g.ph.sinkPh 0 ≠ .subscribed
  /-- while slot `j` of `M₂` is subscribed or live, one of `M₂`'s sinks is open — asked only where `M₁` can run: `M₂` at top level or
  inside a call to slot `j` -/
  open2 : ∀ s, SReach M2 s → s.panicked = none →
    (s.stack = [] ∨ (∃ l r, s.stack = .wait (.subSrc j) l :: r) ∨ (∃ u l r, s.stack = .wait (.srcUp j u) l :: r)) →
    (s.g.ph.srcPh j = .subscribed ∨ s.g.ph.srcPh j = .live) → s.g.ph.anySinkOpen = true
  safe1 : ∀ s, SReach M1 s → BasicSafe s
  safe2 : ∀ s, SReach M2 s → BasicSafe s

end Defs

end PlugOpSafe

namespace LateMember
open PlugOpSafe

section Defs
variable {S1 L1 S2 L2 β γ : Type}

def SubIn1 (M1 : Machine S1 L1 β β) : Prop :=
  ∀ st l k1 g tr st' l', SReach M1 ⟨st, .run l :: k1, g, tr, none⟩ → M1.step st l = .call (.subSrc 0) st' l' →
    g.ph.sinkPh 0 = .subscribed

structure HypL (j : Nat) (M1 : Machine S1 L1 β β) (M2 : Machine S2 L2 β γ) : Prop where
  lg : M2.shape.lateGreet = true → M1.shape.lateGreet = true
  noApp1 : ∀ st l b st' l', M1.step st l ≠ .call (.app b) st' l'
  oneSrc1 : ∀ st l i st' l', M1.step st l ≠ .call (.subSrc (i + 1)) st' l'
  sync : M2.shape.lateGreet = true ∨ ∀ s, SReach M1 s → s.stack = [] → s.g.ph.sinkPh 0 ≠ .subscribed
  opn : Open2 j M2 ∨ SubIn1 M1
  safe1 : ∀ s, SReach M1 s → BasicSafe s
  safe2 : ∀ s, SReach M2 s → BasicSafe s

theorem HypL.of_hypO {j : Nat} {M1 : Machine S1 L1 β β} {M2 : Machine S2 L2 β γ} (H : HypO j M1 M2) : HypL j M1 M2 :=
  ⟨H.lg, H.noApp1, H.oneSrc1, H.sync, .inl H.open2, H.safe1, H.safe2⟩

end Defs
end LateMember

namespace Wire
open LateMember

theorem hypW_of_hypL {S1 L1 S2 L2 β γ : Type} {M1 : Machine S1 L1 β β} {M2 : Machine S2 L2 β γ} {j : Nat} (H : HypL j M1 M2) :
    HypW (Wo j) M2.shape M1 M2 where
  ok := wo_ok j
  shp := ⟨id, fun _ _ _ => H.lg, fun _ _ _ _ h => h⟩
  noApp1 := H.noApp1
  sub1 _ _ _ _ _ i _ _ _ h _ := by cases i with | zero => rfl | succ i => exact absurd h (H.oneSrc1 _ _ _ _ _)
  sub2 _ _ _ _ _ _ := .inr rfl
  sync := H.sync
  opn i _ hi := H.opn.imp id fun hS =>
    ⟨fun _ _ _ _ _ i _ _ hr hst => by
        cases i with
        | zero => exact hS _ _ _ _ _ _ _ hr hst
        | succ i => exact absurd hst (H.oneSrc1 _ _ _ _ _),
      fun i0 _ hi0 => by cases i <;> cases hi; cases i0 <;> cases hi0; rfl⟩
  safe1 := H.safe1
  safe2 := H.safe2

end Wire

namespace LateMember

section Steps
variable {S1 L1 S2 L2 β γ : Type} {M1 : Machine S1 L1 β β} {M2 : Machine S2 L2 β γ} {j : Nat}

theorem plugOp_inv' (H : HypL j M1 M2) :
    ∀ s, SReach (plugOp j M1 M2) s → ∃ s1 s2, SReach M1 s1 ∧ SReach M2 s2 ∧ Wire.MatchW (Wire.Wo j) s s1 s2 := by
  intro s hs
  rw [Wire.plugOp_eq_wire] at hs
  exact Wire.wire_inv (Wire.hypW_of_hypL H) s hs

theorem plugOp_basicSafe' (H : HypL j M1 M2) : ∀ s, SReach (plugOp j M1 M2) s → BasicSafe s := by
  intro s hs
  obtain ⟨s1, s2, _, _, hm⟩ := plugOp_inv' H s hs
  exact ⟨hm.gh.v, hm.p⟩

end Steps

end LateMember

namespace PlugOpSafe
open ComposeSafe LateMember

section Consequences
variable {S1 L1 S2 L2 β γ : Type} {M1 : Machine S1 L1 β β} {M2 : Machine S2 L2 β γ} {j : Nat}

theorem plugOp_inv (H : HypO j M1 M2) :
    ∀ s, SReach (plugOp j M1 M2) s → ∃ s1 s2, SReach M1 s1 ∧ SReach M2 s2 ∧ Wire.MatchW (Wire.Wo j) s s1 s2 :=
  plugOp_inv' (.of_hypO H)

/-- **phase-level safety of `plugOp`** (C01–C03, protocol part of C04, C17) -/
theorem plugOp_basicSafe (H : HypO j M1 M2) : ∀ s, SReach (plugOp j M1 M2) s → BasicSafe s :=
  plugOp_basicSafe' (.of_hypO H)

theorem plugOp_phases (H : HypO j M1 M2) : ∀ s, SReach (plugOp j M1 M2) s →
    ∃ s1 s2, SReach M1 s1 ∧ SReach M2 s2 ∧ (∀ k, s.g.ph.sinkPh k = s2.g.ph.sinkPh k) ∧
      (∀ i, i ≠ j → s.g.ph.srcPh i = s2.g.ph.srcPh i) ∧ s.g.ph.srcPh j = s1.g.ph.srcPh 0 ∧
      s2.g.ph.srcPh j = toSrc (s1.g.ph.sinkPh 0) := by
  intro s hs
  obtain ⟨s1, s2, h1, h2, hm⟩ := plugOp_inv H s hs
  exact ⟨s1, s2, h1, h2, hm.gh.sink, fun i hi => hm.gh.src2 i i hi rfl, hm.gh.src1 0 j rfl, hm.gh.ifc⟩

theorem hypO_of (h1 : Pipeable M1) (hlg2 : M2.shape.lateGreet = false)
    (hopen : ∀ s, SReach M2 s → EnvTurn s → (s.g.ph.srcPh j = .subscribed ∨ s.g.ph.srcPh j = .live) → s.g.ph.anySinkOpen = true)
    (hs2 : ∀ s, SReach M2 s → BasicSafe s) : HypO j M1 M2 :=
  ⟨fun h => (by rw [hlg2] at h; cases h), h1.noApp, h1.oneSrc, .inr h1.sync,
    LateMember.Open2.of_turns hopen, h1.safe, hs2⟩

/-- **a unary operator as a member of `concat!`**: `concat!(…, op(sⱼ), …)` -/
theorem plugOp_concat_basicSafe (h1 : Pipeable M1) (n : Nat) (hn : 0 < n) (j : Nat) :
    ∀ s, SReach (plugOp j M1 (Concat.machine β n)) s → BasicSafe s :=
  plugOp_basicSafe (hypO_of h1 rfl (PlugConcat.CK.anySinkOpen_of_srcOpen n hn j) (Concat.concat_basicSafe n hn))

/-- `concat!(a, skip(1)(b))` -/
example : ∀ s, SReach (plugOp 1 (Relay.machine (Relay.skip (α := Int) 1)) (Concat.machine Int 2)) s → BasicSafe s :=
  plugOp_concat_basicSafe (Relay.pipeable _ (Relay.skip_ok _)) 2 (by decide) 1

/-- `concat!(take(2)(a), b)` -/
example : ∀ s, SReach (plugOp 0 (Take.machine Int 2) (Concat.machine Int 2)) s → BasicSafe s :=
  plugOp_concat_basicSafe (Take.pipeable 2) 2 (by decide) 0

end Consequences

end PlugOpSafe
end Cb

#print axioms Cb.PlugOpSafe.plugOp_inv
#print axioms Cb.PlugOpSafe.plugOp_basicSafe
#print axioms Cb.PlugOpSafe.plugOp_concat_basicSafe

#print axioms Cb.LateMember.plugOp_inv'
#print axioms Cb.LateMember.plugOp_basicSafe'
