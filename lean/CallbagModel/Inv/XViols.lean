import CallbagModel.Sem
import CallbagModel.Inv.Ghost
/-!
# The second ghost layer only ever records violations of C04 and C05

Hence a property other than these two is decided by the phase layer: `BasicSafe` (no phase-level violation, no panic) already
gives C01, C02, C03 and C17.
-/
namespace Cb
variable {St Loc α β : Type}

theorem xviols_of_reach (M : Machine St Loc α β) : ∀ s, SReach M s → ∀ v ∈ s.g.xviols, v.prop = 4 ∨ v.prop = 5 := by
  refine SReachR.ind _ (fun _ hv => nomatch hv) (fun a b _ ih h => ?_) (fun a b m _ ih h _ => ?_)
  · obtain ⟨_, ⟨l, hl, hprop⟩, _⟩ := opStep_ghost M a b h
    rw [hl]
    exact fun v hv => (List.mem_append.1 hv).elim (hprop v) (ih v)
  · cases h with
    | call i hc hl => exact fun v hv => ih v (by rwa [onIn_xviols] at hv)
    | ret hl => exact ih

/-- For a property `p` other than C04 and C05 it is enough to look at the phase-level violations. -/
theorem safeFor_of_phViols (M : Machine St Loc α β) (s : Sys St Loc α β) (hr : SReach M s) (p : Nat) (hp : p ≠ 4 ∧ p ≠ 5)
    (hv : ∀ v ∈ s.g.ph.viols, v.prop ≠ p) (hpn : s.panicked = none) : SafeFor p s := by
  refine ⟨fun v hv' => ?_, fun _ => hpn⟩
  rcases List.mem_append.1 hv' with h | h
  · rcases xviols_of_reach M s hr v h with h | h
    · exact fun e => hp.1 (e.symm.trans h)
    · exact fun e => hp.2 (e.symm.trans h)
  · exact hv v h

/-- C01, C02, C03 and C17 are decided by the phase layer alone. -/
theorem safeFor_of_basicSafe (M : Machine St Loc α β) (s : Sys St Loc α β) (hr : SReach M s) (hb : BasicSafe s)
    (p : Nat) (hp : p ≠ 4 ∧ p ≠ 5) : SafeFor p s :=
  safeFor_of_phViols M s hr p hp (by rw [hb.1]; exact fun _ h => nomatch h) hb.2

/-- If the only phase-level violations are messages to upstreams that are not live (C04), then C01, C02, C03 and C17 hold. -/
theorem safeFor_of_onlyUpNotLive (M : Machine St Loc α β) (s : Sys St Loc α β) (hr : SReach M s)
    (hv : ∀ v ∈ s.g.ph.viols, ∃ i p, v = Viol.upNotLive i p) (hpn : s.panicked = none)
    (p : Nat) (hp : p ≠ 4 ∧ p ≠ 5) : SafeFor p s := by
  refine safeFor_of_phViols M s hr p hp (fun v h => ?_) hpn
  obtain ⟨i, q, rfl⟩ := hv v h
  exact fun h4 => hp.1 h4.symm

/-- If the only phase-level violations are deliveries to sinks that are already done (C02, C03), then C01 and C17 hold. -/
theorem safeFor_of_onlyLateDelivery (M : Machine St Loc α β) (s : Sys St Loc α β) (hr : SReach M s)
    (hv : ∀ v ∈ s.g.ph.viols, (∃ k, v = Viol.afterTerm k) ∨ (∃ k, v = Viol.afterDispose k)) (hpn : s.panicked = none)
    (p : Nat) (hp : p = 1 ∨ p = 17) : SafeFor p s := by
  refine safeFor_of_phViols M s hr p (by omega) (fun v h => ?_) hpn
  rcases hv v h with ⟨k, rfl⟩ | ⟨k, rfl⟩ <;> simp only [Viol.prop] <;> omega

end Cb
