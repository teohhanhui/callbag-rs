import CallbagModel.Inv.Ghost
import CallbagModel.Ops.Share
import CallbagModel.Inv.Share
/-!
# share without `noNestedFanout`: late deliveries, and the vocabulary to describe them

Under `noNestedFanout` phase-level safety holds in full (`Inv/Share.lean`, `Inv/ShareFull.lean`).  Without that restriction the fan-out loop can
deliver to sinks of its snapshot that have meanwhile received a (nested) terminal or have disposed (KF5a, KF5b): late
deliveries (`Viol.afterTerm`, `Viol.afterDispose`), the ONLY phase-level violations `share` can commit under conformant
environments (`share_safe_weak`, proved in `Inv/ShareCS.lean` together with its cross-sink counterpart).

The description of the stack that survives nesting (`SOK`): tail frames and DATA fan-out frames all of whose remaining sinks
`r` have been GREETED, any number of them, in any position; nothing is claimed about `r ⊆ st.sinks` or liveness of `r`.
-/
namespace Cb.ShareWeak
open Cb.Share

variable {α : Type}

/-- the only phase-level violations `share` can commit are deliveries to sinks that are already done (KF5a, KF5b) -/
def OnlyLateDelivery (vs : List Viol) : Prop := ∀ v ∈ vs, (∃ k, v = Viol.afterTerm k) ∨ (∃ k, v = Viol.afterDispose k)

@[simp] theorem sinkPh_flag (g : Ph) (v : Viol) (k : Nat) : (g.flag v).sinkPh k = g.sinkPh k := rfl
@[simp] theorem srcPh_flag (g : Ph) (v : Viol) (i : Nat) : (g.flag v).srcPh i = g.srcPh i := rfl

theorem onIn_viols (g : Ph) (i : In α) : (g.onIn i).viols = g.viols := Ph.onIn_viols g i

/-- sink `x` has received its greeting (so a delivery to it is at worst late) -/
def Greeted (g : Ph) (x : Nat) : Prop := g.sinkPh x = .live ∨ g.sinkPh x = .doneBySrc ∨ g.sinkPh x = .doneBySelf

theorem Greeted.congr {g g' : Ph} {x : Nat} (h : Greeted g x) (hs : g'.sinkPh x = g.sinkPh x) : Greeted g' x := by
  unfold Greeted; rw [hs]; exact h

theorem Greeted.setSink {g : Ph} {x : Nat} (h : Greeted g x) (k : Nat) (p : SinkPh)
    (hp : p = .live ∨ p = .doneBySrc ∨ p = .doneBySelf) : Greeted (g.setSink k p) x := by
  unfold Greeted
  by_cases hx : x = k
  · simp [hx]; exact hp
  · simp [hx]; exact h

theorem down_greeted (g : Ph) (s : Nat) (d : Down α) (x : Nat) (h : Greeted g x) : Greeted (g.onOut (.down s d : Out α)) x := by
  rcases g.onOut_sinkPh (.down s d) x with h' | ⟨h', -⟩ | ⟨-, h', -⟩
  · exact h.congr h'
  · cases h'
  · exact .inr (.inl h')

theorem down_nosub (g : Ph) (s : Nat) (d : Down α) (h : ∀ k, g.sinkPh k ≠ .subscribed) (k : Nat) :
    (g.onOut (.down s d : Out α)).sinkPh k ≠ .subscribed :=
  fun h' => h k (PlugSafe.onOut_sinkPh_subscribed g _ k h')

def FrameOK (g : Ph) (f : Fr α) : Prop :=
  TailF f ∨ ∃ s a r, f = .wait (.down s (.data a)) (.fLoop r (.data a)) ∧ ∀ x ∈ r, Greeted g x

def SOK (g : Ph) (stk : List (Fr α)) : Prop := ∀ f ∈ stk, FrameOK g f

theorem SOK.mono {g g' : Ph} {stk : List (Fr α)} (h : SOK g stk) (hg : ∀ x, Greeted g x → Greeted g' x) : SOK g' stk := by
  intro f hf
  rcases h f hf with ht | ⟨s, a, r, he, hr⟩
  · exact Or.inl ht
  · exact Or.inr ⟨s, a, r, he, fun x hx => hg x (hr x hx)⟩

theorem SOK.nil (g : Ph) : SOK g ([] : List (Fr α)) := fun _ h => by cases h

theorem SOK.cons_done {g : Ph} {stk : List (Fr α)} (h : SOK g stk) (o : Out α) : SOK g (.wait o .done :: stk) :=
  List.forall_mem_cons.2 ⟨Or.inl ⟨o, rfl⟩, h⟩

theorem SOK.cons_fan {g : Ph} {stk : List (Fr α)} (h : SOK g stk) (s : Nat) (a : α) (r : List Nat)
    (hr : ∀ x ∈ r, Greeted g x) : SOK g (.wait (.down s (.data a)) (.fLoop r (.data a)) :: stk) :=
  List.forall_mem_cons.2 ⟨Or.inr ⟨s, a, r, rfl, hr⟩, h⟩

theorem SOK.tail {g : Ph} {f : Fr α} {stk : List (Fr α)} (h : SOK g (f :: stk)) : SOK g stk :=
  (List.forall_mem_cons.1 h).2

theorem core_congr {st : St} {g g' : Ph} (h : Core st g) (hs : ∀ k, g'.sinkPh k = g.sinkPh k)
    (hr : ∀ i, g'.srcPh i = g.srcPh i) : Core st g' :=
  ⟨fun k => by rw [hs]; exact h.mem k, fun k => by rw [hs]; exact h.nosub k, h.nodup,
    fun hne => by rw [hr]; exact h.up hne, fun i hi => h.live i (by rw [← hr]; exact hi), fun i => by rw [hr]; exact h.nosrcsub i⟩

theorem not_frameOK_run {g : Ph} (l : Loc α) : ¬ FrameOK g (.run l) := by
  rintro (⟨_, h⟩ | ⟨_, _, _, h, _⟩) <;> cases h

theorem sok_not_tfan {g : Ph} {s : Nat} {d : Down α} {r : List Nat} {rest : List (Fr α)} (hd : isEndD d = true)
    (hs : SOK g (.wait (.down s d) (.fLoop r d) :: rest)) : False := by
  rcases hs _ List.mem_cons_self with ⟨o, ho⟩ | ⟨s0, a, r0, he, _⟩
  · simp at ho
  · simp at he; obtain ⟨⟨_, rfl⟩, _⟩ := he; simp [isEndD] at hd

end Cb.ShareWeak
