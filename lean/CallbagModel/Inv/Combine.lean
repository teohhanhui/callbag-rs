import CallbagModel.Inv.Ghost2
import CallbagModel.Inv.Runs
import CallbagModel.Inv.TraceGhost
import CallbagModel.Ops.Combine
/-!
# combine!: partial phase-level safety

The real code never clears a member's talkback slot and treats a member's `Error` like `Terminate`, so messages of the
sink are also forwarded to members that are not live (`Viol.upNotLive`, known findings KF2/KF3).  Everything else is
proved: the sink is greeted exactly once and only when subscribed, nothing is delivered before the greeting, after the
sink's terminal or after the sink disposed, no member is subscribed twice, and the two potential panics
(`expect("source talkback not set")`, `unwrap()` on `None`) are unreachable — for every arity `n` (including 0).
-/
namespace Cb.Combine

variable {α : Type}

/-- the only phase-level violations `combine!` can commit are messages to members that are not live (known findings KF2, KF3) -/
def OnlyUpNotLive (vs : List Viol) : Prop := ∀ v ∈ vs, ∃ i p, v = Viol.upNotLive i p

def cnt (n : Nat) (p : Nat → Bool) : Nat := (List.range n).countP p

theorem cnt_congr {n : Nat} {p q : Nat → Bool} (h : ∀ j, j < n → p j = q j) : cnt n p = cnt n q :=
  countP_range_congr h

theorem cnt_eq_zero_iff {n : Nat} {p : Nat → Bool} : cnt n p = 0 ↔ ∀ j, j < n → p j = false :=
  countP_range_eq_zero

theorem cnt_eq_all_iff {n : Nat} {p : Nat → Bool} : cnt n p = n ↔ ∀ j, j < n → p j = true :=
  countP_range_eq_self

theorem cnt_flip {n : Nat} {p q : Nat → Bool} {i : Nat} (hi : i < n) (hp : p i = true) (hq : q i = false)
    (h : ∀ j, j ≠ i → p j = q j) : cnt n p = cnt n q + 1 :=
  countP_range_flip hi hp hq h

theorem cnt_pos {n : Nat} {p : Nat → Bool} {i : Nat} (hi : i < n) (hp : p i = true) : 0 < cnt n p :=
  List.countP_pos_iff.2 ⟨i, List.mem_range.2 hi, hp⟩

theorem length_setAt {β : Type} [Inhabited β] (l : List β) (i : Nat) (a : β) (h : i < l.length) :
    (setAt l i a).length = l.length := by
  rw [setAt_eq_set _ _ _ h, List.length_set]

theorem unwrapAll_some (l : List (Option α)) (h : ∀ j, j < l.length → (phAt l j).isNone = false) :
    ∃ t, unwrapAll l = some t := by
  induction l with
  | nil => exact ⟨[], rfl⟩
  | cons x xs ih =>
    have h0 := h 0 (by simp)
    obtain ⟨t, ht⟩ := ih (fun j hj => by have := h (j + 1) (by simpa using hj); simpa [phAt] using this)
    cases x with
    | none => simp [phAt] at h0
    | some a => exact ⟨a :: t, by simp [unwrapAll, ht]⟩

@[simp] theorem sinkPh_flag (g : Ph) (v : Viol) (k : Nat) : (g.flag v).sinkPh k = g.sinkPh k := rfl
@[simp] theorem srcPh_flag (g : Ph) (v : Viol) (i : Nat) : (g.flag v).srcPh i = g.srcPh i := rfl

theorem srcUp_notLive (g : Ph) (j : Nat) (u : Up) (i : Nat) (hi : g.srcPh i ≠ .live) :
    (g.onOut (.srcUp j u : Out (List α))).srcPh i ≠ .live :=
  fun h => hi (ComposeComplete.onOut_srcPh_live g _ i h)

theorem srcUp_self_notLive (g : Ph) (j : Nat) (u : Up) (hu : u ≠ .pull) :
    (g.onOut (.srcUp j u : Out (List α))).srcPh j ≠ .live := by
  by_cases hl : g.srcPh j = .live
  · rw [Ph.onOut_srcEnd hl hu, Ph.srcPh_setSrc_self]; nofun
  · exact srcUp_notLive g j u j hl

/-- the state after a member's greeting -/
def stG (st : St α) (i : Nat) : St α := { st with slots := setAt st.slots i true, nStart := st.nStart - 1 }

/-- the state after a member's end -/
def stE (st : St α) : St α := { st with nEnd := st.nEnd - 1 }

/-- the state after a member's datum -/
def stD (st : St α) (i : Nat) (a : α) : St α :=
  { st with nData := if (phAt st.vals i).isNone then st.nData - 1 else st.nData, vals := setAt st.vals i (some a) }

/-- The counters are the counts of the phases they stand for: `nStart` the members whose slot is unset, `nData` those without
a value, `nEnd` those that have not ended. -/
structure Glob (n : Nat) (st : St α) (g : Ph) : Prop where
  len : st.vals.length = n
  start : st.nStart = cnt n (fun j => !phAt st.slots j)
  data : st.nData = cnt n (fun j => (phAt st.vals j).isNone)
  fin : st.nEnd = cnt n (fun j => decide (g.srcPh j ≠ .ended))
  slot : ∀ j, phAt st.slots j = true ↔ (g.srcPh j = .live ∨ g.srcPh j = .ended ∨ g.srcPh j = .disposed)
  val : ∀ j, phAt st.slots j = false → phAt st.vals j = none
  oth : ∀ j, n ≤ j → g.srcPh j = .idle
  oths : ∀ k, k ≠ 0 → g.sinkPh k = .idle
  viols : OnlyUpNotLive g.viols

/-- every member has greeted -/
def AllSet (n : Nat) (st : St α) : Prop := ∀ j, j < n → phAt st.slots j = true

theorem Glob.lt_of_ne_idle {n : Nat} {st : St α} {g : Ph} (h : Glob n st g) {i : Nat} (hi : g.srcPh i ≠ .idle) : i < n :=
  src_lt_of_ne_idle h.oth hi

theorem Glob.setSink {n : Nat} {st : St α} {g : Ph} (h : Glob n st g) (p : SinkPh) : Glob n st (g.setSink 0 p) := by
  refine ⟨h.len, h.start, h.data, h.fin, h.slot, h.val, h.oth, ?_, h.viols⟩
  intro k hk; simp [hk, h.oths k hk]

theorem Glob.flag {n : Nat} {st : St α} {g : Ph} (h : Glob n st g) (i : Nat) (p : SrcPh) : Glob n st (g.flag (.upNotLive i p)) := by
  refine ⟨h.len, h.start, h.data, h.fin, h.slot, h.val, h.oth, h.oths, ?_⟩
  intro v hv
  simp only [Ph.viols_flag, List.mem_cons] at hv
  rcases hv with rfl | hv
  · exact ⟨i, p, rfl⟩
  · exact h.viols v hv

theorem Glob.setSrc_same {n : Nat} {st : St α} {g : Ph} (h : Glob n st g) (i : Nat) (p : SrcPh)
    (hgreeted : (g.srcPh i = .live ∨ g.srcPh i = .ended ∨ g.srcPh i = .disposed) ↔ (p = .live ∨ p = .ended ∨ p = .disposed))
    (hended : g.srcPh i = .ended ↔ p = .ended) (hi : i < n) :
    Glob n st (g.setSrc i p) := by
  refine ⟨h.len, h.start, h.data, ?_, ?_, h.val, aboveIdle_setSrc h.oth hi p, h.oths, h.viols⟩
  · rw [h.fin]; apply cnt_congr
    intro j _
    simp only [Ph.srcPh_setSrc]
    by_cases hj : j = i
    · subst hj; simp [hended]
    · simp [hj]
  · intro j
    simp only [Ph.srcPh_setSrc]
    by_cases hj : j = i
    · subst hj; simp only [if_true]; rw [← hgreeted]; exact h.slot j
    · simp only [hj, if_false]; exact h.slot j

theorem Glob.dispose {n : Nat} {st : St α} {g : Ph} (h : Glob n st g) {i : Nat} (hl : g.srcPh i = .live) :
    Glob n st (g.setSrc i .disposed) :=
  h.setSrc_same i .disposed (by simp [hl]) (by simp [hl]) (h.lt_of_ne_idle (by simp [hl]))

theorem Glob.subSrc {n : Nat} {st : St α} {g : Ph} (h : Glob n st g) {i : Nat} (hl : g.srcPh i = .idle) (hi : i < n) :
    Glob n st (g.setSrc i .subscribed) :=
  h.setSrc_same i .subscribed (by simp [hl]) (by simp [hl]) hi

theorem Glob.srcUp {n : Nat} {st : St α} {g : Ph} (h : Glob n st g) (j : Nat) (u : Up) :
    Glob n st (g.onOut (.srcUp j u : Out (List α))) := by
  rcases g.onOut_eq (.srcUp j u : Out (List α)) with ⟨hl, e⟩ | ⟨-, e⟩ <;> rw [e]
  · cases u with
    | pull => exact h
    | term | err e => exact h.dispose hl
  · exact h.flag j _

theorem Glob.greet {n : Nat} {st : St α} {g : Ph} (h : Glob n st g) {i : Nat} (hs : g.srcPh i = .subscribed) :
    i < n ∧ Glob n (stG st i) (g.setSrc i .live) := by
  have hi : i < n := h.lt_of_ne_idle (by simp [hs])
  have hslot : phAt st.slots i = false := by
    have := h.slot i; simp [hs] at this; simpa using this
  have hcnt := cnt_flip (p := fun j => !phAt st.slots j) (q := fun j => !phAt (setAt st.slots i true) j) hi
    (by simp [hslot]) (by simp [phAt_setAt]) (fun j hj => by simp [phAt_setAt, hj])
  have hst := h.start
  refine ⟨hi, ⟨h.len, ?_, h.data, ?_, ?_, ?_, aboveIdle_setSrc h.oth hi _, h.oths, h.viols⟩⟩
  · show st.nStart - 1 = cnt n (fun j => !phAt (setAt st.slots i true) j); omega
  · show st.nEnd = _
    rw [h.fin]; apply cnt_congr
    intro j _
    simp only [Ph.srcPh_setSrc]
    by_cases hj : j = i
    · subst hj; simp [hs]
    · simp [hj]
  · intro j
    show phAt (setAt st.slots i true) j = true ↔ _
    simp only [Ph.srcPh_setSrc, phAt_setAt]
    by_cases hj : j = i
    · simp [hj]
    · simp only [hj, if_false]; exact h.slot j
  · intro j
    show phAt (setAt st.slots i true) j = false → phAt st.vals j = none
    simp only [phAt_setAt]
    by_cases hj : j = i
    · simp [hj]
    · simp only [hj, if_false]; exact h.val j

theorem Glob.end {n : Nat} {st : St α} {g : Ph} (h : Glob n st g) {i : Nat} (hl : g.srcPh i = .live) :
    Glob n (stE st) (g.setSrc i .ended) := by
  have hi : i < n := h.lt_of_ne_idle (by simp [hl])
  have hcnt := cnt_flip (p := fun j => decide (g.srcPh j ≠ .ended)) (q := fun j => decide ((g.setSrc i .ended).srcPh j ≠ .ended)) hi
    (by simp [hl]) (by simp) (fun j hj => by simp [hj])
  have hst := h.fin
  refine ⟨h.len, h.start, h.data, ?_, ?_, h.val, aboveIdle_setSrc h.oth hi _, h.oths, h.viols⟩
  · show st.nEnd - 1 = cnt n (fun j => decide ((g.setSrc i .ended).srcPh j ≠ .ended)); omega
  · intro j
    show phAt st.slots j = true ↔ _
    simp only [Ph.srcPh_setSrc]
    by_cases hj : j = i
    · subst hj; have := h.slot j; simp [hl] at this; simp [this]
    · simp only [hj, if_false]; exact h.slot j

theorem Glob.dataStep {n : Nat} {st : St α} {g : Ph} (h : Glob n st g) {i : Nat} (hl : g.srcPh i = .live) (a : α) :
    Glob n (stD st i a) g := by
  have hi : i < n := h.lt_of_ne_idle (by simp [hl])
  have hslot : phAt st.slots i = true := (h.slot i).2 (Or.inl hl)
  have hst := h.data
  refine ⟨?_, h.start, ?_, h.fin, h.slot, ?_, h.oth, h.oths, h.viols⟩
  · show (setAt st.vals i (some a)).length = n
    rw [length_setAt _ _ _ (by rw [h.len]; exact hi), h.len]
  · show (if (phAt st.vals i).isNone then st.nData - 1 else st.nData) = cnt n (fun j => (phAt (setAt st.vals i (some a)) j).isNone)
    cases hn : (phAt st.vals i).isNone
    · rw [if_neg Bool.false_ne_true, hst]; apply cnt_congr
      intro j _
      by_cases hj : j = i
      · subst hj; simp [phAt_setAt, hn]
      · simp [phAt_setAt, hj]
    · have hcnt := cnt_flip (p := fun j => (phAt st.vals j).isNone) (q := fun j => (phAt (setAt st.vals i (some a)) j).isNone) hi
        hn (by simp [phAt_setAt]) (fun j hj => by simp [phAt_setAt, hj])
      rw [if_pos rfl]; omega
  · intro j
    show phAt st.slots j = false → phAt (setAt st.vals i (some a)) j = none
    intro hf
    have hj : j ≠ i := by rintro rfl; rw [hslot] at hf; cases hf
    simp [phAt_setAt, hj, h.val j hf]

theorem Glob.allSet_iff {n : Nat} {st : St α} {g : Ph} (h : Glob n st g) : AllSet n st ↔ st.nStart = 0 := by
  constructor
  · intro ha; rw [h.start]; exact cnt_eq_zero_iff.2 (fun j hj => by simp [ha j hj])
  · intro hz j hj
    have := cnt_eq_zero_iff.1 (h.start ▸ hz) j hj
    simpa using this

theorem Glob.allSet_of_nData {n : Nat} {st : St α} {g : Ph} (h : Glob n st g) (hz : st.nData = 0) : AllSet n st := by
  intro j hj
  have := cnt_eq_zero_iff.1 (h.data ▸ hz) j hj
  cases hs : phAt st.slots j with
  | true => rfl
  | false => rw [h.val j hs] at this; simp at this

theorem Glob.unwrap {n : Nat} {st : St α} {g : Ph} (h : Glob n st g) (hz : st.nData = 0) : ∃ t, unwrapAll st.vals = some t := by
  apply unwrapAll_some
  intro j hj
  exact cnt_eq_zero_iff.1 (h.data ▸ hz) j (h.len ▸ hj)

theorem Glob.no_sub {n : Nat} {st : St α} {g : Ph} (h : Glob n st g) (ha : AllSet n st) (i : Nat) : g.srcPh i ≠ .subscribed := by
  intro hs
  have hi : i < n := h.lt_of_ne_idle (by simp [hs])
  have := (h.slot i).1 (ha i hi)
  simp [hs] at this

theorem Glob.no_idle {n : Nat} {st : St α} {g : Ph} (h : Glob n st g) (ha : AllSet n st) (i : Nat) (hi : i < n) : g.srcPh i ≠ .idle := by
  intro hs
  have := (h.slot i).1 (ha i hi)
  simp [hs] at this

theorem Glob.allSet_of_nEnd {n : Nat} {st : St α} {g : Ph} (h : Glob n st g) (hz : st.nEnd = 0) : AllSet n st := by
  intro j hj
  have := cnt_eq_zero_iff.1 (h.fin ▸ hz) j hj
  simp at this
  exact (h.slot j).2 (Or.inr (Or.inl this))

theorem Glob.notLive_of_nEnd {n : Nat} {st : St α} {g : Ph} (h : Glob n st g) (hz : st.nEnd = 0) : ∀ j, g.srcPh j ≠ .live := by
  intro j
  by_cases hj : j < n
  · have := cnt_eq_zero_iff.1 (h.fin ▸ hz) j hj
    simp at this
    simp [this]
  · simp [h.oth j (by omega)]

/-- continuations that may sit below the top of the stack once every member has greeted: they only return or
continue a broadcast (which needs nothing but "all slots set") -/
def Quiet (n : Nat) : Loc α → Prop
  | .done => True
  | .subLoop i => n ≤ i
  | .uLoop _ _ => True
  | _ => False

def Benign (n : Nat) : Frame (Loc α) (List α) → Prop
  | .wait _ l => Quiet n l
  | .run _ => False

inductive Mode (n : Nat) (st : St α) (g : Ph) (stk : List (Frame (Loc α) (List α))) : Prop where
  | idle : g.sinkPh 0 = .idle → stk = [] → (∀ j, g.srcPh j = .idle) → st.nStart = n → Mode n st g stk
  /-- the sink has subscribed and is not greeted yet: the members are being subscribed (member `i` inside the loop), or some greeting is awaited -/
  | sub : g.sinkPh 0 = .subscribed → (n = 0 ∨ 0 < st.nStart) →
      (stk = [] ∨ ∃ i, stk = [.wait (.subSrc i) (.subLoop (i + 1))] ∧ i < n ∧ ∀ j, i < j → g.srcPh j = .idle) → Mode n st g stk
  | live : g.sinkPh 0 = .live → AllSet n st → (∀ f ∈ stk, Benign n f) → Mode n st g stk
  /-- the sink's `Terminate`/`Error` is being handed to the members one by one: members `≤ j` are no longer live -/
  | disposing (j : Nat) (u : Up) (rest : List (Frame (Loc α) (List α))) : g.sinkPh 0 = .doneBySelf → AllSet n st → u ≠ .pull →
      (∀ j', j' ≤ j → g.srcPh j' ≠ .live) → stk = .wait (.srcUp j u) (.uLoop (j + 1) u) :: rest →
      (∀ f ∈ rest, Benign n f) → Mode n st g stk
  | over : (g.sinkPh 0 = .doneBySelf ∨ g.sinkPh 0 = .doneBySrc) → AllSet n st → (∀ j, g.srcPh j ≠ .live) →
      (∀ f ∈ stk, Benign n f) → Mode n st g stk

abbrev Cfg (α : Type) := Sys (St α) (Loc α) α (List α)

def Inv (n : Nat) (s : Sys (St α) (Loc α) α (List α)) : Prop :=
  s.panicked = none ∧ Glob n s.st s.g.ph ∧ Mode n s.st s.g.ph s.stack

/-- what is proved about every reachable configuration -/
def P (s : Cfg α) : Prop := OnlyUpNotLive s.g.ph.viols ∧ s.panicked = none

theorem benign_cons {n : Nat} {o : Out (List α)} {l : Loc α} {stk : List (Frame (Loc α) (List α))} (hl : Quiet n l)
    (h : ∀ f ∈ stk, Benign n f) : ∀ f ∈ Frame.wait o l :: stk, Benign n f :=
  List.forall_mem_cons.2 ⟨hl, h⟩

theorem inv_turn (n : Nat) (s : Cfg α) (h : Inv n s) : EnvTurn s ∧ P s := by
  obtain ⟨hp, hg, hm⟩ := h
  refine ⟨⟨hp, ?_⟩, hg.viols, hp⟩
  cases hm with
  | idle _ h => rw [h]; rfl
  | sub _ _ h =>
    rcases h with h | ⟨i, h, _⟩ <;> (rw [h]; rfl)
  | live _ _ h => exact ctx_isSome_of_waits (fun _ => id) h
  | disposing j u rest _ _ _ _ h => rw [h]; rfl
  | over _ _ _ h => exact ctx_isSome_of_waits (fun _ => id) h

theorem Mode.of_st {n : Nat} {st st' : St α} {g : Ph} {stk : List (Frame (Loc α) (List α))} (h : Mode n st g stk)
    (h1 : st'.nStart = st.nStart) (h2 : st'.slots = st.slots) : Mode n st' g stk := by
  have ha : AllSet n st → AllSet n st' := fun ha j hj => h2 ▸ ha j hj
  cases h with
  | idle a b c d => exact .idle a b c (h1 ▸ d)
  | sub a b c => exact .sub a (h1 ▸ b) c
  | live a b c => exact .live a (ha b) c
  | disposing j u rest a b c d e f => exact .disposing j u rest a (ha b) c d e f
  | over a b c d => exact .over a (ha b) c d

theorem Mode.endSrc {n : Nat} {st : St α} {g : Ph} {stk : List (Frame (Loc α) (List α))} (h : Mode n st g stk) {i : Nat}
    (hl : g.srcPh i = .live) : Mode n st (g.setSrc i .ended) stk := by
  have hne : ∀ j, g.srcPh j ≠ .live → (g.setSrc i .ended).srcPh j ≠ .live := fun j hj => by
    rw [Ph.srcPh_setSrc]; split
    · exact SrcPh.noConfusion
    · exact hj
  have hidle : ∀ j, g.srcPh j = .idle → (g.setSrc i .ended).srcPh j = .idle := fun j hj => by
    rw [Ph.srcPh_setSrc, if_neg (fun e => by rw [e, hl] at hj; cases hj)]; exact hj
  cases h with
  | idle a b c d => rw [c i] at hl; cases hl
  | sub a b c => exact .sub a b (c.imp_right fun ⟨i0, h1, h2, h3⟩ => ⟨i0, h1, h2, fun j hj => hidle j (h3 j hj)⟩)
  | live a b c => exact .live a b c
  | disposing j u rest a b c d e f => exact .disposing j u rest a b c (fun j' hj' => hne j' (d j' hj')) e f
  | over a b c d => exact .over a b (fun j => hne j (c j)) d

/-- the phases in which quiet continuations wait -/
def Calm (g : Ph) : Prop :=
  g.sinkPh 0 = .live ∨ ((g.sinkPh 0 = .doneBySelf ∨ g.sinkPh 0 = .doneBySrc) ∧ ∀ j, g.srcPh j ≠ .live)

theorem Calm.mode {n : Nat} {st : St α} {g : Ph} {stk : List (Frame (Loc α) (List α))} (h : Calm g) (ha : AllSet n st)
    (hb : ∀ f ∈ stk, Benign n f) : Mode n st g stk :=
  h.elim (fun h1 => .live h1 ha hb) (fun h1 => .over h1.1 ha h1.2 hb)

theorem Calm.srcUp {g : Ph} (h : Calm g) (j : Nat) (u : Up) : Calm (g.onOut (.srcUp j u : Out (List α))) := by
  unfold Calm
  rw [Ph.sinkPh_onOut_srcUp]
  exact h.imp_right fun h1 => ⟨h1.1, fun j' => srcUp_notLive _ _ _ _ (h1.2 j')⟩

section runs
variable {n : Nat} {st : St α}

theorem run_subLoop_call {i : Nat} (h : i < n) : Runs (machine α n) st (.subLoop i) st (some (.subSrc i, .subLoop (i + 1))) :=
  .call (by simp [machine, step, h])

theorem run_subLoop_ret {i : Nat} (h : ¬ i < n) : Runs (machine α n) st (.subLoop i) st none := .ret (by simp [machine, step, h])

theorem run_uLoop_call {j : Nat} {u : Up} (h : j < n) (hs : phAt st.slots j = true) :
    Runs (machine α n) st (.uLoop j u) st (some (.srcUp j u, .uLoop (j + 1) u)) :=
  .call (by simp [machine, step, h, hs])

theorem run_uLoop_ret {j : Nat} {u : Up} (h : ¬ j < n) : Runs (machine α n) st (.uLoop j u) st none :=
  .ret (by simp [machine, step, h])

theorem run_g0_last {i : Nat} (hz : st.nStart - 1 = 0) : Runs (machine α n) st (.g0 i) (stG st i) (some (.greet 0, .done)) :=
  .tau rfl (.tau (st' := stG st i) (l' := .g2) (by simp [machine, step, hz, stG]) (.call rfl))

theorem run_g0_notLast {i : Nat} (hz : ¬ st.nStart - 1 = 0) : Runs (machine α n) st (.g0 i) (stG st i) none :=
  .tau rfl (.tau (st' := stG st i) (l' := .done) (by simp [machine, step, hz, stG]) (.ret rfl))

theorem run_e0_last (hz : st.nEnd - 1 = 0) : Runs (machine α n) st .e0 (stE st) (some (.down 0 .term, .done)) :=
  .tau (l' := .e1) (by simp [machine, step, hz, stE]) (.call rfl)

theorem run_e0_notLast (hz : ¬ st.nEnd - 1 = 0) : Runs (machine α n) st .e0 (stE st) none :=
  .tau (l' := .done) (by simp [machine, step, hz, stE]) (.ret rfl)

theorem run_d3_wait {nd : Nat} (hz : ¬ nd = 0) : Runs (machine α n) st (.d3 nd) st none := .ret (by simp [machine, step, hz])

theorem run_d3_emit {nd : Nat} {t : List α} (hz : nd = 0) (hu : unwrapAll st.vals = some t) :
    Runs (machine α n) st (.d3 nd) st (some (.down 0 (.data t), .done)) :=
  .tau (st' := st) (l' := .d4) (by simp [machine, step, hz]) (.tau (st' := st) (l' := .d5 t) (by simp [machine, step, hu]) (.call rfl))

/-- a member's datum is stored, after the count of the members without a value has been taken (`d1`: this one was among them) -/
theorem run_d0 {i : Nat} {a : α} {r : Option (Out (List α) × Loc α)}
    (h : Runs (machine α n) (stD st i a) (.d3 (stD st i a).nData) (stD st i a) r) : Runs (machine α n) st (.d0 i a) (stD st i a) r := by
  unfold stD at h ⊢
  cases hn : (phAt st.vals i).isNone <;> simp only [hn, if_true, Bool.false_eq_true, if_false] at h ⊢
  · exact .tau (st' := st) (l' := .d1b i a) (by simp [machine, step, hn]) (.tau rfl (.tau rfl h))
  · exact .tau (st' := st) (l' := .d1 i a) (by simp [machine, step, hn]) (.tau rfl (.tau rfl h))

theorem run_d0_wait {i : Nat} {a : α} (hz : ¬ (stD st i a).nData = 0) : Runs (machine α n) st (.d0 i a) (stD st i a) none :=
  run_d0 (run_d3_wait hz)

theorem run_d0_emit {i : Nat} {a : α} {t : List α} (hz : (stD st i a).nData = 0) (hu : unwrapAll (stD st i a).vals = some t) :
    Runs (machine α n) st (.d0 i a) (stD st i a) (some (.down 0 (.data t), .done)) :=
  run_d0 (run_d3_emit hz hu)

end runs

theorem resume (n : Nat) (st : St α) (ha : AllSet n st) (l : Loc α) (hq : Quiet n l) (stk : List (Frame (Loc α) (List α))) (g : G)
    (tr : List (Ev α (List α))) :
    (∃ g' tr', advance (machine α n) 1 ⟨st, .run l :: stk, g, tr, none⟩ = ⟨st, stk, g', tr', none⟩ ∧ g'.ph = g.ph) ∨
    (∃ j u g' tr', j < n ∧ advance (machine α n) 1 ⟨st, .run l :: stk, g, tr, none⟩ =
        ⟨st, .wait (.srcUp j u) (.uLoop (j + 1) u) :: stk, g', tr', none⟩ ∧ g'.ph = g.ph.onOut (.srcUp j u : Out (List α))) := by
  cases l with
  | done => exact .inl ⟨g.onRetO stk.length, .retO :: tr, by simp [advance, opStep, machine, step], onRetO_ph _ _⟩
  | subLoop i =>
    exact .inl ⟨g.onRetO stk.length, .retO :: tr, by simp [advance, opStep, machine, step, Nat.not_lt.2 hq], onRetO_ph _ _⟩
  | uLoop j u =>
    by_cases hj : j < n
    · exact .inr ⟨j, u, g.onOut (machine α n).shape (.srcUp j u), .out (.srcUp j u) :: tr, hj,
        by simp [advance, opStep, machine, step, hj, ha j hj], onOut_ph _ _ _⟩
    · exact .inl ⟨g.onRetO stk.length, .retO :: tr, by simp [advance, opStep, machine, step, hj], onRetO_ph _ _⟩
  | _ => exact hq.elim

/-- How the move `m` from the turn `s` hands control to a loop or to a waiting continuation `l`. -/
inductive Entry (n : Nat) (s : Cfg α) : Move α → Loc α → Prop
  | subscribe : Entry n s (.call (.subscribe 0)) (.subLoop 0)
  | sinkUp (u : Up) : Entry n s (.call (.sinkUp 0 u)) (.uLoop 0 u)
  | ret {l} : Entry n s .ret l

/-- what the run does from a loop head or a continuation: the next call of the loop, or the return -/
inductive Tail (n : Nat) : Loc α → Option (Out (List α) × Loc α) → Prop
  | done : Tail n .done none
  | subCall {i : Nat} : Tail n (.subLoop i) (some (.subSrc i, .subLoop (i + 1)))
  | subRet {i : Nat} : Tail n (.subLoop i) none
  | upCall {j : Nat} {u : Up} : Tail n (.uLoop j u) (some (.srcUp j u, .uLoop (j + 1) u))
  | upRet {j : Nat} {u : Up} : Tail n (.uLoop j u) none

inductive Macro (n : Nat) (s : Cfg α) : Move α → St α → Option (Out (List α) × Loc α) → Prop
  | tail {m l r} (hent : Entry n s m l) (ht : Tail n l r) : Macro n s m s.st r
  | greetLast (i : Nat) (hz : s.st.nStart - 1 = 0) : Macro n s (.call (.srcGreet i)) (stG s.st i) (some (.greet 0, .done))
  | greetNotLast (i : Nat) (hz : ¬ s.st.nStart - 1 = 0) : Macro n s (.call (.srcGreet i)) (stG s.st i) none
  | dataWait (i : Nat) (a : α) (hl : s.g.ph.srcPh i = .live) (hz : ¬ (stD s.st i a).nData = 0) :
      Macro n s (.call (.srcDown i (.data a))) (stD s.st i a) none
  | dataEmit (i : Nat) (a : α) (t : List α) (hl : s.g.ph.srcPh i = .live) (hu : unwrapAll (stD s.st i a).vals = some t) :
      Macro n s (.call (.srcDown i (.data a))) (stD s.st i a) (some (.down 0 (.data t), .done))
  | endLast (i : Nat) (d : Down α) (hd : isFinal d = true) (hz : s.st.nEnd - 1 = 0) :
      Macro n s (.call (.srcDown i d)) (stE s.st) (some (.down 0 .term, .done))
  | endNotLast (i : Nat) (d : Down α) (hd : isFinal d = true) (hz : ¬ s.st.nEnd - 1 = 0) :
      Macro n s (.call (.srcDown i d)) (stE s.st) none

def GoodT (n : Nat) (g : G) (stk : List (Frame (Loc α) (List α))) (st : St α) (l : Loc α) : Prop :=
  ∃ r, Tail n l r ∧ Runs (machine α n) st l st r ∧ ∀ tr, Inv n (Sys.ends (machine α n).shape st stk g tr r)

def Good (n : Nat) (s : Cfg α) (m : Move α) (l : Loc α) : Prop :=
  ∃ st' r, Macro n s m st' r ∧ Runs (machine α n) s.st l st' r ∧ Inv n (s.next (machine α n).shape st' m r)

section good
variable {n : Nat} {s : Cfg α} {m : Move α} {st st' : St α} {l l' : Loc α} {stk : List (Frame (Loc α) (List α))} {g : G}

theorem good_call {o : Out (List α)} (hm : Macro n s m st' (some (o, l'))) (hr : Runs (machine α n) s.st l st' (some (o, l')))
    (hg : Glob n st' ((s.gIn m).ph.onOut o)) (hmode : Mode n st' ((s.gIn m).ph.onOut o) (.wait o l' :: s.below m)) : Good n s m l :=
  ⟨st', _, hm, hr, by rw [Sys.next_eq]; exact ⟨rfl, by rw [Sys.ends_some_ph]; exact hg, by rw [Sys.ends_some_ph]; exact hmode⟩⟩

theorem good_ret (hm : Macro n s m st' none) (hr : Runs (machine α n) s.st l st' none) (hg : Glob n st' (s.gIn m).ph)
    (hmode : Mode n st' (s.gIn m).ph (s.below m)) : Good n s m l :=
  ⟨st', none, hm, hr, by rw [Sys.next_eq]; exact ⟨rfl, by rw [Sys.ends_none_ph]; exact hg, by rw [Sys.ends_none_ph]; exact hmode⟩⟩

theorem Entry.good (hent : Entry n s m l) (h : GoodT n (s.gIn m) (s.below m) s.st l) : Good n s m l :=
  have ⟨r, ht, hr, hi⟩ := h
  ⟨s.st, r, .tail hent ht, hr, by rw [Sys.next_eq]; exact hi _⟩

theorem tail_call {o : Out (List α)} (ht : Tail n l (some (o, l'))) (hr : Runs (machine α n) st l st (some (o, l')))
    (hg : Glob n st (g.ph.onOut o)) (hmode : Mode n st (g.ph.onOut o) (.wait o l' :: stk)) : GoodT n g stk st l :=
  ⟨_, ht, hr, fun _ => ⟨rfl, by rw [Sys.ends_some_ph]; exact hg, by rw [Sys.ends_some_ph]; exact hmode⟩⟩

theorem tail_ret (ht : Tail n l none) (hr : Runs (machine α n) st l st none) (hg : Glob n st g.ph) (hmode : Mode n st g.ph stk) :
    GoodT n g stk st l :=
  ⟨none, ht, hr, fun _ => ⟨rfl, by rw [Sys.ends_none_ph]; exact hg, by rw [Sys.ends_none_ph]; exact hmode⟩⟩

theorem good_cont (hg : Glob n st g.ph) (hc : Calm g.ph) (ha : AllSet n st) (hq : Quiet n l) (hb : ∀ f ∈ stk, Benign n f) :
    GoodT n g stk st l := by
  cases l with
  | done => exact tail_ret .done (.ret rfl) hg (hc.mode ha hb)
  | subLoop i => exact tail_ret .subRet (run_subLoop_ret (Nat.not_lt.2 hq)) hg (hc.mode ha hb)
  | uLoop j u =>
    by_cases hj : j < n
    · exact tail_call .upCall (run_uLoop_call hj (ha j hj)) (hg.srcUp j u) ((hc.srcUp j u).mode ha (benign_cons trivial hb))
    · exact tail_ret .upRet (run_uLoop_ret hj) hg (hc.mode ha hb)
  | _ => exact hq.elim

theorem good_dispose (j : Nat) (u : Up) (hg : Glob n st g.ph) (hk : g.ph.sinkPh 0 = .doneBySelf) (ha : AllSet n st) (hu : u ≠ .pull)
    (hnl : ∀ j', j' < j → g.ph.srcPh j' ≠ .live) (hb : ∀ f ∈ stk, Benign n f) : GoodT n g stk st (.uLoop j u) := by
  by_cases hj : j < n
  · refine tail_call .upCall (run_uLoop_call hj (ha j hj)) (hg.srcUp j u)
      (.disposing j u stk (by rw [Ph.sinkPh_onOut_srcUp]; exact hk) ha hu (fun j' hj' => ?_) rfl hb)
    by_cases hjj : j' = j
    · subst hjj; exact srcUp_self_notLive _ _ _ hu
    · exact srcUp_notLive _ _ _ _ (hnl j' (by omega))
  · refine tail_ret .upRet (run_uLoop_ret hj) hg (.over (.inl hk) ha (fun j' => ?_) hb)
    by_cases hj' : j' < j
    · exact hnl j' hj'
    · rw [hg.oth j' (by omega)]; exact SrcPh.noConfusion

theorem good_sub (i : Nat) (hg : Glob n st g.ph) (hk : g.ph.sinkPh 0 = .subscribed) (hn : n = 0 ∨ 0 < st.nStart)
    (hidle : ∀ j, i ≤ j → g.ph.srcPh j = .idle) : GoodT n g [] st (.subLoop i) := by
  by_cases hi : i < n
  · have hii := hidle i (Nat.le_refl i)
    have e : g.ph.onOut (.subSrc i : Out (List α)) = g.ph.setSrc i .subscribed :=
      Ph.onOut_subSrc hii ((Ph.anySinkOpen_iff _).2 ⟨0, .inl hk⟩)
    refine tail_call .subCall (run_subLoop_call hi) ?_ ?_ <;> rw [e]
    · exact hg.subSrc hii hi
    · exact .sub hk hn (.inr ⟨i, rfl, hi, fun j hj => by rw [Ph.srcPh_setSrc, if_neg (by omega)]; exact hidle j (by omega)⟩)
  · exact tail_ret .subRet (run_subLoop_ret hi) hg (.sub hk hn (.inl rfl))

end good

section enter
variable {n : Nat} {st : St α} {stk : List (Frame (Loc α) (List α))} {g : G} {tr : List (Ev α (List α))} {c : Ctx (List α)}

theorem good_subscribe (k : Nat) (hg : Glob n st g.ph) (hm : Mode n st g.ph stk)
    (hl : legalIn (machine α n).shape g.ph c (.subscribe k : In α) = true) :
    Good n ⟨st, stk, g, tr, none⟩ (.call (.subscribe k)) (enter (.subscribe k)) := by
  obtain ⟨⟨_, hidle⟩, hk⟩ := legalIn_subscribe.1 hl
  obtain rfl : k = 0 := hk.resolve_right nofun
  cases hm with
  | idle h1 h2 h3 h4 =>
    subst h2
    have e : (g.onIn 0 (.subscribe 0 : In α)).ph = g.ph.setSink 0 .subscribed := rfl
    exact Entry.good (s := ⟨st, [], g, tr, none⟩) .subscribe (good_sub (g := g.onIn 0 (.subscribe 0 : In α)) (st := st) 0 (by rw [e]; exact hg.setSink _)
      (by rw [e]; simp) (by omega) (fun j _ => by rw [e]; exact h3 j))
  | sub h1 => rw [h1] at hidle; cases hidle
  | live h1 => rw [h1] at hidle; cases hidle
  | disposing j u rest h1 => rw [h1] at hidle; cases hidle
  | over h1 => rcases h1 with h1 | h1 <;> (rw [h1] at hidle; cases hidle)

theorem good_sinkUp (k : Nat) (u : Up) (hg : Glob n st g.ph) (hm : Mode n st g.ph stk)
    (hl : legalIn (machine α n).shape g.ph c (.sinkUp k u : In α) = true) :
    Good n ⟨st, stk, g, tr, none⟩ (.call (.sinkUp k u)) (enter (.sinkUp k u)) := by
  have hlive := legal_sinkUp hl
  obtain rfl : k = 0 := sink_zero_of_live hg.oths hlive
  cases hm with
  | idle h1 => rw [h1] at hlive; cases hlive
  | sub h1 => rw [h1] at hlive; cases hlive
  | live h1 h2 h3 =>
    by_cases hu : u = .pull
    · subst hu
      exact Entry.good (s := ⟨st, stk, g, tr, none⟩) (.sinkUp .pull) (good_cont (g := g.onIn stk.length (.sinkUp 0 .pull : In α)) (st := st) (stk := stk) hg (.inl h1) h2 trivial h3)
    · have e : (g.onIn stk.length (.sinkUp 0 u : In α)).ph = g.ph.setSink 0 .doneBySelf := by rw [onIn_ph, Ph.onIn_sinkEnd _ _ hu]
      exact Entry.good (s := ⟨st, stk, g, tr, none⟩) (.sinkUp u) (good_dispose (g := g.onIn stk.length (.sinkUp 0 u : In α)) (st := st) (stk := stk) 0 u
        (by rw [e]; exact hg.setSink _) (by rw [e]; simp) h2 hu (fun _ h => absurd h (Nat.not_lt_zero _)) h3)
  | disposing j u rest h1 => rw [h1] at hlive; cases hlive
  | over h1 => rcases h1 with h1 | h1 <;> (rw [h1] at hlive; cases hlive)

theorem good_srcGreet (i : Nat) (hg : Glob n st g.ph) (hm : Mode n st g.ph stk) (hc : ctxOf stk = some c)
    (hl : legalIn (machine α n).shape g.ph c (.srcGreet i : In α) = true) :
    Good n ⟨st, stk, g, tr, none⟩ (.call (.srcGreet i)) (enter (.srcGreet i)) := by
  obtain ⟨hsub, hctx⟩ := legalIn_srcGreet.1 hl
  have e := (Sys.gIn_ph (⟨st, stk, g, tr, none⟩ : Cfg α) (.srcGreet i)).trans (Ph.onIn_srcGreet g.ph i)
  cases hm with
  | idle _ _ h3 => rw [h3 i] at hsub; cases hsub
  | sub h1 h2 h3 =>
    have hin : inSub i c = true := hctx.resolve_right nofun
    rcases h3 with rfl | ⟨i0, rfl, hi0, hidle⟩
    · cases hc; cases hin
    · cases hc
      obtain rfl : i = i0 := by simpa [inSub] using hin
      obtain ⟨hi, hg'⟩ := hg.greet hsub
      by_cases hz : st.nStart - 1 = 0
      · have hall : AllSet n (stG st i) := hg'.allSet_iff.2 hz
        have hni : n ≤ i + 1 := Decidable.byContradiction fun hc => by
          have h := hg'.no_idle hall (i + 1) (by omega)
          rw [Ph.srcPh_setSrc, if_neg (by omega)] at h
          exact h (hidle (i + 1) (by omega))
        refine good_call (.greetLast i hz) (run_g0_last hz) ?_ ?_ <;> rw [e, Ph.onOut_greet (g := g.ph.setSrc i .live) (k := 0) h1]
        · exact hg'.setSink _
        · exact .live (by simp) hall (benign_cons trivial (benign_cons hni (fun _ h => nomatch h)))
      · refine good_ret (.greetNotLast i hz) (run_g0_notLast hz) (by rw [e]; exact hg') ?_
        rw [e]
        exact .sub h1 (.inr (Nat.pos_of_ne_zero hz))
          (.inr ⟨i, rfl, hi, fun j hj => by rw [Ph.srcPh_setSrc, if_neg (by omega)]; exact hidle j hj⟩)
  | live _ h2 => exact absurd hsub (hg.no_sub h2 i)
  | disposing j u rest _ h2 => exact absurd hsub (hg.no_sub h2 i)
  | over _ h2 => exact absurd hsub (hg.no_sub h2 i)

theorem good_end (i : Nat) (d : Down α) (hd : isFinal d = true)
    (hl : legalIn (machine α n).shape g.ph c (.srcDown i d : In α) = true) (hg : Glob n st g.ph) (hm : Mode n st g.ph stk)
    (hlv : AllSet n st → g.ph.sinkPh 0 = .live ∧ ∀ f ∈ stk, Benign n f) :
    Good n ⟨st, stk, g, tr, none⟩ (.call (.srcDown i d)) .e0 := by
  have hlive := legal_srcDown hl
  have e := (Sys.gIn_ph (⟨st, stk, g, tr, none⟩ : Cfg α) (.srcDown i d)).trans (Ph.onIn_srcEnd _ _ hd)
  have hg' := hg.end hlive
  by_cases hz : st.nEnd - 1 = 0
  · have ha : AllSet n st := hg'.allSet_of_nEnd hz
    obtain ⟨hk, hb⟩ := hlv ha
    refine good_call (.endLast i d hd hz) (run_e0_last hz) ?_ ?_ <;>
      rw [e, Ph.onOut_final (g := g.ph.setSrc i .ended) (k := 0) (d := .term) hk rfl]
    · exact hg'.setSink _
    · exact .over (.inr (by simp)) ha (hg'.notLive_of_nEnd hz) (benign_cons trivial hb)
  · refine good_ret (.endNotLast i d hd hz) (run_e0_notLast hz) ?_ ?_ <;> rw [e]
    · exact hg'
    · exact (hm.endSrc hlive).of_st rfl rfl

theorem good_srcDown (i : Nat) (d : Down α) (hg : Glob n st g.ph) (hm : Mode n st g.ph stk) (hc : ctxOf stk = some c)
    (hl : legalIn (machine α n).shape g.ph c (.srcDown i d : In α) = true) :
    Good n ⟨st, stk, g, tr, none⟩ (.call (.srcDown i d)) (enter (.srcDown i d)) := by
  obtain ⟨hlive, hctx⟩ := legalIn_srcDown.1 hl
  have hi : i < n := hg.lt_of_ne_idle (by rw [hlive]; exact SrcPh.noConfusion)
  -- once every member has greeted, the sink is live and the frames below are quiet
  have hlv : AllSet n st → g.ph.sinkPh 0 = .live ∧ ∀ f ∈ stk, Benign n f := by
    intro ha
    cases hm with
    | idle _ _ h3 => rw [h3 i] at hlive; cases hlive
    | sub _ h2 => have := hg.allSet_iff.1 ha; omega
    | live h1 _ h3 => exact ⟨h1, h3⟩
    | disposing j u rest _ _ h3 _ h5 =>
      subst h5; cases hc
      cases u with
      | pull => exact absurd rfl h3
      | _ => simp [isTop, inSub, inPull] at hctx
    | over _ _ h3 => exact absurd hlive (h3 i)
  cases d with
  | data a =>
    have hg' : Glob n (stD st i a) g.ph := hg.dataStep hlive a
    have e := (Sys.gIn_ph (⟨st, stk, g, tr, none⟩ : Cfg α) (.srcDown i (.data a))).trans (Ph.onIn_data g.ph i a)
    by_cases hz : (stD st i a).nData = 0
    · obtain ⟨t, ht⟩ := hg'.unwrap hz
      have ha : AllSet n st := hg'.allSet_of_nData hz
      obtain ⟨hk, hb⟩ := hlv ha
      refine good_call (.dataEmit i a t hlive ht) (run_d0_emit hz ht) ?_ ?_ <;> rw [e, Ph.onOut_data (k := 0) hk t]
      · exact hg'
      · exact .live hk ha (benign_cons trivial hb)
    · refine good_ret (.dataWait i a hlive hz) (run_d0_wait hz) ?_ ?_ <;> rw [e]
      · exact hg'
      · exact hm.of_st rfl rfl
  | term => exact good_end i .term rfl hl hg hm hlv
  | err x => exact good_end i (.err x) rfl hl hg hm hlv

end enter

theorem macro_step (n : Nat) {s s' : Cfg α} {m : Move α} (h : Inv n s) (hs : EnvStep (machine α n) m s s') :
    Lands (machine α n) (Macro n) (Inv n) (fun _ => True) s s' m := by
  obtain ⟨_, hg, hm⟩ := h
  cases hs with
  | @call st stk g tr c i hc hl =>
    have hgood : Good n ⟨st, stk, g, tr, none⟩ (.call i) (enter i) := by
      cases i with
      | subscribe k => exact good_subscribe k hg hm hl
      | sinkUp k u => exact good_sinkUp k u hg hm hl
      | srcGreet i => exact good_srcGreet i hg hm hc hl
      | srcDown i d => exact good_srcDown i d hg hm hc hl
    obtain ⟨st', r, hmac, hr, hi⟩ := hgood
    exact ⟨st', r, hmac, hr _ _ _, hi, id⟩
  | @ret st stk g tr o l hl =>
    have hgood : Good n ⟨st, .wait o l :: stk, g, tr, none⟩ .ret l := by
      refine Entry.ret.good ?_
      cases hm with
      | idle _ h => cases h
      | sub h1 h2 h3 =>
        rcases h3 with h | ⟨i, h, hi, hidle⟩
        · cases h
        · cases h
          exact good_sub (i + 1) hg h1 h2 (fun j hj => hidle j hj)
      | live h1 h2 h3 => exact good_cont hg (.inl h1) h2 (h3 _ List.mem_cons_self) (List.forall_mem_cons.1 h3).2
      | disposing j u rest h1 h2 h3 h4 h5 h6 =>
        cases h5
        exact good_dispose (j + 1) u hg h1 h2 h3 (fun j' hj' => h4 j' (Nat.le_of_lt_succ hj')) h6
      | over h1 h2 h3 h4 => exact good_cont hg (.inr ⟨h1, h3⟩) h2 (h4 _ List.mem_cons_self) (List.forall_mem_cons.1 h4).2
    obtain ⟨st', r, hmac, hr, hi⟩ := hgood
    exact ⟨st', r, hmac, hr _ _ _, hi, id⟩

theorem inv_init (n : Nat) : Inv n (Sys.init (machine α n)) := by
  have hs : ∀ j, phAt (List.replicate n false) j = false := phAt_replicate (α := Bool) n
  have hv : ∀ j, phAt (List.replicate n (none : Option α)) j = none := phAt_replicate (α := Option α) n
  refine ⟨rfl, ⟨?_, ?_, ?_, ?_, ?_, ?_, ?_, ?_, ?_⟩, Mode.idle (by simp [Sys.init]) rfl (by simp [Sys.init]) rfl⟩
  · simp [Sys.init, machine]
  · show n = cnt n (fun j => !phAt (List.replicate n false) j)
    exact (cnt_eq_all_iff.2 fun j _ => by rw [hs]; rfl).symm
  · show n = cnt n (fun j => (phAt (List.replicate n (none : Option α)) j).isNone)
    exact (cnt_eq_all_iff.2 fun j _ => by rw [hv]; rfl).symm
  · show n = cnt n (fun j => decide (({} : Ph).srcPh j ≠ .ended))
    exact (cnt_eq_all_iff.2 fun j _ => by simp).symm
  · intro j
    show phAt (List.replicate n false) j = true ↔ _
    rw [hs]; simp [Sys.init]
  · exact fun j _ => hv j
  · intro j _; simp [Sys.init]
  · intro k _; simp [Sys.init]
  · intro v hv; simp [Sys.init] at hv

theorem P_mono (n : Nat) (s s' : Cfg α) (h : opStep (machine α n) s = some s') (hs : P s') : P s := by
  obtain ⟨hv, _, hp⟩ := opStep_viols_subset (machine α n) s s' h
  exact ⟨fun v hv' => hs.1 v (hv hv'), hp hs.2⟩

/-- combine!, every arity `n` (also 0): under every conformant environment (re-entrant sink, members that deliver, end or
fail synchronously inside their subscribing call, nested disposal inside a `Pull` broadcast) the operator never panics,
and the only phase-level violations it commits are `Pull`/`Terminate`/`Error` sent to members that are not live. -/
theorem combine_safe_partial {α : Type} (n : Nat) :
    ∀ s, SReach (machine α n) s → OnlyUpNotLive s.g.ph.viols ∧ s.panicked = none :=
  reach_of_macro_inv (machine α n) anyEnv P (Inv n) (inv_init n) (inv_turn n)
    (fun _ _ _ hi he _ => (macro_step n hi he).inv) (P_mono n)

end Cb.Combine

#print axioms Cb.Combine.combine_safe_partial
