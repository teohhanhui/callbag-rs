import CallbagModel.Inv.FlattenCount
import CallbagModel.Inv.PlugSafe
import CallbagModel.Inv.FlatPlug
/-!
# Assume–guarantee for `flatPlug Mo Mi initOf`: `flatten(map(g)(outer))` as a network with dynamically created inner sources

`flatPlug_inv_tr`: every small-step reachable configuration `s` of the network projects onto a reachable configuration `sF` of
`Flatten.machine Int`, a reachable configuration `sO` of `Mo`, and, for every inner source `j` created so far, a datum `a_j` and a
reachable configuration of `atInit Mi (initOf a_j)` (`= { Mi with init := initOf a_j }`) — carried as a finite family
`fam : Nat → Option (Int × Sys …)` (`MatchF`).  All external calls are flatten's; flatten's upstream 0 is `Mo`, its upstream `j ≥ 1` is inner `j`.
With the projection come the interface equations between the trace of the network and the traces of its components (`TrF`); that `a_j`
is the `j`-th datum of the outer source (`born`), and `pending` the last one, rests on one fact about flatten alone, that it numbers its
inner sources by the outer data received so far (`flatten_numbered`, `Inv/FlattenCount.lean`).
-/
namespace Cb
open ComposeSafe

section General
variable {St Loc α β : Type}

/-! The source plugged into upstream `i` of a component `N` (here: flatten) and `N` itself, at their interface
`gN.srcPh i = toSrc (g.sinkPh 0)`: a call of either is a call the other accepts, and the interface holds afterwards. -/

/-- a call of the source is a delivery that `N` accepts where it waits: inside its subscription of `i`, or a message to `i` -/
theorem source_deliver {M : Machine St Loc α β} (U : UpSide M) (N : ComposeFull.NoUpstream M) {SN LN γ : Type}
    {MN : Machine SN LN β γ} (hlg : MN.shape.lateGreet = false) (hsafe : ∀ s, SReach MN s → BasicSafe s) {i : Nat}
    {st s' : St} {l l' : Loc} {k : List (Frame Loc β)} {g : G} {tr : List (Ev α β)} {o : Out β}
    {stN : SN} {o2 : Out γ} {l2 : LN} {r : List (Frame LN γ)} {gN : G} {trN : List (Ev β γ)}
    (hr : SReach M ⟨st, .run l :: k, g, tr, none⟩) (hsink : ∀ k, g.ph.sinkPh (k + 1) = .idle)
    (hrN : SReach MN ⟨stN, .wait o2 l2 :: r, gN, trN, none⟩) (hifc : gN.ph.srcPh i = toSrc (g.ph.sinkPh 0))
    (ho2 : o2 = .subSrc i ∨ ∃ u, o2 = .srcUp i u) (hst : M.step st l = .call o s' l') :
    ∃ inp : In β, ((o = .greet 0 ∧ inp = .srcGreet i) ∨ ∃ d, o = .down 0 d ∧ inp = .srcDown i d) ∧
      legalIn MN.shape gN.ph (.inCall o2) inp = true ∧ ∀ h,
      (gN.onIn h inp).ph.srcPh i = toSrc ((g.onOut M.shape o).ph.sinkPh 0) ∧
      (∀ i', i' ≠ i → (gN.onIn h inp).ph.srcPh i' = gN.ph.srcPh i') ∧
      (∀ k, (gN.onIn h inp).ph.sinkPh k = gN.ph.sinkPh k) ∧
      (∀ k, (g.onOut M.shape o).ph.sinkPh (k + 1) = .idle) ∧ (g.onOut M.shape o).ph.sinkPh 0 ≠ .idle := by
  have hr' := reach_op hr (.call hst)
  have hv := (U.safe _ hr').1
  simp only [onOut_ph] at hv
  simp only [onIn_ph, onOut_ph]
  -- a closed source with a single sink calls `greet 0` or `down 0 d`, in the phase that allows it
  cases o with
  | greet k =>
    obtain ⟨hsub, heq⟩ := Ph.onOut_greet_ok _ _ hv
    cases k with
    | succ k => rw [hsink k] at hsub; cases hsub
    | zero =>
      have hsub2 : gN.ph.srcPh i = .subscribed := by rw [hifc, hsub]; rfl
      refine ⟨.srcGreet i, .inl ⟨rfl, rfl⟩, ?_, fun _ => ⟨?_, fun i' hi' => ?_, fun k => ?_, fun k => ?_, ?_⟩⟩
      · obtain ⟨c, hc, hl⟩ := legal_srcGreet_of MN hrN i
          (.inr (ho2.imp (fun h => ⟨l2, r, by rw [h]⟩) fun ⟨u, h⟩ => ⟨u, l2, r, by rw [h]⟩)) (fun h => nomatch hlg.symm.trans h) hsub2
        cases hc; exact hl
      · rw [heq]; simp [Ph.onIn, toSrc]
      · simp [Ph.onIn, hi']
      · simp [Ph.onIn]
      · rw [heq]; simp [hsink k]
      · rw [heq]; simp
  | down k d =>
    obtain ⟨hlive, heq⟩ := Ph.onOut_down_ok _ _ _ hv
    cases k with
    | succ k => rw [hsink k] at hlive; cases hlive
    | zero =>
      have hlive2 : gN.ph.srcPh i = .live := by rw [hifc, hlive]; rfl
      refine ⟨.srcDown i d, .inr ⟨d, rfl, rfl⟩, ?_, fun _ => ⟨?_, fun i' hi' => ?_, fun k => ?_, fun k => ?_, ?_⟩⟩
      · obtain ⟨c, hc, hl⟩ := legal_srcDown_of MN hrN (hsafe _ hrN).1 i
          (.inr (ho2.imp (fun h => ⟨l2, r, by rw [h]⟩) fun ⟨u, h⟩ => ⟨u, l2, r, by rw [h]⟩)) hlive2 d
        cases hc; exact hl
      · rw [heq]; cases d <;> simp [Ph.onIn, toSrc, isFinal, hifc, hlive]
      · cases d <;> simp [Ph.onIn, hi']
      · cases d <;> simp [Ph.onIn]
      · rw [heq]; cases d <;> simp [isFinal, hsink k]
      · rw [heq]; cases d <;> simp [isFinal, hlive]
  | subSrc i' =>
    obtain ⟨_, _, heq⟩ := Ph.onOut_subSrc_ok _ _ hv
    have := N _ hr' i'
    simp [heq] at this
  | srcUp i' u =>
    obtain ⟨hl, _⟩ := Ph.onOut_srcUp_ok _ _ _ hv
    have := N _ hr i'
    simp only at this
    rw [this] at hl; cases hl
  | app b' => exact absurd hst (U.noApp _ _ _ _ _)

/-- `N` accepts the return of the source from a message to it, and from its subscription once it has been greeted -/
theorem source_return {M : Machine St Loc α β} (U : UpSide M) {st : St} {l : Loc} {g : G} {tr : List (Ev α β)}
    {k : List (Frame Loc β)} (hr : SReach M ⟨st, .run l :: k, g, tr, none⟩) (hst : M.step st l = .ret) {i : Nat} {gN : Ph}
    (hifc : gN.srcPh i = toSrc (g.ph.sinkPh 0)) {γ : Type} {o2 : Out γ} (ho2 : (o2 = .subSrc i ∧ k = []) ∨ ∃ u, o2 = .srcUp i u)
    (sh : Shape) : legalRet sh gN (.inCall o2) = true := by
  rcases ho2 with ⟨rfl, hk⟩ | ⟨u, rfl⟩
  · have h1 := U.sync _ (reach_op hr (.ret hst)) hk
    simp only [onRetO_ph] at h1
    have h2 : gN.srcPh i ≠ .subscribed := by rw [hifc]; exact fun h => h1 (toSrc_subscribed.1 h)
    simp [legalRet, h2]
  · rfl

/-- a call of `N` into its upstream `i`, made without a violation, is a call the source accepts at top level or inside a call of its
own into `N`; when `N` subscribes, the source is at top level -/
theorem source_receive {M : Machine St Loc α β} (U : UpSide M) {st : St} {k : List (Frame Loc β)} {g : G} {tr : List (Ev α β)}
    (hr : SReach M ⟨st, k, g, tr, none⟩) (hsink : ∀ k, g.ph.sinkPh (k + 1) = .idle)
    (hk : k = [] ∨ ∃ o l r, k = .wait o l :: r ∧ Internal1 o) {i : Nat} {gN : G} (hifc : gN.ph.srcPh i = toSrc (g.ph.sinkPh 0))
    {γ : Type} {o : Out γ} (hv : (gN.ph.onOut o).viols = []) {inp : In α}
    (hoi : (o = .subSrc i ∧ inp = .subscribe 0) ∨ ∃ u, o = .srcUp i u ∧ inp = .sinkUp 0 u) :
    ∃ c, ctxOf k = some c ∧ legalIn M.shape g.ph c inp = true ∧ (o = .subSrc i → k = []) ∧ ∀ sh h,
      (gN.onOut sh o).ph.srcPh i = toSrc ((g.onIn h inp).ph.sinkPh 0) ∧
      (∀ i', i' ≠ i → (gN.onOut sh o).ph.srcPh i' = gN.ph.srcPh i') ∧
      (∀ k, (gN.onOut sh o).ph.sinkPh k = gN.ph.sinkPh k) ∧
      (∀ k, (g.onIn h inp).ph.sinkPh (k + 1) = .idle) ∧ (g.onIn h inp).ph.sinkPh 0 ≠ .idle := by
  simp only [onIn_ph, onOut_ph]
  rcases hoi with ⟨rfl, rfl⟩ | ⟨u, rfl, rfl⟩
  · obtain ⟨hidle2, _, heq⟩ := Ph.onOut_subSrc_ok _ _ hv
    have hidle : g.ph.sinkPh 0 = .idle := toSrc_idle.1 (hifc ▸ hidle2)
    obtain rfl := stack_nil_of_idle M hr hidle hsink
    refine ⟨.top, rfl, by simp [legalIn, isTop, hidle], fun _ => rfl, fun _ _ => ⟨?_, fun i' hi' => ?_, fun k => ?_, fun k => ?_, ?_⟩⟩
    · rw [heq]; simp [Ph.onIn, toSrc]
    · rw [heq]; simp [hi']
    · rw [heq]; simp
    · simp [Ph.onIn, hsink k]
    · simp [Ph.onIn]
  · obtain ⟨hlive2, heq⟩ := Ph.onOut_srcUp_ok _ _ _ hv
    have hlive : g.ph.sinkPh 0 = .live := toSrc_live.1 (hifc ▸ hlive2)
    obtain ⟨c, hcc, hl⟩ := legal_sinkUp_of M hr (U.safe _ hr).1 hk hlive u
    refine ⟨c, hcc, hl, nofun, fun _ _ => ⟨?_, fun i' hi' => ?_, fun k => ?_, fun k => ?_, ?_⟩⟩
    · rw [heq]; cases u <;> simp [Ph.onIn, toSrc, Ph.afterUp, hlive, hlive2]
    · rw [heq]; cases u <;> simp [Ph.afterUp, hi']
    · rw [heq]; cases u <;> simp [Ph.afterUp]
    · cases u <;> simp [Ph.onIn, hsink k]
    · cases u <;> simp [Ph.onIn, hlive]

end General

namespace FlatPlugSafe
open ComposeFun

def atInit {Si Li αi β : Type} (M : Machine Si Li αi β) (x : Si) : Machine Si Li αi β := { M with init := x }

section Defs
variable {So Lo Si Li αo αi : Type}

/-- the component directly above -/
inductive Who where | flat | outer | inner (j : Nat)

/-- the frames of inner source `j` among the (tagged, interleaved) frames of all inner sources -/
def proj (j : Nat) (kI : List (Nat × Frame Li Int)) : List (Frame Li Int) := (kI.filter (fun p => p.1 == j)).map (·.2)

@[simp] theorem proj_nil (j : Nat) : proj j ([] : List (Nat × Frame Li Int)) = [] := rfl

theorem proj_cons_same (j : Nat) (f : Frame Li Int) (kI : List (Nat × Frame Li Int)) : proj j ((j, f) :: kI) = f :: proj j kI := by
  simp [proj]

theorem proj_cons_ne {j j' : Nat} (h : j' ≠ j) (f : Frame Li Int) (kI : List (Nat × Frame Li Int)) :
    proj j ((j', f) :: kI) = proj j kI := by
  simp [proj, h]

/-- the waiting part of the network as an interleaving of the waiting stacks of the outer source (`kO`), of all inner sources (`kI`,
tagged) and of flatten (`kF`).  External calls are flatten's; a frame of the outer / of inner `j` sits on a call of flatten into
exactly that component. -/
inductive RelF : Who → List (FFr Lo FL Li) → List (Frame (List (FFr Lo FL Li)) Int) →
    List (Frame Lo Int) → List (Nat × Frame Li Int) → List (Frame FL Int) → Prop where
  | nil : RelF .flat [] [] [] [] []
  | ext {o l cfs stk kO kI kF} : SinkSide o → RelF .flat cfs stk kO kI kF →
      RelF .flat [] (.wait o (.flat l :: cfs) :: stk) kO kI (.wait o l :: kF)
  | intO {o l cfs stk kO kI kF} : Internal1 o → RelF .outer cfs stk kO kI kF →
      RelF .flat (.outer l :: cfs) stk (.wait o l :: kO) kI kF
  | intI {j o l cfs stk kO kI kF} : Internal1 o → RelF (.inner j) cfs stk kO kI kF →
      RelF .flat (.inner j l :: cfs) stk kO ((j, .wait o l) :: kI) kF
  | subO {l cfs stk kI kF} : RelF .flat cfs stk [] kI kF →
      RelF .outer (.flat l :: cfs) stk [] kI (.wait (.subSrc 0) l :: kF)
  | upO {u l cfs stk kO kI kF} : RelF .flat cfs stk kO kI kF →
      RelF .outer (.flat l :: cfs) stk kO kI (.wait (.srcUp 0 u) l :: kF)
  | subI {j l cfs stk kO kI kF} : proj (j + 1) kI = [] → RelF .flat cfs stk kO kI kF →
      RelF (.inner (j + 1)) (.flat l :: cfs) stk kO kI (.wait (.subSrc (j + 1)) l :: kF)
  | upI {j u l cfs stk kO kI kF} : RelF .flat cfs stk kO kI kF →
      RelF (.inner (j + 1)) (.flat l :: cfs) stk kO kI (.wait (.srcUp (j + 1) u) l :: kF)

/-- the shapes of the network's stack; `topI` = the running frame of an inner source, if that is what runs -/
inductive SMF : List (Frame (List (FFr Lo FL Li)) Int) → List (Frame Lo Int) → Option (Nat × Li) →
    List (Nat × Frame Li Int) → List (Frame FL Int) → Prop where
  | turn {stk kO kI kF} : RelF .flat [] stk kO kI kF → SMF stk kO none kI kF
  | runO {l cfs stk kO kI kF} : RelF .outer cfs stk kO kI kF → SMF (.run (.outer l :: cfs) :: stk) (.run l :: kO) none kI kF
  | runI {j l cfs stk kO kI kF} : RelF (.inner j) cfs stk kO kI kF → SMF (.run (.inner j l :: cfs) :: stk) kO (some (j, l)) kI kF
  | runF {l cfs stk kO kI kF} : RelF .flat cfs stk kO kI kF → SMF (.run (.flat l :: cfs) :: stk) kO none kI (.run l :: kF)

def istack (topI : Option (Nat × Li)) (kI : List (Nat × Frame Li Int)) (j : Nat) : List (Frame Li Int) :=
  match topI with
  | some (j', l) => if j' = j then .run l :: proj j kI else proj j kI
  | none => proj j kI

theorem RelF.turnsF {w cfs} {stk : List (Frame (List (FFr Lo FL Li)) Int)} {kO : List (Frame Lo Int)}
    {kI : List (Nat × Frame Li Int)} {kF : List (Frame FL Int)} (h : RelF w cfs stk kO kI kF) :
    (ctxOf kO).isSome = true ∧ (ctxOf kF).isSome = true ∧ ∀ p ∈ kI, ∃ o l, p.2 = Frame.wait o l ∧ Internal1 o := by
  induction h with
  | nil => exact ⟨by simp [ctxOf], by simp [ctxOf], fun p hp => by cases hp⟩
  | ext _ _ ih => exact ⟨ih.1, by simp [ctxOf], ih.2.2⟩
  | intO _ _ ih => exact ⟨by simp [ctxOf], ih.2.1, ih.2.2⟩
  | intI ho _ ih =>
    refine ⟨ih.1, ih.2.1, ?_⟩
    intro p hp
    rcases List.mem_cons.1 hp with rfl | hp
    · exact ⟨_, _, rfl, ho⟩
    · exact ih.2.2 p hp
  | subO _ ih => exact ⟨by simp [ctxOf], by simp [ctxOf], ih.2.2⟩
  | upO _ ih => exact ⟨ih.1, by simp [ctxOf], ih.2.2⟩
  | subI _ _ ih => exact ⟨ih.1, by simp [ctxOf], ih.2.2⟩
  | upI _ ih => exact ⟨ih.1, by simp [ctxOf], ih.2.2⟩

theorem RelF.flat_kO {w cfs} {stk : List (Frame (List (FFr Lo FL Li)) Int)} {kO : List (Frame Lo Int)}
    {kI : List (Nat × Frame Li Int)} {kF : List (Frame FL Int)} (h : RelF w cfs stk kO kI kF) :
    kO = [] ∨ ∃ o l r, kO = .wait o l :: r ∧ Internal1 o := by
  induction h with
  | nil => exact .inl rfl
  | ext _ _ ih => exact ih
  | intO ho _ ih => exact .inr ⟨_, _, _, rfl, ho⟩
  | intI _ _ ih => exact ih
  | subO _ ih => exact .inl rfl
  | upO _ ih => exact ih
  | subI _ _ ih => exact ih
  | upI _ ih => exact ih

theorem RelF.ctx {stk : List (Frame (List (FFr Lo FL Li)) Int)} {kO : List (Frame Lo Int)}
    {kI : List (Nat × Frame Li Int)} {kF : List (Frame FL Int)} (h : RelF .flat [] stk kO kI kF) : ctxOf kF = ctxOf stk := by
  cases h <;> rfl

/-- the family of inner sources created so far: number ↦ (the outer datum it was created from, its configuration) -/
abbrev Fam (Si Li αi : Type) := Nat → Option (Int × Sys Si Li αi Int)

def Fam.upd {Si Li αi : Type} (fam : Fam Si Li αi) (j : Nat) (x : Int × Sys Si Li αi Int) : Fam Si Li αi :=
  fun j' => if j' = j then some x else fam j'

@[simp] theorem Fam.upd_same {Si Li αi : Type} (fam : Fam Si Li αi) (j : Nat) (x : Int × Sys Si Li αi Int) :
    fam.upd j x j = some x := by simp [Fam.upd]

theorem Fam.upd_ne {Si Li αi : Type} (fam : Fam Si Li αi) {j j' : Nat} (h : j' ≠ j) (x : Int × Sys Si Li αi Int) :
    fam.upd j x j' = fam j' := by simp [Fam.upd, h]

def isOd : FL → Prop
  | .od0 => True
  | .od1 => True
  | _ => False

abbrev NSys (So Lo Si Li : Type) := Sys (FPSt So Si) (List (FFr Lo FL Li)) Int Int

structure Core (s : NSys So Lo Si Li) (sF : FSys) : Prop where
  stF : s.st.flat = sF.st
  p : s.panicked = none
  pF : sF.panicked = none
  v : s.g.ph.viols = []
  sink : ∀ k, s.g.ph.sinkPh k = sF.g.ph.sinkPh k
  src : ∀ i, s.g.ph.srcPh i = .idle
  pend : s.st.pending = none → ∀ f ∈ sF.stack, ¬ isOd (locOf f)

structure OuterRel (s : NSys So Lo Si Li) (sO : Sys So Lo αo Int) (sF : FSys) : Prop where
  stO : s.st.outer = sO.st
  pO : sO.panicked = none
  ifcO : sF.g.ph.srcPh 0 = toSrc (sO.g.ph.sinkPh 0)
  sinkO : ∀ k, sO.g.ph.sinkPh (k + 1) = .idle

structure InnerRel (Mi : Machine Si Li αi Int) (initOf : Int → Si) (s : NSys So Lo Si Li) (sF : FSys) (fam : Fam Si Li αi) : Prop where
  stI : ∀ j, s.st.innerSt j = (fam j).map (fun p => p.2.st)
  pI : ∀ j a sI, fam j = some (a, sI) → sI.panicked = none
  rI : ∀ j a sI, fam j = some (a, sI) → SReach (atInit Mi (initOf a)) sI
  ifcI : ∀ j, sF.g.ph.srcPh (j + 1) = match fam (j + 1) with
    | some (_, sI) => toSrc (sI.g.ph.sinkPh 0)
    | none => .idle
  sinkI : ∀ j a sI, fam j = some (a, sI) → ∀ k, sI.g.ph.sinkPh (k + 1) = .idle
  fam0 : fam 0 = none
  alive : ∀ j a sI, fam j = some (a, sI) → sI.g.ph.sinkPh 0 ≠ .idle

structure StackRel (s : NSys So Lo Si Li) (sO : Sys So Lo αo Int) (sF : FSys) (fam : Fam Si Li αi)
    (topI : Option (Nat × Li)) (kI : List (Nat × Frame Li Int)) : Prop where
  sm : SMF s.stack sO.stack topI kI sF.stack
  stkI : ∀ j a sI, fam j = some (a, sI) → sI.stack = istack topI kI j
  ex : ∀ p ∈ kI, (fam p.1).isSome
  exTop : ∀ j l, topI = some (j, l) → (fam j).isSome

structure MatchF (Mi : Machine Si Li αi Int) (initOf : Int → Si)
    (s : NSys So Lo Si Li) (sO : Sys So Lo αo Int) (sF : FSys) (fam : Fam Si Li αi) : Prop where
  core : Core s sF
  outer : OuterRel s sO sF
  inner : InnerRel Mi initOf s sF fam
  stk : ∃ topI kI, StackRel s sO sF fam topI kI

theorem InnerRel.congr {Mi : Machine Si Li αi Int} {initOf : Int → Si} {s s' : NSys So Lo Si Li} {sF sF' : FSys}
    {fam : Fam Si Li αi} (h : InnerRel Mi initOf s sF fam) (hst : ∀ j, s'.st.innerSt j = s.st.innerSt j)
    (hph : ∀ j, sF'.g.ph.srcPh (j + 1) = sF.g.ph.srcPh (j + 1)) : InnerRel Mi initOf s' sF' fam :=
  ⟨fun j => by rw [hst]; exact h.stI j, h.pI, h.rI, fun j => by rw [hph]; exact h.ifcI j, h.sinkI, h.fam0, h.alive⟩

theorem OuterRel.congr {s s' : NSys So Lo Si Li} {sO : Sys So Lo αo Int} {sF sF' : FSys} (h : OuterRel s sO sF)
    (hst : s'.st.outer = s.st.outer) (hph : sF'.g.ph.srcPh 0 = sF.g.ph.srcPh 0) : OuterRel s' sO sF' :=
  ⟨by rw [hst]; exact h.stO, h.pO, by rw [hph]; exact h.ifcO, h.sinkO⟩

structure HypF (Mo : Machine So Lo αo Int) (Mi : Machine Si Li αi Int) (initOf : Int → Si) : Prop where
  upO : UpSide Mo
  noUpO : ComposeFull.NoUpstream Mo
  upI : ∀ a, UpSide (atInit Mi (initOf a))
  noUpI : ∀ a, ComposeFull.NoUpstream (atInit Mi (initOf a))

end Defs

section Helpers
variable {So Lo Si Li αo αi : Type}

theorem find_filter_ne {X : Type} (l : List (Nat × X)) {j j' : Nat} (h : j' ≠ j) :
    (l.filter (fun p => p.1 != j)).find? (fun p => p.1 == j') = l.find? (fun p => p.1 == j') := by
  induction l with
  | nil => rfl
  | cons x t ih =>
    simp only [List.filter_cons, List.find?_cons]
    by_cases hx : x.1 = j
    · have b1 : (x.1 != j) = false := by simp [hx]
      have b2 : (x.1 == j') = false := by simp [hx, Ne.symm h]
      simp only [b1, b2]; exact ih
    · have b1 : (x.1 != j) = true := by simp [hx]
      simp only [b1, ↓reduceIte, List.find?_cons]
      by_cases hx' : x.1 = j'
      · simp [hx']
      · have b2 : (x.1 == j') = false := by simp [hx']
        simp only [b2]; exact ih

theorem innerSt_setInner_same (st : FPSt So Si) (j : Nat) (x : Si) : (st.setInner j x).innerSt j = some x := by
  simp [FPSt.innerSt, FPSt.setInner]

theorem innerSt_setInner_ne (st : FPSt So Si) {j j' : Nat} (h : j' ≠ j) (x : Si) :
    (st.setInner j x).innerSt j' = st.innerSt j' := by
  simp only [FPSt.innerSt, FPSt.setInner]
  rw [List.find?_cons_of_neg (by simpa using Ne.symm h), find_filter_ne _ h]

theorem proj_eq_nil {fam : Fam Si Li αi} {kI : List (Nat × Frame Li Int)} (hex : ∀ p ∈ kI, (fam p.1).isSome) {j : Nat}
    (hj : fam j = none) : proj j kI = [] := by
  simp only [proj, List.map_eq_nil_iff, List.filter_eq_nil_iff]
  intro p hp hpj
  have := hex p hp
  simp only [beq_iff_eq] at hpj
  rw [hpj, hj] at this; cases this

theorem isSome_upd {fam : Fam Si Li αi} {j j' : Nat} {x : Int × Sys Si Li αi Int} (h : (fam j').isSome) :
    (fam.upd j x j').isSome := by
  by_cases hj : j' = j
  · subst hj; simp
  · rw [Fam.upd_ne _ hj]; exact h

theorem InnerRel.upd {Mi : Machine Si Li αi Int} {initOf : Int → Si} {s s' : NSys So Lo Si Li} {sF sF' : FSys}
    {fam : Fam Si Li αi} (h : InnerRel Mi initOf s sF fam) (j0 : Nat) (a : Int) (sI' : Sys Si Li αi Int)
    (hst : s'.st.innerSt (j0 + 1) = some sI'.st) (hst' : ∀ j', j' ≠ j0 + 1 → s'.st.innerSt j' = s.st.innerSt j')
    (hp : sI'.panicked = none) (hr : SReach (atInit Mi (initOf a)) sI')
    (hifc : sF'.g.ph.srcPh (j0 + 1) = toSrc (sI'.g.ph.sinkPh 0))
    (hoth : ∀ i, i ≠ j0 → sF'.g.ph.srcPh (i + 1) = sF.g.ph.srcPh (i + 1))
    (hsink : ∀ k, sI'.g.ph.sinkPh (k + 1) = .idle) (halive : sI'.g.ph.sinkPh 0 ≠ .idle) :
    InnerRel Mi initOf s' sF' (fam.upd (j0 + 1) (a, sI')) := by
  refine ⟨?_, ?_, ?_, ?_, ?_, ?_, ?_⟩
  · intro j'
    by_cases hj : j' = j0 + 1
    · subst hj; simp [hst]
    · rw [hst' j' hj, Fam.upd_ne _ hj]; exact h.stI j'
  · intro j' a' sI hf
    by_cases hj : j' = j0 + 1
    · subst hj; simp at hf; obtain ⟨rfl, rfl⟩ := hf; exact hp
    · rw [Fam.upd_ne _ hj] at hf; exact h.pI j' a' sI hf
  · intro j' a' sI hf
    by_cases hj : j' = j0 + 1
    · subst hj; simp at hf; obtain ⟨rfl, rfl⟩ := hf; exact hr
    · rw [Fam.upd_ne _ hj] at hf; exact h.rI j' a' sI hf
  · intro i
    by_cases hi : i = j0
    · subst hi; simp [hifc]
    · rw [hoth i hi, Fam.upd_ne _ (by omega)]; exact h.ifcI i
  · intro j' a' sI hf
    by_cases hj : j' = j0 + 1
    · subst hj; simp at hf; obtain ⟨rfl, rfl⟩ := hf; exact hsink
    · rw [Fam.upd_ne _ hj] at hf; exact h.sinkI j' a' sI hf
  · rw [Fam.upd_ne _ (by omega)]; exact h.fam0
  · intro j' a' sI hf
    by_cases hj : j' = j0 + 1
    · subst hj; simp at hf; obtain ⟨rfl, rfl⟩ := hf; exact halive
    · rw [Fam.upd_ne _ hj] at hf; exact h.alive j' a' sI hf

theorem InnerRel.pos {Mi : Machine Si Li αi Int} {initOf : Int → Si} {s : NSys So Lo Si Li} {sF : FSys} {fam : Fam Si Li αi}
    (h : InnerRel Mi initOf s sF fam) {j : Nat} {x : Int × Sys Si Li αi Int} (hf : fam j = some x) : ∃ j0, j = j0 + 1 := by
  cases j with
  | zero => rw [h.fam0] at hf; cases hf
  | succ j0 => exact ⟨j0, rfl⟩

theorem InnerRel.st_of {Mi : Machine Si Li αi Int} {initOf : Int → Si} {s : NSys So Lo Si Li} {sF : FSys} {fam : Fam Si Li αi}
    (h : InnerRel Mi initOf s sF fam) {j : Nat} {a : Int} {sI : Sys Si Li αi Int} (hf : fam j = some (a, sI)) :
    s.st.innerSt j = some sI.st := by
  rw [h.stI j, hf]; rfl

theorem InnerRel.ifc_of {Mi : Machine Si Li αi Int} {initOf : Int → Si} {s : NSys So Lo Si Li} {sF : FSys} {fam : Fam Si Li αi}
    (h : InnerRel Mi initOf s sF fam) {j : Nat} {a : Int} {sI : Sys Si Li αi Int} (hf : fam (j + 1) = some (a, sI)) :
    sF.g.ph.srcPh (j + 1) = toSrc (sI.g.ph.sinkPh 0) := by
  rw [h.ifcI j, hf]

theorem mem_proj {j : Nat} {f : Frame Li Int} {kI : List (Nat × Frame Li Int)} : f ∈ proj j kI ↔ (j, f) ∈ kI := by
  simp only [proj, List.mem_map, List.mem_filter, beq_iff_eq]
  constructor
  · rintro ⟨⟨j', f'⟩, ⟨hp, rfl⟩, rfl⟩; exact hp
  · exact fun h => ⟨_, ⟨h, rfl⟩, rfl⟩

theorem proj_head (j : Nat) {kI : List (Nat × Frame Li Int)} (h : ∀ p ∈ kI, ∃ o l, p.2 = Frame.wait o l ∧ Internal1 o) :
    proj j kI = [] ∨ ∃ o l r, proj j kI = .wait o l :: r ∧ Internal1 o := by
  cases hp : proj j kI with
  | nil => exact .inl rfl
  | cons f r =>
    obtain ⟨o, l, rfl, hio⟩ := h (j, f) (mem_proj.1 (by rw [hp]; exact List.mem_cons_self))
    exact .inr ⟨o, l, r, rfl, hio⟩

theorem stkI_upd {fam : Fam Si Li αi} {topI topI' : Option (Nat × Li)} {kI kI' : List (Nat × Frame Li Int)}
    (h : ∀ j a sI, fam j = some (a, sI) → sI.stack = istack topI kI j) (j : Nat) (a : Int) (sI' : Sys Si Li αi Int)
    (hj : sI'.stack = istack topI' kI' j) (hoth : ∀ j', j' ≠ j → istack topI' kI' j' = istack topI kI j') :
    ∀ j' a' sI, fam.upd j (a, sI') j' = some (a', sI) → sI.stack = istack topI' kI' j' := by
  intro j' a' sI hf
  by_cases hjj : j' = j
  · subst hjj; simp at hf; obtain ⟨rfl, rfl⟩ := hf; exact hj
  · rw [Fam.upd_ne _ hjj] at hf; rw [hoth j' hjj]; exact h j' a' sI hf

/-! The network against flatten on the sink side: it has flatten's sink phases and no upstream, so a call of flatten to its sink, or of the
environment to the network, is one event with one effect for both. -/

theorem onOut_ext {g gF : G} {o : Out Int} (ho : SinkSide o) (hv : g.ph.viols = []) (hsink : ∀ k, g.ph.sinkPh k = gF.ph.sinkPh k)
    (hsrc : ∀ i, g.ph.srcPh i = .idle) (hvF : (gF.ph.onOut o).viols = []) (sh shF : Shape) :
    (g.onOut sh o).ph.viols = [] ∧ (∀ k, (g.onOut sh o).ph.sinkPh k = (gF.onOut shF o).ph.sinkPh k) ∧
      (∀ i, (g.onOut sh o).ph.srcPh i = .idle) ∧ (∀ i, (gF.onOut shF o).ph.srcPh i = gF.ph.srcPh i) ∧
      srcEv (Ev.out o : Ev Int Int) = none := by
  have hev : srcEv (Ev.out o : Ev Int Int) = none := by cases o <;> first | rfl | cases ho
  simp only [onOut_ph]
  rcases onOut_sinkSide_eq ho hsink hvF with ⟨e, eF⟩ | ⟨k, p, e, eF⟩ <;> rw [e, eF]
  · exact ⟨hv, hsink, hsrc, fun _ => rfl, hev⟩
  · exact ⟨hv, fun k' => by simp [hsink k'], fun i => by simpa using hsrc i, fun i => by simp, hev⟩

theorem onIn_ext {sh shF : Shape} (hms : sh.multiSink = true → shF.multiSink = true) {g gF : G} {c : Ctx Int} {i : In Int}
    (hv : g.ph.viols = []) (hsink : ∀ k, g.ph.sinkPh k = gF.ph.sinkPh k) (hsrc : ∀ i, g.ph.srcPh i = .idle)
    (hl : legalIn sh g.ph c i = true) (h hF : Nat) :
    legalIn shF gF.ph c i = true ∧
      (g.onIn h i).ph.viols = [] ∧ (∀ k, (g.onIn h i).ph.sinkPh k = (gF.onIn hF i).ph.sinkPh k) ∧
      (∀ i', (g.onIn h i).ph.srcPh i' = .idle) ∧ (∀ i', (gF.onIn hF i).ph.srcPh i' = gF.ph.srcPh i') ∧
      srcEv (Ev.inp i : Ev Int Int) = none ∧ ∀ a, i ≠ .srcDown 0 (.data a) := by
  simp only [onIn_ph]
  cases i with
  | srcGreet i' => have := legal_srcGreet hl; rw [hsrc i'] at this; cases this
  | srcDown i' d => have := legal_srcDown hl; rw [hsrc i'] at this; cases this
  | subscribe k =>
    obtain ⟨⟨hc, hidle⟩, hk⟩ := legalIn_subscribe.1 hl
    exact ⟨legalIn_subscribe.2 ⟨⟨hc, (hsink k).symm.trans hidle⟩, hk.imp id hms⟩, by simpa using hv,
      fun k' => by simp [Ph.onIn, hsink k'], fun i' => by simpa using hsrc i', fun _ => by simp, rfl, fun _ => nofun⟩
  | sinkUp k u =>
    obtain ⟨hlive, hctx⟩ := legalIn_sinkUp.1 hl
    exact ⟨legalIn_sinkUp.2 ⟨(hsink k).symm.trans hlive, hctx⟩, by simpa using hv,
      fun k' => by cases u <;> simp [Ph.onIn, hsink k'], fun i' => by simpa using hsrc i', fun _ => by simp, rfl, fun _ => nofun⟩

/-! `od1` is entered from `od0` only, and flatten subscribes to an inner source at `od1` only. -/

theorem flat_tau_od {st s : Flatten.St} {l l' : FL} (h : (Flatten.machine Int).step st l = .tau s l') (hod : isOd l') : isOd l := by
  cases Flatten.Edge.of h with
  | od0 _ => trivial
  | _ => exact hod.elim

theorem flat_call_od {st s : Flatten.St} {l l' : FL} {o : Out Int} (h : (Flatten.machine Int).step st l = .call o s l')
    (hod : isOd l') : isOd l := by
  cases Flatten.Edge.of h with
  | od0 _ => trivial
  | _ => exact hod.elim

theorem flat_subI_od {st s : Flatten.St} {l l' : FL} {j : Nat} (h : (Flatten.machine Int).step st l = .call (.subSrc (j + 1)) s l') :
    isOd l :=
  (FlatPlugFun.subI_od1 h).1 ▸ trivial

end Helpers

end FlatPlugSafe

namespace FlatPlugFun
open ComposeFun PlugSafe FlatPlugSafe

section TrDefs
variable {So Lo Si Li αo αi : Type}

structure TrF (pd : Option Int) (tr : List (Ev Int Int)) (trO : List (Ev αo Int)) (trF : List (Ev Int Int)) (fam : Fam Si Li αi) : Prop where
  sink : sinkEvs tr = sinkEvs trF
  ifcO : dualJ 0 (sinkEvs trO) = srcEq 0 (srcEvs trF)
  ifcI : ∀ j, srcEq (j + 1) (srcEvs trF) = match fam (j + 1) with
    | some (_, sI) => dualJ (j + 1) (sinkEvs sI.tr)
    | none => []
  pend : pd = (sentS 0 (srcEvs trF)).getLast?
  born : ∀ j a sI, fam (j + 1) = some (a, sI) → (sentS 0 (srcEvs trF))[j]? = some a

variable {pd pd' : Option Int} {tr tr' : List (Ev Int Int)} {trO trO' : List (Ev αo Int)} {trF trF' : List (Ev Int Int)} {fam : Fam Si Li αi}

/-- events that the views do not show -/
theorem TrF.congr (h : TrF pd tr trO trF fam) (h1 : sinkEvs tr' = sinkEvs tr) (h2 : sinkEvs trO' = sinkEvs trO)
    (h3 : sinkEvs trF' = sinkEvs trF) (h4 : srcEvs trF' = srcEvs trF) : TrF pd tr' trO' trF' fam :=
  ⟨by rw [h1, h3]; exact h.sink, by rw [h2, h4]; exact h.ifcO, fun j => by rw [h4]; exact h.ifcI j, by rw [h4]; exact h.pend,
    fun j a sI hf => by rw [h4]; exact h.born j a sI hf⟩

theorem TrF.ext (h : TrF pd tr trO trF fam) (e : Ev Int Int) (he : srcEv e = none) : TrF pd (e :: tr) trO (e :: trF) fam := by
  have h4 : srcEvs (e :: trF) = srcEvs trF := by simp [srcEvs, he]
  exact ⟨by simp only [sinkEvs]; rw [h.sink], by rw [h4]; exact h.ifcO, fun j => by rw [h4]; exact h.ifcI j, by rw [h4]; exact h.pend,
    fun j a sI hf => by rw [h4]; exact h.born j a sI hf⟩

theorem TrF.upd (h : TrF pd tr trO trF fam) (j0 : Nat) (a : Int) (sI sI' : Sys Si Li αi Int) (hf : fam (j0 + 1) = some (a, sI))
    (hs : sinkEvs sI'.tr = sinkEvs sI.tr) : TrF pd tr trO trF (fam.upd (j0 + 1) (a, sI')) := by
  refine ⟨h.sink, h.ifcO, fun j => ?_, h.pend, fun j a' sI'' hf' => ?_⟩
  · by_cases hj : j = j0
    · subst hj; have := h.ifcI j; rw [hf] at this; simp [hs, this]
    · rw [Fam.upd_ne _ (by omega)]; exact h.ifcI j
  · by_cases hj : j = j0
    · subst hj; simp at hf'; obtain ⟨rfl, rfl⟩ := hf'; exact h.born j a sI hf
    · rw [Fam.upd_ne _ (by omega)] at hf'; exact h.born j a' sI'' hf'

def datumOf : SrcEv Int → Option Int
  | .down _ (.data a) => some a
  | _ => none

/-- an event between flatten and the outer source -/
theorem TrF.src0 (h : TrF pd tr trO trF fam) (x : SrcEv Int) (y : SinkEv Int) (hx : srcIdx x = 0) (hd : dual1 0 y = some x)
    (hO : sinkEvs trO' = y :: sinkEvs trO) (hF1 : sinkEvs trF' = sinkEvs trF) (hF2 : srcEvs trF' = x :: srcEvs trF)
    (hN : sinkEvs tr' = sinkEvs tr) (hpd : pd' = (match datumOf x with | some a => some a | none => pd)) :
    TrF pd' tr' trO' trF' fam := by
  have hsent : sentS 0 (x :: srcEvs trF) = match datumOf x with
      | some a => sentS 0 (srcEvs trF) ++ [a]
      | none => sentS 0 (srcEvs trF) := by
    cases x with
    | down i d =>
      simp [srcIdx] at hx; subst hx
      cases d <;> simp [sentS, datumOf]
    | greet i => rfl
    | sub i => rfl
    | up i u => rfl
  refine ⟨by rw [hN, hF1]; exact h.sink, ?_, fun j => ?_, ?_, fun j a sI hf => ?_⟩
  · rw [hO, hF2, srcEq_cons_same _ hx]; simp only [dualJ, hd, consOpt_some]; rw [h.ifcO]
  · rw [hF2, srcEq_cons_ne _ (by omega)]; exact h.ifcI j
  · rw [hF2, hsent, hpd]
    cases datumOf x with
    | none => exact h.pend
    | some a => simp
  · rw [hF2, hsent]
    have := h.born j a sI hf
    cases datumOf x with
    | none => exact this
    | some a' =>
      simp only
      have hlt : j < (sentS 0 (srcEvs trF)).length := by
        by_cases hlt : j < (sentS 0 (srcEvs trF)).length
        · exact hlt
        · rw [List.getElem?_eq_none (by omega)] at this; cases this
      rw [List.getElem?_append_left hlt]; exact this

/-- an event between flatten and inner source `j0 + 1` (which is created by it if `fam (j0 + 1) = none`) -/
theorem TrF.srcJ (h : TrF pd tr trO trF fam) (j0 : Nat) (a : Int) (sI' : Sys Si Li αi Int) (x : SrcEv Int) (y : SinkEv Int)
    (hx : srcIdx x = j0 + 1) (hd : dual1 (j0 + 1) y = some x)
    (hI : sinkEvs sI'.tr = y :: (match fam (j0 + 1) with | some (_, sI) => sinkEvs sI.tr | none => []))
    (hb : (sentS 0 (srcEvs trF))[j0]? = some a)
    (hF1 : sinkEvs trF' = sinkEvs trF) (hF2 : srcEvs trF' = x :: srcEvs trF) (hN : sinkEvs tr' = sinkEvs tr) :
    TrF pd tr' trO trF' (fam.upd (j0 + 1) (a, sI')) := by
  have hs0 : sentS 0 (x :: srcEvs trF) = sentS 0 (srcEvs trF) := sentS_cons_ne _ (by omega)
  refine ⟨by rw [hN, hF1]; exact h.sink, ?_, fun j => ?_, by rw [hF2, hs0]; exact h.pend, fun j a' sI hf => ?_⟩
  · rw [hF2, srcEq_cons_ne _ (by omega)]; exact h.ifcO
  · by_cases hj : j = j0
    · subst hj
      rw [hF2, srcEq_cons_same _ hx]
      simp only [Fam.upd_same, hI, dualJ, hd, consOpt_some]
      have := h.ifcI j
      cases hf : fam (j + 1) with
      | none => rw [hf] at this; simp [this, dualJ]
      | some p => obtain ⟨a'', sI⟩ := p; rw [hf] at this; simp [this]
    · rw [hF2, srcEq_cons_ne _ (by omega), Fam.upd_ne _ (by omega)]; exact h.ifcI j
  · rw [hF2, hs0]
    by_cases hj : j = j0
    · subst hj; simp at hf; obtain ⟨rfl, rfl⟩ := hf; exact hb
    · rw [Fam.upd_ne _ (by omega)] at hf; exact h.born j a' sI hf

end TrDefs

end FlatPlugFun

namespace FlatPlugSafe
open ComposeFun

section Steps
open FlatPlugFun
variable {So Lo Si Li αo αi : Type} {Mo : Machine So Lo αo Int} {Mi : Machine Si Li αi Int} {initOf : Int → Si}

theorem innerSt_outer (st : FPSt So Si) (x : So) (j : Nat) : ({ st with outer := x } : FPSt So Si).innerSt j = st.innerSt j := rfl
theorem innerSt_flat (st : FPSt So Si) (x : Flatten.St) (j : Nat) : ({ st with flat := x } : FPSt So Si).innerSt j = st.innerSt j := rfl

theorem pend_cons {pd : Option Int} {f : Frame FL Int} {kF : List (Frame FL Int)} (hf : pd = none → ¬ isOd (locOf f))
    (h : pd = none → ∀ f ∈ kF, ¬ isOd (locOf f)) : pd = none → ∀ f' ∈ f :: kF, ¬ isOd (locOf f') := by
  intro hp f' hf'
  rcases List.mem_cons.1 hf' with rfl | hf'
  · exact hf hp
  · exact h hp f' hf'

theorem pend_tail {pd : Option Int} {f : Frame FL Int} {kF : List (Frame FL Int)}
    (h : pd = none → ∀ f' ∈ f :: kF, ¬ isOd (locOf f')) : pd = none → ∀ f' ∈ kF, ¬ isOd (locOf f') :=
  fun hp f' hf' => h hp f' (List.mem_cons_of_mem _ hf')

theorem pend_resume {pd : Option Int} {o : Out Int} {l : FL} {kF : List (Frame FL Int)}
    (h : pd = none → ∀ f ∈ Frame.wait o l :: kF, ¬ isOd (locOf f)) : pd = none → ∀ f ∈ Frame.run l :: kF, ¬ isOd (locOf f) :=
  pend_cons (fun hp => h hp (.wait o l) List.mem_cons_self) (pend_tail h)

/-- flatten enters `od0` only on an outer datum -/
theorem pend_enter {pd : Option Int} (i : In Int) (hi : ∀ a, i ≠ .srcDown 0 (.data a)) {kF : List (Frame FL Int)}
    (h : pd = none → ∀ f ∈ kF, ¬ isOd (locOf f)) :
    pd = none → ∀ f ∈ Frame.run ((Flatten.machine Int).enter i) :: kF, ¬ isOd (locOf f) := by
  refine pend_cons (fun _ => ?_) h
  match i with
  | .subscribe _ => exact id
  | .sinkUp _ u => cases u <;> exact id
  | .srcGreet j => cases j <;> exact id
  | .srcDown 0 (.data a) => exact absurd rfl (hi a)
  | .srcDown 0 .term => exact id
  | .srcDown 0 (.err _) => exact id
  | .srcDown (_ + 1) d => cases d <;> exact id

theorem istack_none (kI : List (Nat × Frame Li Int)) (j : Nat) : istack none kI j = proj j kI := rfl

theorem istack_some_same (j : Nat) (l : Li) (kI : List (Nat × Frame Li Int)) : istack (some (j, l)) kI j = .run l :: proj j kI := by
  simp [istack]

theorem istack_some_ne {j j' : Nat} (h : j' ≠ j) (l : Li) (kI : List (Nat × Frame Li Int)) :
    istack (some (j, l)) kI j' = proj j' kI := by
  simp [istack, Ne.symm h]

theorem step_outer (H : HypF Mo Mi initOf) {st : FPSt So Si} {l : Lo} {rest : List (FFr Lo FL Li)}
    {stk : List (Frame (List (FFr Lo FL Li)) Int)} {g : G} {tr : List (Ev Int Int)}
    {stO : So} {kO : List (Frame Lo Int)} {gO : G} {trO : List (Ev αo Int)}
    {stF : Flatten.St} {kF : List (Frame FL Int)} {gF : G} {trF : List (Ev Int Int)}
    {fam : Fam Si Li αi} {kI : List (Nat × Frame Li Int)} {b : NSys So Lo Si Li}
    (hrO : SReach Mo ⟨stO, .run l :: kO, gO, trO, none⟩) (hrF : SReach (Flatten.machine Int) ⟨stF, kF, gF, trF, none⟩)
    (hrel : RelF .outer rest stk kO kI kF)
    (hc : Core (⟨st, .run (.outer l :: rest) :: stk, g, tr, none⟩ : NSys So Lo Si Li) ⟨stF, kF, gF, trF, none⟩)
    (ho : OuterRel (⟨st, .run (.outer l :: rest) :: stk, g, tr, none⟩ : NSys So Lo Si Li) ⟨stO, .run l :: kO, gO, trO, none⟩ ⟨stF, kF, gF, trF, none⟩)
    (hi : InnerRel Mi initOf (⟨st, .run (.outer l :: rest) :: stk, g, tr, none⟩ : NSys So Lo Si Li) ⟨stF, kF, gF, trF, none⟩ fam)
    (hsI : ∀ j a sI, fam j = some (a, sI) → sI.stack = istack none kI j) (hex : ∀ p ∈ kI, (fam p.1).isSome)
    (hop : opStep (flatPlug Mo Mi initOf) ⟨st, .run (.outer l :: rest) :: stk, g, tr, none⟩ = some b)
    (htr : TrF st.pending tr trO trF fam) :
    ∃ sO' sF' fam', SReach Mo sO' ∧ SReach (Flatten.machine Int) sF' ∧ MatchF Mi initOf b sO' sF' fam' ∧
      TrF b.st.pending b.tr sO'.tr sF'.tr fam' := by
  obtain rfl : st.outer = stO := ho.stO
  have hifc : gF.ph.srcPh 0 = toSrc (gO.ph.sinkPh 0) := ho.ifcO
  have hsinkO : ∀ k, gO.ph.sinkPh (k + 1) = .idle := ho.sinkO
  -- flatten waits on its call into the outer source
  obtain ⟨o2, l2, rest', kF', rfl, rfl, h, ho2⟩ : ∃ o2 l2 rest' kF', rest = .flat l2 :: rest' ∧ kF = .wait o2 l2 :: kF' ∧
      RelF .flat rest' stk kO kI kF' ∧ ((o2 = .subSrc 0 ∧ kO = []) ∨ ∃ u, o2 = .srcUp 0 u) := by
    cases hrel with
    | subO h => exact ⟨_, _, _, _, rfl, rfl, h, .inl ⟨rfl, rfl⟩⟩
    | upO h => exact ⟨_, _, _, _, rfl, rfl, h, .inr ⟨_, rfl⟩⟩
  cases hst : Mo.step st.outer l with
  | tau s1' l' =>
    obtain rfl := opStep_det hop (.tau (flatPlug_outer_tau _ hst))
    exact ⟨_, _, fam, reach_op hrO (.tau hst), hrF,
      ⟨⟨hc.stF, rfl, rfl, hc.v, hc.sink, hc.src, hc.pend⟩, ⟨rfl, rfl, hifc, hsinkO⟩, hi.congr (fun j => rfl) (fun j => rfl),
        none, kI, ⟨.runO hrel, hsI, hex, nofun⟩⟩, htr⟩
  | panic m => cases (H.upO.safe _ (reach_op hrO (.panic hst))).2
  | ret =>
    have hrO' := reach_op hrO (.ret hst)
    obtain rfl := opStep_det hop (.tau (flatPlug_outer_ret _ rest' hst))
    exact ⟨_, _, fam, hrO', reach_env hrF (.ret (source_return H.upO hrO hst hifc ho2 _)),
      ⟨⟨hc.stF, rfl, rfl, hc.v, hc.sink, hc.src, pend_resume hc.pend⟩, ⟨rfl, rfl, by simpa using hifc, by simpa using hsinkO⟩,
        hi.congr (fun j => rfl) (fun j => rfl), none, kI, ⟨.runF h, hsI, hex, nofun⟩⟩, htr.congr rfl rfl rfl rfl⟩
  | call o s1' l' =>
    obtain ⟨inp, hoi, hl, hph⟩ := source_deliver H.upO H.noUpO flatten_lg Flatten.flatten_basicSafe
      hrO hsinkO hrF hifc (ho2.imp And.left id) hst
    obtain ⟨hifc', hoth, hsk, hsinkO', _⟩ := hph (Frame.wait o2 l2 :: kF').length
    have hsink' := fun k => (hc.sink k).trans (hsk k).symm
    rcases hoi with ⟨rfl, rfl⟩ | ⟨d, rfl, rfl⟩
    · obtain rfl := opStep_det hop (.tau (flatPlug_outer_greet _ hst))
      exact ⟨_, _, fam, reach_op hrO (.call hst), reach_env hrF (.call _ rfl hl),
        ⟨⟨hc.stF, rfl, rfl, hc.v, hsink', hc.src, pend_enter (.srcGreet 0) (fun _ => nofun) hc.pend⟩, ⟨rfl, rfl, hifc', hsinkO'⟩,
          hi.congr (fun j => rfl) (fun j => hoth _ (Nat.succ_ne_zero j)), none, kI,
          ⟨.runF (.intO trivial hrel), hsI, hex, nofun⟩⟩,
        htr.src0 (.greet 0) (.greet 0) rfl rfl rfl rfl rfl rfl rfl⟩
    · obtain rfl := opStep_det hop (.tau (flatPlug_outer_down _ hst))
      refine ⟨_, _, fam, reach_op hrO (.call hst), reach_env hrF (.call _ rfl hl),
        ⟨⟨hc.stF, rfl, rfl, hc.v, hsink', hc.src, ?_⟩, ⟨rfl, rfl, hifc', hsinkO'⟩,
          hi.congr (fun j => rfl) (fun j => hoth _ (Nat.succ_ne_zero j)), none, kI,
          ⟨.runF (.intO trivial hrel), hsI, hex, nofun⟩⟩,
        htr.src0 (.down 0 d) (.down 0 d) rfl rfl rfl rfl rfl rfl (by cases d <;> rfl)⟩
      cases d with
      | data x => exact fun hp => nomatch hp
      | term => exact pend_enter (.srcDown 0 .term) (fun _ => nofun) hc.pend
      | err e => exact pend_enter (.srcDown 0 (.err e)) (fun _ => nofun) hc.pend

theorem step_inner (H : HypF Mo Mi initOf) {st : FPSt So Si} {j : Nat} {l : Li} {rest : List (FFr Lo FL Li)}
    {stk : List (Frame (List (FFr Lo FL Li)) Int)} {g : G} {tr : List (Ev Int Int)}
    {stO : So} {kO : List (Frame Lo Int)} {gO : G} {trO : List (Ev αo Int)}
    {stF : Flatten.St} {kF : List (Frame FL Int)} {gF : G} {trF : List (Ev Int Int)}
    {fam : Fam Si Li αi} {kI : List (Nat × Frame Li Int)} {b : NSys So Lo Si Li}
    {a : Int} {stI : Si} {gI : G} {trI : List (Ev αi Int)}
    (hrO : SReach Mo ⟨stO, kO, gO, trO, none⟩) (hrF : SReach (Flatten.machine Int) ⟨stF, kF, gF, trF, none⟩)
    (hrel : RelF (.inner j) rest stk kO kI kF)
    (hc : Core (⟨st, .run (.inner j l :: rest) :: stk, g, tr, none⟩ : NSys So Lo Si Li) ⟨stF, kF, gF, trF, none⟩)
    (ho : OuterRel (⟨st, .run (.inner j l :: rest) :: stk, g, tr, none⟩ : NSys So Lo Si Li) ⟨stO, kO, gO, trO, none⟩ ⟨stF, kF, gF, trF, none⟩)
    (hi : InnerRel Mi initOf (⟨st, .run (.inner j l :: rest) :: stk, g, tr, none⟩ : NSys So Lo Si Li) ⟨stF, kF, gF, trF, none⟩ fam)
    (hfj : fam j = some (a, ⟨stI, .run l :: proj j kI, gI, trI, none⟩))
    (hsI : ∀ j' a' sI, fam j' = some (a', sI) → sI.stack = istack (some (j, l)) kI j') (hex : ∀ p ∈ kI, (fam p.1).isSome)
    (hop : opStep (flatPlug Mo Mi initOf) ⟨st, .run (.inner j l :: rest) :: stk, g, tr, none⟩ = some b)
    (htr : TrF st.pending tr trO trF fam) :
    ∃ sO' sF' fam', SReach Mo sO' ∧ SReach (Flatten.machine Int) sF' ∧ MatchF Mi initOf b sO' sF' fam' ∧
      TrF b.st.pending b.tr sO'.tr sF'.tr fam' := by
  have hrI : SReach (atInit Mi (initOf a)) ⟨stI, .run l :: proj j kI, gI, trI, none⟩ := hi.rI j a _ hfj
  have hUI := H.upI a
  have hinner : st.innerSt j = some stI := hi.st_of hfj
  obtain ⟨j0, rfl⟩ := hi.pos hfj
  have hifc : gF.ph.srcPh (j0 + 1) = toSrc (gI.ph.sinkPh 0) := hi.ifc_of hfj
  have hsinkI : ∀ k, gI.ph.sinkPh (k + 1) = .idle := hi.sinkI _ a _ hfj
  have halive : gI.ph.sinkPh 0 ≠ .idle := hi.alive _ a _ hfj
  have hoth_stk : ∀ (topI' : Option (Nat × Li)) (kI' : List (Nat × Frame Li Int)),
      (∀ j', j' ≠ j0 + 1 → istack topI' kI' j' = proj j' kI) →
      ∀ j', j' ≠ j0 + 1 → istack topI' kI' j' = istack (some (j0 + 1, l)) kI j' := by
    intro topI' kI' h j' hj'
    rw [h j' hj', istack_some_ne hj']
  -- flatten waits on its call into inner source `j0 + 1`
  obtain ⟨o2, l2, rest', kF', rfl, rfl, h, ho2⟩ : ∃ o2 l2 rest' kF', rest = .flat l2 :: rest' ∧ kF = .wait o2 l2 :: kF' ∧
      RelF .flat rest' stk kO kI kF' ∧ ((o2 = .subSrc (j0 + 1) ∧ proj (j0 + 1) kI = []) ∨ ∃ u, o2 = .srcUp (j0 + 1) u) := by
    cases hrel with
    | subI hproj h => exact ⟨_, _, _, _, rfl, rfl, h, .inl ⟨rfl, hproj⟩⟩
    | upI h => exact ⟨_, _, _, _, rfl, rfl, h, .inr ⟨_, rfl⟩⟩
  cases hst : (atInit Mi (initOf a)).step stI l with
  | tau s1' l' =>
    obtain rfl := opStep_det hop (.tau (flatPlug_inner_tau _ hinner hst))
    refine ⟨_, _, fam.upd (j0 + 1) (a, ⟨s1', .run l' :: proj (j0 + 1) kI, gI, trI, none⟩), hrO, hrF,
      ⟨⟨hc.stF, rfl, rfl, hc.v, hc.sink, hc.src, hc.pend⟩, ⟨ho.stO, rfl, ho.ifcO, ho.sinkO⟩, ?_,
        some (j0 + 1, l'), kI, ⟨.runI hrel, ?_, fun p hp => isSome_upd (hex p hp), fun j' l0 h => by cases h; simp⟩⟩,
      htr.upd j0 a _ _ hfj rfl⟩
    · exact hi.upd j0 a _ (innerSt_setInner_same _ _ _) (fun j' hj' => innerSt_setInner_ne _ hj' _) rfl
        (reach_op hrI (.tau hst)) hifc (fun i _ => rfl) hsinkI halive
    · exact stkI_upd hsI _ a _ (istack_some_same _ _ _).symm
        (hoth_stk _ _ (fun j' hj' => istack_some_ne hj' _ _))
  | panic m => cases (hUI.safe _ (reach_op hrI (.panic hst))).2
  | ret =>
    obtain rfl := opStep_det hop (.tau (flatPlug_inner_ret _ rest' hinner hst))
    refine ⟨_, _, fam.upd (j0 + 1) (a, ⟨stI, proj (j0 + 1) kI, gI.onRetO (proj (j0 + 1) kI).length, .retO :: trI, none⟩),
      hrO, reach_env hrF (.ret (source_return hUI hrI hst hifc ho2 _)),
      ⟨⟨hc.stF, rfl, rfl, hc.v, hc.sink, hc.src, pend_resume hc.pend⟩, ho.congr rfl rfl, ?_,
        none, kI, ⟨.runF h, ?_, fun p hp => isSome_upd (hex p hp), nofun⟩⟩,
      (htr.upd j0 a _ _ hfj (by rfl)).congr rfl rfl rfl rfl⟩
    · exact hi.upd j0 a _ hinner (fun j' _ => rfl) rfl (reach_op hrI (.ret hst)) (by simpa using hifc) (fun i _ => rfl)
        (by simpa using hsinkI) (by simpa using halive)
    · exact stkI_upd hsI _ a _ rfl (hoth_stk _ _ (fun j' _ => rfl))
  | call o s1' l' =>
    obtain ⟨inp, hoi, hl, hph⟩ := source_deliver hUI (H.noUpI a) flatten_lg Flatten.flatten_basicSafe
      hrI hsinkI hrF hifc (ho2.imp And.left id) hst
    obtain ⟨hifc', hoth, hsk, hsinkI', halive'⟩ := hph (Frame.wait o2 l2 :: kF').length
    have hsink' := fun k => (hc.sink k).trans (hsk k).symm
    have hex' : ∀ p ∈ ((j0 + 1, Frame.wait o l') :: kI : List (Nat × Frame Li Int)), ∀ x, ((fam.upd (j0 + 1) x) p.1).isSome := by
      intro p hp x
      rcases List.mem_cons.1 hp with rfl | hp
      · simp
      · exact isSome_upd (hex p hp)
    have hstk' : ∀ sI' : Sys Si Li αi Int, sI'.stack = .wait o l' :: proj (j0 + 1) kI →
        ∀ j' a' sI, fam.upd (j0 + 1) (a, sI') j' = some (a', sI) → sI.stack = istack none ((j0 + 1, Frame.wait o l') :: kI) j' := by
      intro sI' hs
      refine stkI_upd hsI _ a _ (by rw [hs, istack_none, proj_cons_same]) (hoth_stk _ _ (fun j' hj' => ?_))
      rw [istack_none, proj_cons_ne (Ne.symm hj')]
    have hi' : ∀ b : NSys So Lo Si Li, b.st.innerSt (j0 + 1) = some s1' → (∀ j', j' ≠ j0 + 1 → b.st.innerSt j' = st.innerSt j') →
        InnerRel Mi initOf b ⟨stF, .run ((Flatten.machine Int).enter inp) :: .wait o2 l2 :: kF', gF.onIn _ inp, .inp inp :: trF, none⟩
          (fam.upd (j0 + 1) (a, ⟨s1', .wait o l' :: proj (j0 + 1) kI, gI.onOut (atInit Mi (initOf a)).shape o, .out o :: trI, none⟩)) :=
      fun b h1 h2 => hi.upd j0 a _ h1 h2 rfl (reach_op hrI (.call hst)) hifc' (fun i hi' => hoth _ (by omega)) hsinkI' halive'
    obtain rfl := opStep_det hop (.tau (flatPlug_inner_call _ hinner hst hoi))
    exact ⟨_, _, _, hrO, reach_env hrF (.call _ rfl hl),
      ⟨⟨hc.stF, rfl, rfl, hc.v, hsink', hc.src,
          pend_enter inp (by rcases hoi with ⟨_, rfl⟩ | ⟨d, _, rfl⟩ <;> exact fun _ => nofun) hc.pend⟩,
        ho.congr rfl (hoth 0 (Nat.succ_ne_zero j0).symm),
        hi' _ (innerSt_setInner_same _ _ _) (fun j' hj' => innerSt_setInner_ne _ hj' _), none, (j0 + 1, .wait o l') :: kI,
        ⟨.runF (.intI (by rcases hoi with ⟨rfl, _⟩ | ⟨d, rfl, _⟩ <;> trivial) hrel), hstk' _ rfl, fun p hp => hex' p hp _, nofun⟩⟩,
      by
        rcases hoi with ⟨rfl, rfl⟩ | ⟨d, rfl, rfl⟩
        · exact htr.srcJ j0 a _ (.greet (j0 + 1)) (.greet 0) rfl rfl (by rw [hfj]; rfl) (htr.born j0 a _ hfj) rfl rfl rfl
        · exact htr.srcJ j0 a _ (.down (j0 + 1) d) (.down 0 d) rfl rfl (by rw [hfj]; rfl) (htr.born j0 a _ hfj) rfl rfl rfl⟩

theorem step_flat (H : HypF Mo Mi initOf) {st : FPSt So Si} {l : FL} {rest : List (FFr Lo FL Li)}
    {stk : List (Frame (List (FFr Lo FL Li)) Int)} {g : G} {tr : List (Ev Int Int)}
    {stO : So} {kO : List (Frame Lo Int)} {gO : G} {trO : List (Ev αo Int)}
    {stF : Flatten.St} {kF : List (Frame FL Int)} {gF : G} {trF : List (Ev Int Int)}
    {fam : Fam Si Li αi} {kI : List (Nat × Frame Li Int)} {b : NSys So Lo Si Li}
    (hrO : SReach Mo ⟨stO, kO, gO, trO, none⟩) (hrF : SReach (Flatten.machine Int) ⟨stF, .run l :: kF, gF, trF, none⟩)
    (hrel : RelF .flat rest stk kO kI kF)
    (hc : Core (⟨st, .run (.flat l :: rest) :: stk, g, tr, none⟩ : NSys So Lo Si Li) ⟨stF, .run l :: kF, gF, trF, none⟩)
    (ho : OuterRel (⟨st, .run (.flat l :: rest) :: stk, g, tr, none⟩ : NSys So Lo Si Li) ⟨stO, kO, gO, trO, none⟩ ⟨stF, .run l :: kF, gF, trF, none⟩)
    (hi : InnerRel Mi initOf (⟨st, .run (.flat l :: rest) :: stk, g, tr, none⟩ : NSys So Lo Si Li) ⟨stF, .run l :: kF, gF, trF, none⟩ fam)
    (hsI : ∀ j a sI, fam j = some (a, sI) → sI.stack = istack none kI j) (hex : ∀ p ∈ kI, (fam p.1).isSome)
    (hop : opStep (flatPlug Mo Mi initOf) ⟨st, .run (.flat l :: rest) :: stk, g, tr, none⟩ = some b)
    (htr : TrF st.pending tr trO trF fam) :
    ∃ sO' sF' fam', SReach Mo sO' ∧ SReach (Flatten.machine Int) sF' ∧ MatchF Mi initOf b sO' sF' fam' ∧
      TrF b.st.pending b.tr sO'.tr sF'.tr fam' := by
  obtain rfl : st.flat = stF := hc.stF
  have hpendTl : st.pending = none → ∀ f ∈ kF, ¬ isOd (locOf f) := pend_tail hc.pend
  have hifcO : gF.ph.srcPh 0 = toSrc (gO.ph.sinkPh 0) := ho.ifcO
  have hsinkO : ∀ k, gO.ph.sinkPh (k + 1) = .idle := ho.sinkO
  cases hst : (Flatten.machine Int).step st.flat l with
  | tau s' l' =>
    obtain rfl := opStep_det hop (.tau (flatPlug_flat_tau rest hst))
    exact ⟨_, _, fam, hrO, reach_op hrF (.tau hst), ⟨⟨rfl, rfl, rfl, hc.v, hc.sink, hc.src,
        pend_cons (fun hp hod => hc.pend hp (.run l) List.mem_cons_self (flat_tau_od hst hod)) hpendTl⟩,
      ho.congr rfl rfl, hi.congr (fun _ => rfl) (fun _ => rfl), none, kI, ⟨.runF hrel, hsI, hex, nofun⟩⟩, htr⟩
  | panic m => cases (Flatten.flatten_basicSafe _ (reach_op hrF (.panic hst))).2
  | ret =>
    have hrF' := reach_op hrF (.ret hst)
    cases rest with
    | nil =>
      obtain rfl := opStep_det hop (.ret (flatPlug_flat_ret_nil hst))
      exact ⟨_, _, fam, hrO, hrF', ⟨⟨rfl, rfl, rfl, by simpa using hc.v, by simpa using hc.sink, by simpa using hc.src, hpendTl⟩,
        ho.congr rfl (by simp), hi.congr (fun _ => rfl) (fun _ => by simp), none, kI,
        ⟨.turn hrel, hsI, hex, nofun⟩⟩, htr.congr rfl rfl rfl rfl⟩
    | cons c rest' =>
      obtain rfl := opStep_det hop (.tau (flatPlug_flat_ret c rest' hst))
      have hcore : Core (⟨st, .run (c :: rest') :: stk, g, tr, none⟩ : NSys So Lo Si Li)
          ⟨st.flat, kF, gF.onRetO kF.length, .retO :: trF, none⟩ :=
        ⟨rfl, rfl, rfl, hc.v, by simpa using hc.sink, hc.src, hpendTl⟩
      cases hrel with
      | @intO o l1 _ _ kO' _ _ hio h =>
        exact ⟨_, _, fam, reach_env hrO (.ret (legalRet_internal1 _ _ hio)), hrF', ⟨hcore, ⟨ho.stO, rfl, by simpa using hifcO, hsinkO⟩,
          hi.congr (fun _ => rfl) (fun _ => by simp), none, kI, ⟨.runO h, hsI, hex, nofun⟩⟩,
          htr.congr rfl rfl rfl rfl⟩
      | @intI j o l1 _ _ _ kI' _ hio h =>
        obtain ⟨⟨a, sI⟩, hfj⟩ := Option.isSome_iff_exists.1 (hex (j, .wait o l1) List.mem_cons_self)
        obtain ⟨stI, kIj, gI, trI, pI⟩ := sI
        obtain rfl : pI = none := hi.pI j a _ hfj
        obtain rfl : kIj = .wait o l1 :: proj j kI' := by
          have := hsI j a _ hfj; simp only at this; rw [this, istack_none, proj_cons_same]
        obtain ⟨j0, rfl⟩ := hi.pos hfj
        have hrI := reach_env (hi.rI _ a _ hfj) (.ret (legalRet_internal1 _ _ hio))
        have hstj := hi.st_of hfj
        have hifc := hi.ifc_of hfj
        have hsk := hi.sinkI _ a _ hfj
        have halive := hi.alive _ a _ hfj
        refine ⟨_, _, fam.upd (j0 + 1) (a, ⟨stI, .run l1 :: proj (j0 + 1) kI', gI, .retE :: trI, none⟩), hrO, hrF',
          ⟨hcore, ho.congr rfl (by simp), ?_, some (j0 + 1, l1), kI',
            ⟨.runI h, ?_, fun p hp => isSome_upd (hex p (List.mem_cons_of_mem _ hp)), fun j' l0 h => by cases h; simp⟩⟩,
          (htr.upd j0 a _ _ hfj (by rfl)).congr rfl rfl rfl rfl⟩
        · exact hi.upd j0 a _ hstj (fun _ _ => rfl) rfl hrI (by simpa using hifc) (fun i _ => by simp) hsk halive
        · refine stkI_upd hsI _ a _ (istack_some_same _ _ _).symm ?_
          intro j' hj'
          rw [istack_some_ne hj', istack_none, proj_cons_ne (Ne.symm hj')]
  | call o s' l' =>
    have hrF' := reach_op hrF (.call hst)
    have hv := (Flatten.flatten_basicSafe _ hrF').1
    simp only [onOut_ph] at hv
    have hpend' : ∀ o' : Out Int, st.pending = none → ∀ f ∈ (Frame.wait o' l' :: kF : List (Frame FL Int)), ¬ isOd (locOf f) :=
      fun o' => pend_cons (fun hp hod => hc.pend hp (.run l) List.mem_cons_self (flat_call_od hst hod)) hpendTl
    have ext : SinkSide o → ∃ sO' sF' fam', SReach Mo sO' ∧ SReach (Flatten.machine Int) sF' ∧ MatchF Mi initOf b sO' sF' fam' ∧
        TrF b.st.pending b.tr sO'.tr sF'.tr fam' := fun hos => by
      obtain rfl := opStep_det hop (.call (flatPlug_flat_ext rest hos hst))
      obtain ⟨hv', hsink', hsrc', hsrcF, hev⟩ :=
        onOut_ext hos hc.v hc.sink hc.src hv (flatPlug Mo Mi initOf).shape (Flatten.machine Int).shape
      exact ⟨_, _, fam, hrO, hrF', ⟨⟨rfl, rfl, rfl, hv', hsink', hsrc', hpend' _⟩, ho.congr rfl (hsrcF 0),
        hi.congr (fun _ => rfl) (fun j => hsrcF _), none, kI, ⟨.turn (.ext hos hrel), hsI, hex, nofun⟩⟩, htr.ext _ hev⟩
    cases o with
    | subSrc i =>
      cases i with
      | zero =>
        obtain rfl := opStep_det hop (.tau (flatPlug_flat_subO rest hst))
        obtain ⟨c, hcc, hl, hk0, hph⟩ := source_receive H.upO hrO hsinkO hrel.flat_kO hifcO hv (.inl ⟨rfl, rfl⟩)
        obtain rfl := hk0 rfl
        obtain ⟨hifc', hoth, hsk, hsinkO', _⟩ := hph (Flatten.machine Int).shape 0
        exact ⟨_, _, fam, reach_env hrO (.call (.subscribe 0) hcc hl), hrF',
          ⟨⟨rfl, rfl, rfl, hc.v, fun k => (hc.sink k).trans (hsk k).symm, hc.src, hpend' _⟩, ⟨ho.stO, rfl, hifc', hsinkO'⟩,
            hi.congr (fun _ => rfl) (fun j => hoth _ (Nat.succ_ne_zero j)), none, kI, ⟨.runO (.subO hrel), hsI, hex, nofun⟩⟩,
          htr.src0 (.sub 0) (.subscribe 0) rfl rfl rfl rfl rfl rfl rfl⟩
      | succ j0 =>
        -- flatten is at `od1`: the datum of the delivery in progress becomes inner source `j0 + 1`
        obtain ⟨a, hpa⟩ : ∃ a, st.pending = some a := by
          cases hp : st.pending with
          | none => exact absurd (flat_subI_od hst) (hc.pend hp (.run l) List.mem_cons_self)
          | some a => exact ⟨a, rfl⟩
        obtain rfl := opStep_det hop (.tau (flatPlug_flat_subI rest hst hpa))
        have hidle2 := (Ph.onOut_subSrc_ok _ _ hv).1
        have hnone : fam (j0 + 1) = none := by
          cases hf : fam (j0 + 1) with
          | none => rfl
          | some p =>
            have := hi.ifc_of (sI := p.2) hf
            simp only at this
            rw [hidle2] at this
            exact absurd (toSrc_idle.1 this.symm) (hi.alive _ p.1 p.2 hf)
        have hproj : proj (j0 + 1) kI = [] := proj_eq_nil hex hnone
        have hborn : (sentS 0 (srcEvs trF))[j0]? = some a := by
          have hp := htr.pend
          rw [hpa, List.getLast?_eq_getElem?, flatten_numbered hrF hst] at hp
          simpa using hp.symm
        -- the new inner source: nothing has happened to it
        obtain ⟨c, hcc, hl, _, hph⟩ := source_receive (H.upI a) (SReachR.init (R := anyEnv)) (fun _ => rfl) (.inl rfl)
          (gN := gF) (i := j0 + 1) hidle2 hv (.inl ⟨rfl, rfl⟩)
        obtain ⟨hifc', hoth, hsk, hsinkI', halive'⟩ := hph (Flatten.machine Int).shape 0
        refine ⟨_, _, fam.upd (j0 + 1) (a, ⟨initOf a, [.run ((atInit Mi (initOf a)).enter (.subscribe 0))],
            ({} : G).onIn 0 (.subscribe 0 : In αi), [.inp (.subscribe 0)], none⟩), hrO, hrF',
          ⟨⟨rfl, rfl, rfl, hc.v, fun k => (hc.sink k).trans (hsk k).symm, hc.src, fun hp => nomatch hpa.symm.trans hp⟩,
            ho.congr rfl (hoth 0 (Nat.succ_ne_zero j0).symm),
            hi.upd j0 a _ (innerSt_setInner_same _ _ _) (fun j' hj' => by rw [innerSt_setInner_ne _ hj']; rfl) rfl
              (reach_env .init (.call (.subscribe 0) hcc hl)) hifc' (fun i hi' => hoth _ (by omega)) hsinkI' halive',
            some (j0 + 1, Mi.enter (.subscribe 0)), kI,
            ⟨.runI (.subI hproj hrel), ?_, fun p hp => isSome_upd (hex p hp), fun j' l0 h => by cases h; simp⟩⟩,
          htr.srcJ j0 a _ (.sub (j0 + 1)) (.subscribe 0) rfl rfl (by rw [hnone]; rfl) hborn rfl rfl rfl⟩
        refine stkI_upd hsI _ a _ (by rw [istack_some_same, hproj]; rfl) ?_
        intro j' hj'
        rw [istack_some_ne hj', istack_none]
    | srcUp i u =>
      cases i with
      | zero =>
        obtain rfl := opStep_det hop (.tau (flatPlug_flat_upO rest hst))
        obtain ⟨c, hcc, hl, _, hph⟩ := source_receive H.upO hrO hsinkO hrel.flat_kO hifcO hv (.inr ⟨u, rfl, rfl⟩)
        obtain ⟨hifc', hoth, hsk, hsinkO', _⟩ := hph (Flatten.machine Int).shape kO.length
        exact ⟨_, _, fam, reach_env hrO (.call (.sinkUp 0 u) hcc hl), hrF',
          ⟨⟨rfl, rfl, rfl, hc.v, fun k => (hc.sink k).trans (hsk k).symm, hc.src, hpend' _⟩, ⟨ho.stO, rfl, hifc', hsinkO'⟩,
            hi.congr (fun _ => rfl) (fun j => hoth _ (Nat.succ_ne_zero j)), none, kI, ⟨.runO (.upO hrel), hsI, hex, nofun⟩⟩,
          htr.src0 (.up 0 u) (.up 0 u) rfl rfl rfl rfl rfl rfl rfl⟩
      | succ j0 =>
        obtain rfl := opStep_det hop (.tau (flatPlug_flat_upI rest hst))
        cases hf : fam (j0 + 1) with
        | none => have := hi.ifcI j0; rw [hf, (Ph.onOut_srcUp_ok _ _ _ hv).1] at this; cases this
        | some p =>
          obtain ⟨a, stI, kIj, gI, trI, pI⟩ := p
          obtain rfl : pI = none := hi.pI _ a _ hf
          obtain rfl : kIj = proj (j0 + 1) kI := hsI _ a _ hf
          have hrI := hi.rI _ a _ hf
          have hstj := hi.st_of hf
          obtain ⟨c, hcc, hl, _, hph⟩ := source_receive (H.upI a) hrI (hi.sinkI _ a _ hf) (proj_head (j0 + 1) hrel.turnsF.2.2)
            (hi.ifc_of hf) hv (.inr ⟨u, rfl, rfl⟩)
          obtain ⟨hifc', hoth, hsk, hsinkI', halive'⟩ := hph (Flatten.machine Int).shape (proj (j0 + 1) kI).length
          refine ⟨_, _, fam.upd (j0 + 1) (a, ⟨stI, .run ((atInit Mi (initOf a)).enter (.sinkUp 0 u)) :: proj (j0 + 1) kI,
              gI.onIn (proj (j0 + 1) kI).length (.sinkUp 0 u : In αi), .inp (.sinkUp 0 u) :: trI, none⟩), hrO, hrF',
            ⟨⟨rfl, rfl, rfl, hc.v, fun k => (hc.sink k).trans (hsk k).symm, hc.src, hpend' _⟩,
              ho.congr rfl (hoth 0 (Nat.succ_ne_zero j0).symm),
              hi.upd j0 a _ hstj (fun _ _ => rfl) rfl (reach_env hrI (.call (.sinkUp 0 u) hcc hl)) hifc'
                (fun i hi' => hoth _ (by omega)) hsinkI' halive',
              some (j0 + 1, Mi.enter (.sinkUp 0 u)), kI,
              ⟨.runI (.upI hrel), ?_, fun p hp => isSome_upd (hex p hp), fun j' l0 h => by cases h; simp⟩⟩,
            htr.srcJ j0 a _ (.up (j0 + 1) u) (.up 0 u) rfl rfl (by rw [hf]; rfl) (htr.born j0 a _ hf) rfl rfl rfl⟩
          refine stkI_upd hsI _ a _ (by rw [istack_some_same]; rfl) ?_
          intro j' hj'
          rw [istack_some_ne hj', istack_none]
    | greet k => exact ext trivial
    | down k d => exact ext trivial
    | app b' => exact ext trivial

theorem step_env {a b : NSys So Lo Si Li} {sO : Sys So Lo αo Int} {sF : FSys} {fam : Fam Si Li αi} {m : Move Int}
    (hrO : SReach Mo sO) (hrF : SReach (Flatten.machine Int) sF) (hm : MatchF Mi initOf a sO sF fam)
    (he : EnvStep (flatPlug Mo Mi initOf) m a b) (htr : TrF a.st.pending a.tr sO.tr sF.tr fam) :
    ∃ sO' sF' fam', SReach Mo sO' ∧ SReach (Flatten.machine Int) sF' ∧ MatchF Mi initOf b sO' sF' fam' ∧
      TrF b.st.pending b.tr sO'.tr sF'.tr fam' := by
  obtain ⟨stO, kO, gO, trO, pO⟩ := sO
  obtain ⟨stF, kF, gF, trF, pF⟩ := sF
  obtain ⟨hc, ho, hi, topI, kI, hsm, hsI, hex, hexT⟩ := hm
  obtain rfl : pO = none := ho.pO
  obtain rfl : pF = none := hc.pF
  cases he with
  | @call st stk g tr c i hc' hl =>
    simp only at hsm
    cases hsm with
    | runO h => cases hc'
    | runI h => cases hc'
    | runF h => cases hc'
    | turn hrel =>
      obtain ⟨hl2, hv', hsink', hsrc', hsrcF, hev, hnd⟩ :=
        onIn_ext (shF := (Flatten.machine Int).shape) id hc.v hc.sink hc.src hl stk.length kF.length
      rw [flatPlug_enter]
      exact ⟨_, _, fam, hrO, reach_env hrF (.call i (hrel.ctx.trans hc') hl2),
        ⟨⟨hc.stF, rfl, rfl, hv', hsink', hsrc', pend_enter i hnd hc.pend⟩, ho.congr rfl (hsrcF 0),
          hi.congr (fun _ => rfl) (fun j => hsrcF _), none, kI, ⟨.runF hrel, hsI, hex, nofun⟩⟩, htr.ext _ hev⟩
  | @ret st stk g tr o l hl =>
    simp only at hsm
    cases hsm with
    | turn hrel =>
      cases hrel with
      | ext hos h =>
        exact ⟨_, _, fam, hrO, reach_env hrF (.ret (legalRet_sinkSide _ _ hos)),
          ⟨⟨hc.stF, rfl, rfl, hc.v, hc.sink, hc.src, pend_resume hc.pend⟩,
          ho.congr rfl rfl, hi.congr (fun _ => rfl) (fun _ => rfl), none, kI, ⟨.runF h, hsI, hex, nofun⟩⟩, htr.ext _ rfl⟩

end Steps

end FlatPlugSafe

namespace FlatPlugFun
open FlatPlugSafe

section Steps
variable {So Lo Si Li αo αi : Type} {Mo : Machine So Lo αo Int} {Mi : Machine Si Li αi Int} {initOf : Int → Si}

theorem flatPlug_inv_tr (H : HypF Mo Mi initOf) :
    ∀ s, SReach (flatPlug Mo Mi initOf) s →
      ∃ sO sF fam, SReach Mo sO ∧ SReach (Flatten.machine Int) sF ∧ MatchF Mi initOf s sO sF fam ∧ TrF s.st.pending s.tr sO.tr sF.tr fam := by
  intro s hs
  induction hs with
  | init =>
    exact ⟨Sys.init Mo, Sys.init (Flatten.machine Int), fun _ => none, .init, .init,
      ⟨⟨rfl, rfl, rfl, rfl, fun k => (by simp [Sys.init]), fun i => (by simp [Sys.init]), fun _ f hf => (by simp [Sys.init] at hf)⟩,
       ⟨rfl, rfl, (by simp [Sys.init, toSrc]), fun k => (by simp [Sys.init])⟩,
       ⟨fun j => (by simp [Sys.init, flatPlug, FPSt.innerSt]), fun j a sI h => (by cases h), fun j a sI h => (by cases h),
        fun j => (by simp [Sys.init]), fun j a sI h => (by cases h), rfl, fun j a sI h => (by cases h)⟩,
       none, [], ⟨.turn .nil, fun j a sI h => (by cases h), fun p hp => (by cases hp), fun j l h => (by cases h)⟩⟩,
      ⟨rfl, rfl, fun j => rfl, rfl, fun j a sI h => (by cases h)⟩⟩
  | @step a b ha hab ih =>
    obtain ⟨sO, sF, fam, hrO, hrF, hm, htr⟩ := ih
    cases hab with
    | env he _ => exact step_env hrO hrF hm he htr
    | op hop =>
      obtain ⟨st, stk, g, tr, p⟩ := a
      obtain ⟨stO, kO, gO, trO, pO⟩ := sO
      obtain ⟨stF, kF, gF, trF, pF⟩ := sF
      obtain ⟨hc, ho, hi, topI, kI, hsm, hsI, hex, hexT⟩ := hm
      have hp : p = none := hc.p
      have hpO : pO = none := ho.pO
      have hpF : pF = none := hc.pF
      subst hp hpO hpF
      simp only at hsm
      cases hsm with
      | turn hrel =>
        have hturn : (ctxOf stk).isSome = true := by cases hrel <;> simp [ctxOf]
        have := opStep_none_of_envTurn (M := flatPlug Mo Mi initOf) (s := ⟨st, stk, g, tr, none⟩) ⟨rfl, hturn⟩
        rw [this] at hop; cases hop
      | runO hrel => exact step_outer H hrO hrF hrel hc ho hi hsI hex hop htr
      | runF hrel => exact step_flat H hrO hrF hrel hc ho hi hsI hex hop htr
      | @runI j l cfs _ _ _ _ hrel =>
        obtain ⟨⟨a, sI⟩, hfj⟩ := Option.isSome_iff_exists.1 (hexT j l rfl)
        obtain ⟨stI, kIj, gI, trI, pI⟩ := sI
        have hpI : pI = none := hi.pI j a _ hfj
        subst hpI
        have hk : kIj = .run l :: proj j kI := by have := hsI j a _ hfj; simpa [istack_some_same] using this
        subst hk
        exact step_inner H hrO hrF hrel hc ho hi hfj hsI hex hop htr

end Steps

end FlatPlugFun

namespace FlatPlugSafe

section Consequences
variable {So Lo Si Li αo αi : Type} {Mo : Machine So Lo αo Int} {Mi : Machine Si Li αi Int} {initOf : Int → Si}

theorem flatPlug_inv (H : HypF Mo Mi initOf) :
    ∀ s, SReach (flatPlug Mo Mi initOf) s →
      ∃ sO sF fam, SReach Mo sO ∧ SReach (Flatten.machine Int) sF ∧ MatchF Mi initOf s sO sF fam := by
  intro s hs
  obtain ⟨sO, sF, fam, hrO, hrF, hm, _⟩ := FlatPlugFun.flatPlug_inv_tr H s hs
  exact ⟨sO, sF, fam, hrO, hrF, hm⟩

/-- **phase-level safety of the network** (C01–C03, protocol part of C04, C17) -/
theorem flatPlug_basicSafe (H : HypF Mo Mi initOf) : ∀ s, SReach (flatPlug Mo Mi initOf) s → BasicSafe s := by
  intro s hs
  obtain ⟨sO, sF, fam, _, _, hm⟩ := flatPlug_inv H s hs
  exact ⟨hm.core.v, hm.core.p⟩

theorem flatPlug_noUpstream (H : HypF Mo Mi initOf) : ComposeFull.NoUpstream (flatPlug Mo Mi initOf) := by
  intro s hs i
  obtain ⟨sO, sF, fam, _, _, hm⟩ := flatPlug_inv H s hs
  exact hm.core.src i

/-- only a `flat` frame steps to a call, and it relays flatten's -/
theorem flatPlug_noApp : ∀ st l b st' l', (flatPlug Mo Mi initOf).step st l ≠ .call (.app b) st' l' := by
  intro st l b st' l' h
  obtain ⟨_, _, _, _, _, hf, _⟩ := (flatPlug_step_inv (Mo := Mo) (Mi := Mi) initOf st l).call h
  exact Flatten.upSide.noApp _ _ _ _ _ hf

theorem flatPlug_upSide (H : HypF Mo Mi initOf) : UpSide (flatPlug Mo Mi initOf) := by
  refine ⟨flatPlug_noApp, ?_, flatPlug_basicSafe H⟩
  intro s hs hstk
  obtain ⟨sO, sF, fam, _, hrF, hm⟩ := flatPlug_inv H s hs
  obtain ⟨topI, kI, hsm, _, _, _⟩ := hm.stk
  rw [hm.core.sink 0]
  apply Flatten.upSide.sync sF hrF
  obtain ⟨st, stk, g, tr, p⟩ := s
  obtain ⟨stF, kF, gF, trF, pF⟩ := sF
  obtain ⟨stO, kO, gO, trO, pO⟩ := sO
  simp only at hstk hsm ⊢
  subst hstk
  cases hsm with
  | turn hrel => cases hrel; rfl

/-- fully safe (C01–C05, C17): it has no external upstream -/
theorem flatPlug_safe (H : HypF Mo Mi initOf) :
    ∀ s, SReach (flatPlug Mo Mi initOf) s → Safe s ∧ SafeFor 4 s ∧ SafeFor 5 s :=
  fun s hs => ComposeFull.full_of_safe
    (ComposeFull.safe_of_noUpstream (flatPlug_noUpstream H) (flatPlug_basicSafe H) s hs)

/-- `pipe!(flatten(map(g)(outer)), stage₁, …, stageₙ, for_each(f))`: fully safe -/
theorem flatPlug_closed_full {S L : Type} {Mmid : Machine S L Int Int} (H : HypF Mo Mi initOf) (hmid : Pipeable Mmid) :
    ∀ s, SReach (compose (compose (flatPlug Mo Mi initOf) Mmid) (ForEach.machine Int)) s → Safe s ∧ SafeFor 4 s ∧ SafeFor 5 s :=
  ComposeFull.closed_pipeline_full (flatPlug_upSide H) hmid

end Consequences

end FlatPlugSafe
end Cb

#print axioms Cb.FlatPlugFun.flatPlug_inv_tr
#print axioms Cb.FlatPlugSafe.flatPlug_inv
#print axioms Cb.FlatPlugSafe.flatPlug_basicSafe
#print axioms Cb.FlatPlugSafe.flatPlug_upSide
#print axioms Cb.FlatPlugSafe.flatPlug_noUpstream
#print axioms Cb.FlatPlugSafe.flatPlug_safe
#print axioms Cb.FlatPlugSafe.flatPlug_closed_full
