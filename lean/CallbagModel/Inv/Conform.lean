import CallbagModel.Sem
import CallbagModel.Inv.Ghost
/-!
# Conformance: what holds of EVERY machine under EVERY conformant environment

In an assume–guarantee projection (`Inv/WireSafe.lean` for `compose`, `plug`, `plugOp`; `Inv/FlatPlugSafe.lean` for `flatPlug`) a call
across an internal boundary is an operator step of the caller and must be shown to be a LEGAL environment call on the callee.  What
is known is that the caller's monitor recorded no violation, i.e. the PHASES at the boundary; what `legalIn` asks about is the callee's
CONTEXT, i.e. its stack.  The facts here connect the two.  None of them mentions a combinator: the invariants are invariants of `SReach M` for
an arbitrary `M`, shown by induction over the small steps from what `legalIn` and `legalRet` allow the environment to do; with them stand
the lemmas about phases alone that the projections use (`toSrc_*`, `NotPre.*`, `onOut_sinkSide_eq`, `legalRet_*`).

The definitions are in the namespaces in which `Inv/ComposeSafe.lean`, `Inv/PlugSafe.lean` and `Inv/LateMember.lean` state their theorems
(`ComposeSafe.toSrc`, `PlugSafe.NotPre`, `LateMember.Open2`).
-/
namespace Cb
namespace ComposeSafe

section Generic
variable {St Loc α β : Type}

@[simp] theorem sinkPh_flag (g : Ph) (v : Viol) (k : Nat) : (g.flag v).sinkPh k = g.sinkPh k := rfl
@[simp] theorem srcPh_flag (g : Ph) (v : Viol) (k : Nat) : (g.flag v).srcPh k = g.srcPh k := rfl

theorem subscribed_top (M : Machine St Loc α β) (hlg : M.shape.lateGreet = false) {s : Sys St Loc α β} (h : SReach M s) :
    ∀ i, s.g.ph.srcPh i = .subscribed → ∃ l r, s.stack = .wait (.subSrc i) l :: r := by
  revert s
  apply reach_ind
  · intro i hi; simp [Sys.init] at hi
  · intro a b ha ih hop
    cases hop with
    | tau hst => intro i hi; obtain ⟨_, _, he⟩ := ih i hi; simp at he
    | @call st l stk g tr o s' l' hst =>
      intro i hi
      simp only [onOut_ph] at hi
      rcases onOut_srcPh_subscribed _ _ _ hi with h1 | h1
      · obtain ⟨_, _, he⟩ := ih i h1; simp at he
      · subst h1; exact ⟨_, _, rfl⟩
    | ret hst => intro i hi; simp only [onRetO_ph] at hi; obtain ⟨_, _, he⟩ := ih i hi; simp at he
    | panic hst => intro i hi; obtain ⟨_, _, he⟩ := ih i hi; simp at he
  · intro a b m ha ih henv
    cases henv with
    | @call st stk g tr c m hc hl =>
      intro i hi
      exfalso
      simp only [onIn_ph] at hi
      -- no call makes an upstream `subscribed`: it was before, so the call comes inside `subSrc i`
      rcases g.ph.onIn_srcPh m i with h' | ⟨_, h'⟩ | ⟨_, _, h'⟩
      rotate_left
      · rw [hi] at h'; cases h'
      · rw [hi] at h'; cases h'
      have hi0 := h' ▸ hi
      obtain ⟨l, r, he⟩ := ih i hi0
      simp only at he
      subst he
      cases hc
      exact legalIn_inSub hl hi0 hi
    | @ret st stk g tr o l hl =>
      intro i hi
      obtain ⟨l', r, he⟩ := ih i hi
      simp at he
      obtain ⟨⟨rfl, _⟩, _⟩ := he
      simp [legalRet, hlg, hi] at hl

theorem idle_empty (M : Machine St Loc α β) {s : Sys St Loc α β} (h : SReach M s) :
    (∀ k, s.g.ph.sinkPh k = .idle) → s.stack = [] ∧ ∀ i, s.g.ph.srcPh i = .idle := by
  revert s
  apply reach_ind
  · intro _; exact ⟨rfl, fun i => by simp [Sys.init]⟩
  · intro a b ha ih hop
    cases hop with
    | tau hst => intro hk; have := (ih hk).1; simp at this
    | @call st l stk g tr o s' l' hst =>
      intro hk
      have := (ih (fun k => onOut_sinkPh_idle _ _ _ (by simpa using hk k))).1
      simp at this
    | ret hst => intro hk; have := (ih (by simpa using hk)).1; simp at this
    | panic hst => intro hk; have := (ih hk).1; simp at this
  · intro a b m ha ih henv
    cases henv with
    | @call st stk g tr c m hc hl =>
      intro hk
      exfalso
      simp only [onIn_ph] at hk
      have hk' : ∀ k, g.ph.sinkPh k = .idle := fun k => by
        rcases g.ph.onIn_sinkPh m k with h | ⟨_, h⟩ | ⟨_, _, h⟩
        · exact h ▸ hk k
        · rw [hk k] at h; cases h
        · rw [hk k] at h; cases h
      have hsrc := (ih hk').2
      cases m with
      | subscribe k => have := hk k; simp [Ph.onIn] at this
      | sinkUp k u => have := (legalIn_sinkUp.1 hl).1; rw [hk' k] at this; cases this
      | srcGreet j => have := (legalIn_srcGreet.1 hl).1; rw [hsrc j] at this; cases this
      | srcDown j d => have := (legalIn_srcDown.1 hl).1; rw [hsrc j] at this; cases this
    | @ret st stk g tr o l hl =>
      intro hk; have := (ih hk).1; simp at this

/-- every step starts from or ends in a configuration with a non-empty stack -/
theorem idle_tr (M : Machine St Loc α β) : ∀ s, SReach M s → (∀ k, s.g.ph.sinkPh k = .idle) → s.tr = [] := by
  refine reach_ind M _ (fun _ => rfl) (fun a b ha _ h hk => ?_) (fun a b m ha _ h hk => ?_)
  · have hb := (idle_empty M (reach_op ha h) hk).1
    cases h with
    | tau _ | call _ => cases hb
    | ret _ => exact nomatch (idle_empty M ha (by simpa using hk)).1
    | panic _ => exact nomatch (idle_empty M ha hk).1
  · have hb := (idle_empty M (reach_env ha h) hk).1
    cases h <;> cases hb

/-- a fact about the phases that a call `o` establishes and no later move destroys holds for as long as the frame of that call is
on the stack -/
theorem wait_inv (M : Machine St Loc α β) (Q : Out β → Ph → Prop)
    (hcall : ∀ (g : Ph) o, (g.onOut o).viols = [] → Q o (g.onOut o))
    (hout : ∀ (g : Ph) o (o' : Out β), Q o g → Q o (g.onOut o'))
    (hin : ∀ (g : Ph) (c : Ctx β) (m : In α) o, legalIn M.shape g c m = true → Q o g → Q o (g.onIn m))
    {s : Sys St Loc α β} (h : SReach M s) : s.g.ph.viols = [] → ∀ o l, Frame.wait o l ∈ s.stack → Q o s.g.ph := by
  revert s
  apply reach_ind
  · intro _ o l hm; cases hm
  · intro a b ha ih hop
    cases hop with
    | tau hst => intro hv o l hm; exact ih hv o l (by simpa using hm)
    | @call st l stk g tr o s' l' hst =>
      intro hv o0 l0 hm
      simp only [onOut_ph] at hv ⊢
      rcases List.mem_cons.1 hm with hm | hm
      · cases hm; exact hcall _ _ hv
      · exact hout _ _ _ (ih (Ph.viols_nil_of_onOut hv) o0 l0 (List.mem_cons_of_mem _ hm))
    | ret hst => intro hv o l hm; simp only [onRetO_ph] at hv ⊢; exact ih hv o l (List.mem_cons_of_mem _ hm)
    | panic hst => intro hv o l hm; exact ih hv o l (List.mem_cons_of_mem _ hm)
  · intro a b m ha ih henv
    cases henv with
    | @call st stk g tr c m hc hl =>
      intro hv o l hm
      simp only [onIn_ph, Ph.onIn_viols] at hv ⊢
      exact hin _ _ _ _ hl (ih hv o l (by simpa using hm))
    | @ret st stk g tr o l hl =>
      intro hv o0 l0 hm
      rcases List.mem_cons.1 hm with hm | hm
      · cases hm
      · exact ih hv o0 l0 (List.mem_cons_of_mem _ hm)

theorem wait_srcUp_disposed (M : Machine St Loc α β) {s : Sys St Loc α β} (h : SReach M s) :
    s.g.ph.viols = [] → ∀ i u l, Frame.wait (.srcUp i u) l ∈ s.stack → u ≠ .pull → s.g.ph.srcPh i = .disposed :=
  fun hv i u l hm hu =>
    wait_inv M (fun o g => ∀ i u, o = .srcUp i u → u ≠ .pull → g.srcPh i = .disposed)
      (by rintro g _ hv i u rfl hu; rw [(Ph.onOut_srcUp_ok _ _ _ hv).2]; cases u <;> simp [Ph.afterUp] at hu ⊢)
      (fun _ _ _ hq i u ho hu => onOut_srcPh_disposed _ _ _ (hq i u ho hu))
      (fun _ _ _ _ hl hq i u ho hu => onIn_srcPh_disposed _ _ _ _ _ hl (hq i u ho hu)) h hv _ l hm i u rfl hu

theorem wait_down_done (M : Machine St Loc α β) {s : Sys St Loc α β} (h : SReach M s) :
    s.g.ph.viols = [] → ∀ k d l, Frame.wait (.down k d) l ∈ s.stack → isFinal d = true → s.g.ph.sinkPh k = .doneBySrc :=
  fun hv k d l hm hd =>
    wait_inv M (fun o g => ∀ k d, o = .down k d → isFinal d = true → g.sinkPh k = .doneBySrc)
      (by rintro g _ hv k d rfl hd; rw [(Ph.onOut_down_ok _ _ _ hv).2]; simp [hd])
      (fun _ _ _ hq k d ho hd => onOut_sinkPh_doneBySrc _ _ _ (hq k d ho hd))
      (fun _ _ _ _ hl hq k d ho hd => onIn_sinkPh_doneBySrc _ _ _ _ _ hl (hq k d ho hd)) h hv _ l hm k d rfl hd

end Generic

section Proj
variable {S1 L1 S2 L2 α β γ : Type}

inductive Side where | lo | hi

/-- `M₁`'s calls into `M₂` -/
def Internal1 {β : Type} : Out β → Prop
  | .greet 0 => True
  | .down 0 _ => True
  | _ => False

/-- `M₂`'s calls to the external sinks -/
def SinkSide {γ : Type} : Out γ → Prop
  | .greet _ => True
  | .down _ _ => True
  | .app _ => True
  | _ => False

/-- the interface: `M₂` seen as `M₁`'s sink 0 and `M₁` seen as `M₂`'s upstream 0 are in corresponding phases -/
def toSrc : SinkPh → SrcPh
  | .idle => .idle | .subscribed => .subscribed | .live => .live | .doneBySrc => .ended | .doneBySelf => .disposed

theorem toSrc_live {p : SinkPh} : toSrc p = .live ↔ p = .live := by cases p <;> simp [toSrc]
theorem toSrc_idle {p : SinkPh} : toSrc p = .idle ↔ p = .idle := by cases p <;> simp [toSrc]
theorem toSrc_subscribed {p : SinkPh} : toSrc p = .subscribed ↔ p = .subscribed := by cases p <;> simp [toSrc]
theorem toSrc_ended {p : SinkPh} : toSrc p = .ended ↔ p = .doneBySrc := by cases p <;> simp [toSrc]

theorem slot_open_of {g1 g2 : Ph} {j : Nat} (hs1 : ∀ k, g1.sinkPh (k + 1) = .idle) (hifc : g2.srcPh j = toSrc (g1.sinkPh 0))
    (h1 : g1.anySinkOpen = true) : g2.srcPh j = .subscribed ∨ g2.srcPh j = .live := by
  obtain ⟨k, hk⟩ := (Ph.anySinkOpen_iff _).1 h1
  cases k with
  | succ k => rw [hs1 k] at hk; rcases hk with hk | hk <;> cases hk
  | zero => rw [hifc]; rcases hk with hk | hk <;> rw [hk] <;> simp [toSrc]

theorem anySinkOpen_of_sink {g g2 : Ph} (hs : ∀ k, g.sinkPh k = g2.sinkPh k) (h2 : g2.anySinkOpen = true) : g.anySinkOpen = true := by
  obtain ⟨k, hk⟩ := (Ph.anySinkOpen_iff _).1 h2
  exact (Ph.anySinkOpen_iff _).2 ⟨k, by rw [hs k]; exact hk⟩

theorem onOut_down_eq {β : Type} {g : Ph} {k : Nat} (d : Down β) (h : g.sinkPh k = .live) :
    g.onOut (.down k d) = if isFinal d then g.setSink k .doneBySrc else g := Ph.onOut_of_accepts (o := .down k d) h
theorem onOut_srcUp_eq {β : Type} {g : Ph} {i : Nat} (u : Up) (h : g.srcPh i = .live) :
    g.onOut (.srcUp i u : Out β) = Ph.afterUp g i u := Ph.onOut_of_accepts (o := .srcUp i u) h

theorem onOut_sinkSide_eq {γ : Type} {g g2 : Ph} {o : Out γ} (ho : SinkSide o) (hsink : ∀ k, g.sinkPh k = g2.sinkPh k)
    (hv : (g2.onOut o).viols = []) :
    (g.onOut o = g ∧ g2.onOut o = g2) ∨ ∃ k p, g.onOut o = g.setSink k p ∧ g2.onOut o = g2.setSink k p := by
  cases o with
  | greet k =>
    obtain ⟨hsub, heq⟩ := Ph.onOut_greet_ok _ _ hv
    exact .inr ⟨k, .live, Ph.onOut_greet ((hsink k).trans hsub), heq⟩
  | down k d =>
    obtain ⟨hlive, heq⟩ := Ph.onOut_down_ok _ _ _ hv
    rw [heq, onOut_down_eq d ((hsink k).trans hlive)]
    cases isFinal d with
    | true => exact .inr ⟨k, .doneBySrc, by simp, by simp⟩
    | false => exact .inl ⟨by simp, by simp⟩
  | app b => exact .inl ⟨rfl, rfl⟩
  | subSrc i => cases ho
  | srcUp i u => cases ho

theorem legal_sinkUp_of {St Loc : Type} (M : Machine St Loc α β) {st k g tr} (hr : SReach M ⟨st, k, g, tr, none⟩)
    (hv : g.ph.viols = []) (hk : k = [] ∨ ∃ o l r, k = .wait o l :: r ∧ Internal1 o) (hlive : g.ph.sinkPh 0 = .live) (u : Up) :
    ∃ c, ctxOf k = some c ∧ legalIn M.shape g.ph c (.sinkUp 0 u : In α) = true := by
  rcases hk with rfl | ⟨o, l, r, rfl, ho⟩
  · exact ⟨_, rfl, legalIn_sinkUp.2 ⟨hlive, .inl (.inl rfl)⟩⟩
  · refine ⟨_, rfl, legalIn_sinkUp.2 ⟨hlive, ?_⟩⟩
    cases o with
    | greet n => cases n <;> first | exact .inl (.inr rfl) | cases ho
    | down n d =>
      cases n with
      | succ n => cases ho
      | zero =>
        cases hd : isFinal d with
        | false => cases d <;> first | exact .inr rfl | cases hd
        | true => cases hlive.symm.trans (wait_down_done M hr hv 0 d l List.mem_cons_self hd)
    | _ => cases ho

theorem legal_srcDown_of {St Loc : Type} (M : Machine St Loc α β) {st k g tr} (hr : SReach M ⟨st, k, g, tr, none⟩)
    (hv : g.ph.viols = []) (j : Nat)
    (hk : k = [] ∨ (∃ l r, k = .wait (.subSrc j) l :: r) ∨ ∃ u l r, k = .wait (.srcUp j u) l :: r)
    (hlive : g.ph.srcPh j = .live) (d : Down α) : ∃ c, ctxOf k = some c ∧ legalIn M.shape g.ph c (.srcDown j d) = true := by
  rcases hk with rfl | ⟨l, r, rfl⟩ | ⟨u, l, r, rfl⟩
  · exact ⟨_, rfl, legalIn_srcDown.2 ⟨hlive, .inl (.inl rfl)⟩⟩
  · exact ⟨_, rfl, legalIn_srcDown.2 ⟨hlive, .inl (.inr (beq_self_eq_true j))⟩⟩
  · refine ⟨_, rfl, legalIn_srcDown.2 ⟨hlive, .inr ?_⟩⟩
    by_cases hu : u = .pull
    · subst hu; exact beq_self_eq_true j
    · cases hlive.symm.trans (wait_srcUp_disposed M hr hv j u l List.mem_cons_self hu)

/-- the greeting: an upstream that is `subscribed` may greet from inside its subscription; where late greetings are admitted, also
at top level, but never from inside a message to it (`hup`) -/
theorem legal_srcGreet_of {St Loc : Type} (M : Machine St Loc α β) {st k g tr} (hr : SReach M ⟨st, k, g, tr, none⟩) (j : Nat)
    (hk : k = [] ∨ (∃ l r, k = .wait (.subSrc j) l :: r) ∨ ∃ u l r, k = .wait (.srcUp j u) l :: r)
    (hup : M.shape.lateGreet = true → ∀ u l r, k ≠ .wait (.srcUp j u) l :: r)
    (hsub : g.ph.srcPh j = .subscribed) : ∃ c, ctxOf k = some c ∧ legalIn M.shape g.ph c (.srcGreet j : In α) = true := by
  cases hlg : M.shape.lateGreet with
  | false =>
    obtain ⟨l, r, rfl⟩ := subscribed_top M hlg hr j hsub
    exact ⟨_, rfl, legalIn_srcGreet.2 ⟨hsub, .inl (beq_self_eq_true j)⟩⟩
  | true =>
    rcases hk with rfl | ⟨l, r, rfl⟩ | ⟨u, l, r, rfl⟩
    · exact ⟨_, rfl, legalIn_srcGreet.2 ⟨hsub, .inr ⟨hlg, rfl⟩⟩⟩
    · exact ⟨_, rfl, legalIn_srcGreet.2 ⟨hsub, .inl (beq_self_eq_true j)⟩⟩
    · exact absurd rfl (hup hlg u l r)

theorem stack_nil_of_idle {St Loc : Type} (M : Machine St Loc α β) {st k g tr} (hr : SReach M ⟨st, k, g, tr, none⟩)
    (h0 : g.ph.sinkPh 0 = .idle) (hs : ∀ n, g.ph.sinkPh (n + 1) = .idle) : k = [] :=
  (idle_empty M hr (fun n => by cases n <;> first | exact h0 | exact hs _)).1

theorem legalRet_internal1 {β : Type} (sh : Shape) (g : Ph) {o : Out β} (ho : Internal1 o) :
    legalRet sh g (.inCall o) = true := by
  cases o with
  | greet k => rfl
  | down k d => rfl
  | subSrc i => cases ho
  | srcUp i u => cases ho
  | app b => cases ho

theorem legalRet_sinkSide {γ : Type} (sh : Shape) (g : Ph) {o : Out γ} (ho : SinkSide o) :
    legalRet sh g (.inCall o) = true := by
  cases o with
  | greet k => rfl
  | down k d => rfl
  | app b => rfl
  | subSrc i => cases ho
  | srcUp i u => cases ho

end Proj
end ComposeSafe

namespace PlugSafe
open ComposeSafe

/-- the sink has been greeted -/
def NotPre (p : SinkPh) : Prop := p ≠ .idle ∧ p ≠ .subscribed

theorem NotPre.onOut {β : Type} {g : Ph} {k : Nat} (h : NotPre (g.sinkPh k)) (o : Out β) : NotPre ((g.onOut o).sinkPh k) :=
  ⟨fun hi => h.1 (onOut_sinkPh_idle _ _ _ hi), fun hs => h.2 (onOut_sinkPh_subscribed _ _ _ hs)⟩

theorem NotPre.onIn {α β : Type} {sh : Shape} {g : Ph} {c : Ctx β} {m : In α} {k : Nat} (h : NotPre (g.sinkPh k))
    (hl : legalIn sh g c m = true) : NotPre ((g.onIn m).sinkPh k) := by
  rcases g.onIn_sinkPh m k with h' | ⟨rfl, _⟩ | ⟨_, _, h'⟩
  · rwa [h']
  · exact absurd (legalIn_subscribe.1 hl).1.2 h.1
  · rw [h']; exact ⟨by decide, by decide⟩

section Up
variable {L2 γ : Type} {j : Nat}

theorem up_cons {g1 : Ph} {f : Frame L2 γ} {k2 : List (Frame L2 γ)} (hf : ∀ u l, f ≠ Frame.wait (Out.srcUp j u) l)
    (h : ∀ u l, Frame.wait (Out.srcUp j u) l ∈ k2 → NotPre (g1.sinkPh 0)) :
    ∀ u l, Frame.wait (Out.srcUp j u) l ∈ f :: k2 → NotPre (g1.sinkPh 0) := fun u l hm =>
  (List.mem_cons.1 hm).elim (fun he => absurd he.symm (hf u l)) (h u l)

theorem up_tail {g1 : Ph} {f : Frame L2 γ} {k2 : List (Frame L2 γ)}
    (h : ∀ u l, Frame.wait (Out.srcUp j u) l ∈ f :: k2 → NotPre (g1.sinkPh 0)) :
    ∀ u l, Frame.wait (Out.srcUp j u) l ∈ k2 → NotPre (g1.sinkPh 0) := fun u l hm => h u l (List.mem_cons_of_mem _ hm)

end Up
end PlugSafe

namespace LateMember
open ComposeSafe

section Generic
variable {St Loc α β : Type}

theorem wait_subSrc_notIdle (M : Machine St Loc α β) {s : Sys St Loc α β} (h : SReach M s) :
    s.g.ph.viols = [] → ∀ i l, Frame.wait (.subSrc i) l ∈ s.stack → s.g.ph.srcPh i ≠ .idle :=
  fun hv i l hm =>
    wait_inv M (fun o g => ∀ i, o = .subSrc i → g.srcPh i ≠ .idle)
      (by rintro g _ hv i rfl; rw [(Ph.onOut_subSrc_ok _ _ hv).2.2]; simp)
      (fun _ _ _ hq i ho => onOut_srcPh_notIdle _ _ _ (hq i ho))
      (fun _ _ _ _ _ hq i ho => onIn_srcPh_notIdle _ _ _ (hq i ho)) h hv _ l hm i rfl

/-- while an upstream is `subscribed` (has not greeted), a frame waiting on its subscription can only be the TOP of the stack,
and if it is, nothing has happened since that call was made — in particular a sink is open (the operator recorded no violation when
it subscribed). -/
theorem subscribed_fresh (M : Machine St Loc α β) {s : Sys St Loc α β} (h : SReach M s) :
    s.g.ph.viols = [] → ∀ i, s.g.ph.srcPh i = .subscribed →
      (∀ f r l, s.stack = f :: r → Frame.wait (.subSrc i) l ∉ r) ∧
      (∀ l r, s.stack = .wait (.subSrc i) l :: r → s.g.ph.anySinkOpen = true) := by
  revert s
  apply reach_ind
  · intro _ i hi; simp [Sys.init] at hi
  · intro a b ha ih hop
    cases hop with
    | tau hst =>
      intro hv i hi
      refine ⟨?_, fun l r he => by simp at he⟩
      intro f r l he hm
      simp only [List.cons.injEq] at he
      obtain ⟨_, rfl⟩ := he
      exact (ih hv i hi).1 _ _ l rfl hm
    | @call st l stk g tr o s' l' hst =>
      intro hv i hi
      simp only [onOut_ph] at hv hi ⊢
      have hv0 := Ph.viols_nil_of_onOut hv
      rcases onOut_srcPh_subscribed _ _ _ hi with h1 | h1
      · refine ⟨?_, ?_⟩
        · intro f r l0 he hm
          simp only [List.cons.injEq] at he
          obtain ⟨_, rfl⟩ := he
          exact (ih hv0 i h1).1 _ _ l0 rfl hm
        · intro l0 r he
          simp only [List.cons.injEq, Frame.wait.injEq] at he
          obtain ⟨⟨rfl, _⟩, _⟩ := he
          obtain ⟨hidle, _, _⟩ := Ph.onOut_subSrc_ok _ _ hv
          rw [hidle] at h1; cases h1
      · subst h1
        obtain ⟨hidle, hopen, he⟩ := Ph.onOut_subSrc_ok _ _ hv
        refine ⟨?_, ?_⟩
        · intro f r l0 he' hm
          simp only [List.cons.injEq] at he'
          obtain ⟨_, rfl⟩ := he'
          exact wait_subSrc_notIdle M ha hv0 i l0 (List.mem_cons_of_mem _ hm) hidle
        · intro l0 r _
          rw [he]; exact hopen
    | @ret st l stk g tr hst =>
      intro hv i hi
      simp only [onRetO_ph] at hv hi ⊢
      have := (ih hv i hi).1
      refine ⟨?_, ?_⟩
      · intro f r l0 he hm
        have he' : stk = f :: r := he
        subst he'
        exact this _ _ l0 rfl (List.mem_cons_of_mem _ hm)
      · intro l0 r he
        have he' : stk = .wait (.subSrc i) l0 :: r := he
        subst he'
        exact absurd List.mem_cons_self (this _ _ l0 rfl)
    | @panic st l stk g tr m hst =>
      intro hv i hi
      have := (ih hv i hi).1
      refine ⟨?_, ?_⟩
      · intro f r l0 he hm
        have he' : stk = f :: r := he
        subst he'
        exact this _ _ l0 rfl (List.mem_cons_of_mem _ hm)
      · intro l0 r he
        have he' : stk = .wait (.subSrc i) l0 :: r := he
        subst he'
        exact absurd List.mem_cons_self (this _ _ l0 rfl)
  · intro a b m ha ih henv
    cases henv with
    | @call st stk g tr c m hc hl =>
      intro hv i hi
      simp only [onIn_ph, Ph.onIn_viols] at hv hi ⊢
      have hi0 := onIn_srcPh_subscribed _ _ _ hi
      obtain ⟨hA, hB⟩ := ih hv i hi0
      refine ⟨?_, fun l r he => by simp at he⟩
      intro f r l0 he hm
      simp only [List.cons.injEq] at he
      obtain ⟨_, rfl⟩ := he
      -- the frame is in `stk`, hence (IH) its top: the environment is inside `subSrc i`
      cases stk with
      | nil => simp at hm
      | cons f0 r0 =>
        simp only [List.mem_cons] at hm
        rcases hm with hm | hm
        · subst hm
          simp [ctxOf] at hc; subst hc
          exact legalIn_inSub hl hi0 hi
        · exact hA _ _ l0 rfl hm
    | @ret st stk g tr o l hl =>
      intro hv i hi
      refine ⟨?_, fun l r he => by simp at he⟩
      intro f r l0 he hm
      simp only [List.cons.injEq] at he
      obtain ⟨_, rfl⟩ := he
      exact (ih hv i hi).1 _ _ l0 rfl hm

end Generic

section Defs
variable {S2 L2 β γ : Type}

def Open2 (j : Nat) (M2 : Machine S2 L2 β γ) : Prop :=
  ∀ s, SReach M2 s → s.panicked = none →
    (s.stack = [] ∨ (∃ l r, s.stack = .wait (.subSrc j) l :: r) ∨ (∃ u l r, s.stack = .wait (.srcUp j u) l :: r)) →
    (s.g.ph.srcPh j = .subscribed ∨ s.g.ph.srcPh j = .live) → s.g.ph.anySinkOpen = true

theorem Open2.of_turns {j : Nat} {M2 : Machine S2 L2 β γ}
    (h : ∀ s, SReach M2 s → EnvTurn s → (s.g.ph.srcPh j = .subscribed ∨ s.g.ph.srcPh j = .live) → s.g.ph.anySinkOpen = true) :
    Open2 j M2 := fun s hs hp hk =>
  h s hs ⟨hp, by rcases hk with hk | ⟨l, r, hk⟩ | ⟨u, l, r, hk⟩ <;> simp [hk, ctxOf]⟩

end Defs
end LateMember
end Cb

#print axioms Cb.LateMember.subscribed_fresh
