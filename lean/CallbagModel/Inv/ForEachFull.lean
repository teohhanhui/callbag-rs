import CallbagModel.Inv.Ghost2
import CallbagModel.Inv.ForEach
/-!
# for_each: the FULL safety invariant (both ghost layers: C01–C05, C17)

The phase-level invariant of `Inv/ForEach.lean` together with `XOk s.g`.  Sink 0 (the user) is idle, then subscribed for ever:
it is never live, so no upstream-error check is ever recorded (`livesOf` is empty) and `sinkErr` is never set; once subscribed,
some sink is open, so the orphan check never applies.
-/
namespace Cb.ForEachFull
open Cb.ForEach

/-- for_each: under every conformant source the sink never violates any clause of C01–C05 and never panics. -/
theorem forEach_safe {α : Type} : ∀ s, SReach (machine α) s → Safe s :=
  Lands.safe inv_init XOk.init inv_turn (fun _ h => h.clean) macro_step

end Cb.ForEachFull

#print axioms Cb.ForEachFull.forEach_safe
