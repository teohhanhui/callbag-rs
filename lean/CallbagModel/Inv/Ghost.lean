import CallbagModel.Core
/-!
# The ghost monitor in equations

The monitor functions of `Core.lean` are case distinctions on the call; what proofs use of them is said here in equations, over no
machine.  An input never flags a violation: it only moves the phase of the peer it comes from.  After the monitor's equations: lists of
phases by index (`phAt`, `setAt`); the automaton of the conformant environment, `legalIn`, read as propositions (`legalIn_subscribe` …,
`legal_*`); and which phases of one peer a call keeps (the corollaries of `Ph.onOut_srcPh`, `onOut_sinkPh`, `onIn_srcPh`, `onIn_sinkPh`, under
the names their first users gave them).
-/
namespace Cb

section Monitor
variable {α β : Type}

/-! `Ph.onOut` either accepts the output (`Ph.accepts`: the peer it addresses is in the phase that entitles the
operator to it, and a subscription finds some sink still open) and moves that peer's phase (`Ph.after`); or it leaves the phases
alone and records one violation (`Ph.violOf`). -/

def Ph.accepts (g : Ph) : Out β → Prop
  | .greet k => g.sinkPh k = .subscribed
  | .down k _ => g.sinkPh k = .live
  | .subSrc i => g.srcPh i = .idle ∧ g.anySinkOpen = true
  | .srcUp i _ => g.srcPh i = .live
  | .app _ => True

def Ph.afterUp (g : Ph) (i : Nat) : Up → Ph
  | .pull => g
  | _ => g.setSrc i .disposed

def Ph.after (g : Ph) : Out β → Ph
  | .greet k => g.setSink k .live
  | .down k d => if isFinal d then g.setSink k .doneBySrc else g
  | .subSrc i => g.setSrc i .subscribed
  | .srcUp i u => g.afterUp i u
  | .app _ => g

def Ph.violOf (g : Ph) : Out β → Viol
  | .greet k => .greetPhase k (g.sinkPh k)
  | .down k _ => match g.sinkPh k with
    | .doneBySrc => .afterTerm k
    | .doneBySelf => .afterDispose k
    | _ => .ungreeted k
  | .subSrc i => if g.srcPh i ≠ .idle then .subTwice i else .subAfterOver i
  | .srcUp i _ => .upNotLive i (g.srcPh i)
  | .app _ => default

theorem Ph.onOut_eq (g : Ph) (o : Out β) :
    (g.accepts o ∧ g.onOut o = g.after o) ∨ (¬ g.accepts o ∧ g.onOut o = g.flag (g.violOf o)) := by
  cases o with
  | greet k =>
    by_cases h : g.sinkPh k = .subscribed
    · exact .inl ⟨h, if_pos h⟩
    · exact .inr ⟨h, if_neg h⟩
  | down k d =>
    simp only [Ph.accepts, Ph.onOut, Ph.after, Ph.violOf]
    cases g.sinkPh k <;> simp
  | subSrc i =>
    simp only [Ph.accepts, Ph.onOut, Ph.after, Ph.violOf]
    by_cases h : g.srcPh i = .idle <;> cases g.anySinkOpen <;> simp [h]
  | srcUp i u =>
    by_cases h : g.srcPh i = .live
    · exact .inl ⟨h, by cases u <;> exact if_pos h⟩
    · exact .inr ⟨h, by cases u <;> exact if_neg h⟩
  | app b => exact .inl ⟨trivial, rfl⟩

theorem Ph.viols_after (g : Ph) (o : Out β) : (g.after o).viols = g.viols := by
  cases o with
  | down k d => simp only [Ph.after]; split <;> rfl
  | srcUp i u => cases u <;> rfl
  | _ => rfl

theorem ph_onOut_viols_suffix (g : Ph) (o : Out β) : ∃ l, (g.onOut o).viols = l ++ g.viols := by
  rcases g.onOut_eq o with ⟨-, h⟩ | ⟨-, h⟩ <;> rw [h]
  · exact ⟨[], g.viols_after o⟩
  · exact ⟨[_], rfl⟩

theorem Ph.viols_subset_onOut (g : Ph) (o : Out β) : g.viols ⊆ (g.onOut o).viols := by
  obtain ⟨l, hl⟩ := ph_onOut_viols_suffix g o
  rw [hl]; exact List.subset_append_right _ _

theorem Ph.viols_nil_of_onOut {g : Ph} {o : Out β} (h : (g.onOut o).viols = []) : g.viols = [] :=
  List.eq_nil_of_subset_nil (h ▸ g.viols_subset_onOut o)

/-! The second layer, one equation per monitor function.  An input records nothing:
the `Error` of a sink goes on record (`G.sinkErrAfter`), and so does the `Error` of an upstream that finds a sink live and no
check pending (`G.pendAfter`).  An output enters the terminal that a live sink receives (`G.finAfter`) and records at most that
the `Error` of a sink was not relayed.  A return to stack
height `h` drops `sinkErr` and `pend` if they carry that height (it is the return of the handler they arrived in), and records what
the two checks of that moment find (orphans: C04; an `Error` that did not get through: C05). -/

def G.sinkErrAfter (g : G) (h : Nat) : In α → Option (Nat × Nat)
  | .sinkUp _ (.err e) => some (e, h)
  | _ => g.sinkErr

def G.pendAfter (g : G) (h : Nat) : In α → Option (Nat × Nat × List Nat)
  | .srcDown _ (.err e) => if (livesOf g.ph).isEmpty || g.pend.isSome then g.pend else some (e, h, livesOf g.ph)
  | _ => g.pend

theorem onIn_eq (g : G) (h : Nat) (i : In α) :
    g.onIn h i = { g with ph := g.ph.onIn i, sinkErr := g.sinkErrAfter h i, pend := g.pendAfter h i } := by
  unfold G.onIn
  cases i with
  | sinkUp k u => cases u <;> rfl
  | srcDown j d =>
    cases d with
    | err e => simp only [G.pendAfter]; split <;> rfl
    | _ => rfl
  | _ => rfl

theorem G.sinkErrAfter_eq (g : G) (h : Nat) {i : In α} (hi : ∀ k e, i ≠ .sinkUp k (.err e)) : g.sinkErrAfter h i = g.sinkErr := by
  unfold G.sinkErrAfter; split
  · exact absurd rfl (hi _ _)
  · rfl

theorem G.pendAfter_eq (g : G) (h : Nat) {i : In α} (hi : ∀ j e, i ≠ .srcDown j (.err e)) : g.pendAfter h i = g.pend := by
  unfold G.pendAfter; split
  · exact absurd rfl (hi _ _)
  · rfl

theorem onIn_xviols (g : G) (h : Nat) (i : In α) : (g.onIn h i).xviols = g.xviols := by rw [onIn_eq]

def G.finAfter (g : G) : Out β → List (Option Fin)
  | .down k d => if g.ph.sinkPh k = .live ∧ isFinal d = true then setAt g.fin k (finOfDown d) else g.fin
  | _ => g.fin

theorem onOut_eq (sh : Shape) (g : G) (o : Out β) :
    ∃ l, g.onOut sh o = { g with ph := g.ph.onOut o, fin := g.finAfter o, xviols := l ++ g.xviols } ∧
      (l = [] ∨ ∃ i u e h, o = .srcUp i u ∧ l = [.errNotRelayed i] ∧ g.ph.srcPh i = .live ∧ sh.relayErr = true ∧
        g.sinkErr = some (e, h) ∧ u ≠ .pull ∧ u ≠ .err e) := by
  unfold G.onOut
  cases o with
  | down k d =>
    refine ⟨[], ?_, .inl rfl⟩
    cases d <;> by_cases hl : g.ph.sinkPh k = .live <;> simp [G.finAfter, finOfDown, isFinal, hl]
  | srcUp i u =>
    cases u with
    | pull => exact ⟨[], rfl, .inl rfl⟩
    | term =>
      simp only; split
      · rename_i hc
        simp only [Bool.and_eq_true, decide_eq_true_eq, Option.isSome_iff_exists] at hc
        obtain ⟨⟨hl, hr⟩, ⟨e, h⟩, hs⟩ := hc
        exact ⟨_, rfl, .inr ⟨i, _, e, h, rfl, rfl, hl, hr, hs, nofun, nofun⟩⟩
      · exact ⟨[], rfl, .inl rfl⟩
    | err e' =>
      simp only; split
      · rename_i e h hs
        split
        · rename_i hc
          simp only [Bool.and_eq_true, decide_eq_true_eq, bne_iff_ne, ne_eq] at hc
          exact ⟨_, rfl, .inr ⟨i, _, e, h, rfl, rfl, hc.1.1, hc.1.2, hs, nofun, fun he => hc.2 (Up.err.inj he).symm⟩⟩
        · exact ⟨[], rfl, .inl rfl⟩
      · exact ⟨[], rfl, .inl rfl⟩
  | _ => exact ⟨[], rfl, .inl rfl⟩

theorem clearSinkErr_eq (g : G) (h : Nat) : g.clearSinkErr h = { g with sinkErr := g.sinkErr.filter (·.2 != h) } := by
  obtain ⟨ph, fin, se, pd, xv⟩ := g
  cases se with
  | none => rfl
  | some p => simp only [G.clearSinkErr, Option.filter_some]; split <;> simp_all

theorem checkPend_eq (g : G) (h : Nat) :
    ∃ l, g.checkPend h = { g with pend := g.pend.filter (·.2.1 != h), xviols := l ++ g.xviols } ∧
      ∀ v ∈ l, ∃ e ks, g.pend = some (e, h, ks) ∧
        ((∃ k ∈ ks, v = .errLost e k ∧ g.finOf k ≠ some (.err e) ∧ g.ph.sinkPh k ≠ .doneBySelf) ∨
          ∃ i ∈ liveSrcs g.ph, v = .errSibling e i) := by
  obtain ⟨ph, fin, se, pd, xv⟩ := g
  rcases pd with _ | ⟨e, h', ks⟩
  · exact ⟨[], rfl, nofun⟩
  · by_cases hh : h' = h
    · subst hh
      refine ⟨_, by simp only [G.checkPend, Option.filter_some, bne_self_eq_false, beq_self_eq_true, if_true]; rfl,
        fun v hv => ⟨e, ks, rfl, ?_⟩⟩
      simp only [List.mem_reverse, List.mem_append, List.mem_map, List.mem_filter, Bool.and_eq_true, bne_iff_ne, ne_eq] at hv
      exact hv.imp (fun ⟨k, ⟨hk, h1, h2⟩, e⟩ => ⟨k, hk, e.symm, h1, h2⟩) fun ⟨i, hi, e⟩ => ⟨i, hi, e.symm⟩
    · exact ⟨[], by simp [G.checkPend, Option.filter_some, hh], nofun⟩

theorem checkOrphans_eq (g : G) (h : Nat) :
    ∃ l, g.checkOrphans h = { g with xviols := l ++ g.xviols } ∧
      ∀ v ∈ l, h = 0 ∧ g.ph.anySinkOpen = false ∧ ∃ i ∈ liveSrcs g.ph, v = .orphan i := by
  unfold G.checkOrphans; split
  · rename_i hc
    simp only [Bool.and_eq_true, beq_iff_eq, Bool.not_eq_eq_eq_not, Bool.not_true, decide_eq_true_eq] at hc
    refine ⟨_, rfl, fun v hv => ⟨hc.1.1, hc.1.2, ?_⟩⟩
    simp only [List.mem_reverse, List.mem_map, List.mem_filter] at hv
    obtain ⟨i, ⟨hi, _⟩, rfl⟩ := hv
    exact ⟨i, hi, rfl⟩
  · exact ⟨[], rfl, nofun⟩

theorem onRetO_eq (g : G) (h : Nat) :
    ∃ l, g.onRetO h = { g with sinkErr := g.sinkErr.filter (·.2 != h), pend := g.pend.filter (·.2.1 != h), xviols := l ++ g.xviols } ∧
      ∀ v ∈ l, (h = 0 ∧ g.ph.anySinkOpen = false ∧ ∃ i ∈ liveSrcs g.ph, v = .orphan i) ∨
        ∃ e ks, g.pend = some (e, h, ks) ∧
          ((∃ k ∈ ks, v = .errLost e k ∧ g.finOf k ≠ some (.err e) ∧ g.ph.sinkPh k ≠ .doneBySelf) ∨
            ∃ i ∈ liveSrcs g.ph, v = .errSibling e i) := by
  obtain ⟨l1, h1, p1⟩ := checkPend_eq { g with sinkErr := g.sinkErr.filter (·.2 != h) } h
  obtain ⟨l2, h2, p2⟩ := checkOrphans_eq
    { g with sinkErr := g.sinkErr.filter (·.2 != h), pend := g.pend.filter (·.2.1 != h), xviols := l1 ++ g.xviols } h
  refine ⟨l2 ++ l1, ?_, fun v hv => (List.mem_append.1 hv).imp (p2 v) (p1 v)⟩
  unfold G.onRetO
  rw [clearSinkErr_eq, h1, h2, List.append_assoc]

@[simp] theorem onIn_ph (g : G) (h : Nat) (i : In α) : (g.onIn h i).ph = g.ph.onIn i := by rw [onIn_eq]

@[simp] theorem onOut_ph (sh : Shape) (g : G) (o : Out β) : (g.onOut sh o).ph = g.ph.onOut o := by
  obtain ⟨_, h, _⟩ := onOut_eq sh g o
  rw [h]

@[simp] theorem onRetO_ph (g : G) (h : Nat) : (g.onRetO h).ph = g.ph := by
  obtain ⟨_, h, _⟩ := onRetO_eq g h
  rw [h]

end Monitor

@[simp] theorem phAt_nil {α} [Inhabited α] (j : Nat) : phAt ([] : List α) j = default := by simp [phAt]

theorem phAt_setAt {α} [Inhabited α] (l : List α) (i j : Nat) (a : α) :
    phAt (setAt l i a) j = if j = i then a else phAt l j := by
  induction l generalizing i j with
  | nil =>
    induction i generalizing j with
    | zero => cases j <;> simp [setAt, phAt]
    | succ i ih =>
      cases j with
      | zero => simp [setAt, phAt]
      | succ j => have := ih j; simp [phAt] at this; simp [setAt, phAt, this]
  | cons x xs ih =>
    cases i with
    | zero => cases j <;> simp [setAt, phAt]
    | succ i =>
      cases j with
      | zero => simp [setAt, phAt]
      | succ j => have := ih i j; simp [phAt] at this; simp [setAt, phAt, this]

theorem setAt_eq_set {α} [Inhabited α] (l : List α) (i : Nat) (a : α) (h : i < l.length) : setAt l i a = l.set i a := by
  induction l generalizing i with
  | nil => simp at h
  | cons x xs ih =>
    cases i with
    | zero => simp [setAt]
    | succ i => simp [setAt, ih i (by simpa using h)]

theorem phAt_replicate {α} [Inhabited α] (n j : Nat) : phAt (List.replicate n (default : α)) j = default := by
  simp only [phAt, List.getD, List.getElem?_replicate]; split <;> rfl

theorem phAt_mem_or_default {α} [Inhabited α] (l : List α) (i : Nat) : phAt l i ∈ l ∨ phAt l i = default := by
  unfold phAt
  by_cases h : i < l.length
  · left; simp [List.getD, h]
  · right; simp [List.getD, h]

theorem countP_range_congr {n : Nat} {p q : Nat → Bool} (h : ∀ j, j < n → p j = q j) :
    (List.range n).countP p = (List.range n).countP q :=
  List.countP_congr fun j hj => by rw [h j (List.mem_range.1 hj)]

theorem countP_range_eq_zero {n : Nat} {p : Nat → Bool} : (List.range n).countP p = 0 ↔ ∀ j, j < n → p j = false := by
  simp only [List.countP_eq_zero, List.mem_range, Bool.not_eq_true]

theorem countP_range_eq_self {n : Nat} {p : Nat → Bool} : (List.range n).countP p = n ↔ ∀ j, j < n → p j = true := by
  have h := List.countP_eq_length (p := p) (l := List.range n)
  simpa only [List.length_range, List.mem_range] using h

theorem countP_range_flip {n i : Nat} {p q : Nat → Bool} (hi : i < n) (hp : p i = true) (hq : q i = false)
    (h : ∀ j, j ≠ i → p j = q j) : (List.range n).countP p = (List.range n).countP q + 1 := by
  induction n with
  | zero => omega
  | succ n ih =>
    simp only [List.range_succ, List.countP_append, List.countP_singleton]
    by_cases hin : i = n
    · subst hin
      rw [countP_range_congr fun j hj => h j (by omega), hp, hq]; simp
    · rw [ih (by omega), h n (by omega)]; omega

@[simp] theorem Ph.sinkPh_setSink (g : Ph) (k k' : Nat) (p : SinkPh) :
    (g.setSink k p).sinkPh k' = if k' = k then p else g.sinkPh k' := by simp [Ph.setSink, Ph.sinkPh, phAt_setAt]
@[simp] theorem Ph.srcPh_setSrc (g : Ph) (i i' : Nat) (p : SrcPh) :
    (g.setSrc i p).srcPh i' = if i' = i then p else g.srcPh i' := by simp [Ph.setSrc, Ph.srcPh, phAt_setAt]
theorem Ph.srcPh_setSrc_self (g : Ph) (i : Nat) (p : SrcPh) : (g.setSrc i p).srcPh i = p := by rw [Ph.srcPh_setSrc, if_pos rfl]
theorem Ph.srcPh_setSrc_ne (g : Ph) {i i' : Nat} (p : SrcPh) (h : i' ≠ i) : (g.setSrc i p).srcPh i' = g.srcPh i' := by
  rw [Ph.srcPh_setSrc, if_neg h]
theorem Ph.sinkPh_setSink_self (g : Ph) (k : Nat) (p : SinkPh) : (g.setSink k p).sinkPh k = p := by rw [Ph.sinkPh_setSink, if_pos rfl]
@[simp] theorem Ph.srcPh_setSink (g : Ph) (k i : Nat) (p : SinkPh) : (g.setSink k p).srcPh i = g.srcPh i := rfl
@[simp] theorem Ph.sinkPh_setSrc (g : Ph) (k i : Nat) (p : SrcPh) : (g.setSrc i p).sinkPh k = g.sinkPh k := rfl
@[simp] theorem Ph.viols_setSink (g : Ph) (k : Nat) (p : SinkPh) : (g.setSink k p).viols = g.viols := rfl
@[simp] theorem Ph.viols_setSrc (g : Ph) (i : Nat) (p : SrcPh) : (g.setSrc i p).viols = g.viols := rfl
@[simp] theorem Ph.viols_flag (g : Ph) (v : Viol) : (g.flag v).viols = v :: g.viols := rfl
@[simp] theorem Ph.sinkPh_empty (k : Nat) : ({} : Ph).sinkPh k = .idle := by simp [Ph.sinkPh]; rfl
@[simp] theorem Ph.srcPh_empty (i : Nat) : ({} : Ph).srcPh i = .idle := by simp [Ph.srcPh]; rfl

@[simp] theorem Ph.onIn_viols {α} (g : Ph) (i : In α) : (g.onIn i).viols = g.viols := by
  cases i with
  | subscribe k => rfl
  | sinkUp k u => cases u <;> rfl
  | srcGreet i => rfl
  | srcDown i d => cases d <;> rfl

theorem Ph.onIn_subscribe {α : Type} (g : Ph) (k : Nat) : g.onIn (.subscribe k : In α) = g.setSink k .subscribed := rfl
theorem Ph.onIn_pull {α : Type} (g : Ph) (k : Nat) : g.onIn (.sinkUp k .pull : In α) = g := rfl
theorem Ph.onIn_srcGreet {α : Type} (g : Ph) (i : Nat) : g.onIn (.srcGreet i : In α) = g.setSrc i .live := rfl
theorem Ph.onIn_data {α : Type} (g : Ph) (i : Nat) (a : α) : g.onIn (.srcDown i (.data a)) = g := rfl

theorem Ph.onIn_sinkEnd {α} (g : Ph) (k : Nat) {u : Up} (hu : u ≠ .pull) : g.onIn (.sinkUp k u : In α) = g.setSink k .doneBySelf := by
  cases u with
  | pull => exact absurd rfl hu
  | term => rfl
  | err e => rfl

theorem ComposeSafe.onIn_srcDown_eq {α : Type} (g : Ph) (i : Nat) (d : Down α) :
    g.onIn (.srcDown i d) = if isFinal d then g.setSrc i .ended else g := by cases d <;> rfl

theorem Ph.onIn_srcEnd {α} (g : Ph) (i : Nat) {d : Down α} (hd : isFinal d = true) : g.onIn (.srcDown i d) = g.setSrc i .ended :=
  (ComposeSafe.onIn_srcDown_eq g i d).trans (if_pos hd)

theorem Ph.onOut_of_accepts {β} {g : Ph} {o : Out β} (h : g.accepts o) : g.onOut o = g.after o :=
  (g.onOut_eq o).elim (·.2) fun h' => absurd h h'.1

theorem Ph.onOut_of_not_accepts {β} {g : Ph} {o : Out β} (h : ¬ g.accepts o) : g.onOut o = g.flag (g.violOf o) :=
  (g.onOut_eq o).elim (fun h' => absurd h'.1 h) (·.2)

theorem Ph.accepts_of_ok {β} {g : Ph} {o : Out β} (h : (g.onOut o).viols = []) : g.accepts o ∧ g.onOut o = g.after o :=
  (g.onOut_eq o).elim id fun h' => by rw [h'.2] at h; cases h

theorem Ph.onOut_greet {β} {g : Ph} {k : Nat} (h : g.sinkPh k = .subscribed) : g.onOut (.greet k : Out β) = g.setSink k .live :=
  Ph.onOut_of_accepts (o := .greet k) h

theorem Ph.onOut_data {β} {g : Ph} {k : Nat} (h : g.sinkPh k = .live) (b : β) : g.onOut (.down k (.data b)) = g :=
  Ph.onOut_of_accepts (o := .down k (.data b)) h

theorem Ph.onOut_final {β} {g : Ph} {k : Nat} (h : g.sinkPh k = .live) {d : Down β} (hd : isFinal d = true) :
    g.onOut (.down k d) = g.setSink k .doneBySrc :=
  (Ph.onOut_of_accepts (o := .down k d) h).trans (if_pos hd)

theorem Ph.onOut_subSrc {β} {g : Ph} {i : Nat} (h : g.srcPh i = .idle) (ho : g.anySinkOpen = true) :
    g.onOut (.subSrc i : Out β) = g.setSrc i .subscribed :=
  Ph.onOut_of_accepts (o := .subSrc i) ⟨h, ho⟩

theorem Ph.onOut_pull {β} {g : Ph} {i : Nat} (h : g.srcPh i = .live) : g.onOut (.srcUp i .pull : Out β) = g :=
  Ph.onOut_of_accepts (o := .srcUp i .pull) h

theorem Ph.onOut_srcEnd {β} {g : Ph} {i : Nat} (h : g.srcPh i = .live) {u : Up} (hu : u ≠ .pull) :
    g.onOut (.srcUp i u : Out β) = g.setSrc i .disposed := by
  rw [Ph.onOut_of_accepts (o := .srcUp i u) h]
  cases u with
  | pull => exact absurd rfl hu
  | _ => rfl

theorem Ph.onOut_greet_ok {β : Type} (g : Ph) (k : Nat) (h : (g.onOut (.greet k : Out β)).viols = []) :
    g.sinkPh k = .subscribed ∧ g.onOut (.greet k : Out β) = g.setSink k .live := Ph.accepts_of_ok h

theorem Ph.onOut_down_ok {β : Type} (g : Ph) (k : Nat) (d : Down β) (h : (g.onOut (.down k d)).viols = []) :
    g.sinkPh k = .live ∧ g.onOut (.down k d) = if isFinal d then g.setSink k .doneBySrc else g := Ph.accepts_of_ok h

theorem Ph.onOut_subSrc_ok {β : Type} (g : Ph) (i : Nat) (h : (g.onOut (.subSrc i : Out β)).viols = []) :
    g.srcPh i = .idle ∧ g.anySinkOpen = true ∧ g.onOut (.subSrc i : Out β) = g.setSrc i .subscribed :=
  have ⟨⟨a, b⟩, c⟩ := Ph.accepts_of_ok h
  ⟨a, b, c⟩

theorem Ph.onOut_srcUp_ok {β : Type} (g : Ph) (i : Nat) (u : Up) (h : (g.onOut (.srcUp i u : Out β)).viols = []) :
    g.srcPh i = .live ∧ g.onOut (.srcUp i u : Out β) = g.afterUp i u := Ph.accepts_of_ok h

theorem Ph.onOut_ok {β : Type} (g : Ph) (o : Out β) (h : (g.onOut o).viols = []) : g.onOut o = g.after o := (Ph.accepts_of_ok h).2

theorem Ph.onOut_srcPh {β : Type} (g : Ph) (o : Out β) (i : Nat) :
    (g.onOut o).srcPh i = g.srcPh i ∨
    (o = .subSrc i ∧ g.srcPh i = .idle ∧ (g.onOut o).srcPh i = .subscribed) ∨
    (g.srcPh i = .live ∧ (g.onOut o).srcPh i = .disposed ∧ ∃ u, o = .srcUp i u) := by
  rcases g.onOut_eq o with ⟨ha, e⟩ | ⟨-, e⟩ <;> rw [e]
  · cases o with
    | subSrc j =>
      by_cases hij : i = j
      · subst hij; exact .inr (.inl ⟨rfl, ha.1, g.srcPh_setSrc_self _ _⟩)
      · exact .inl (g.srcPh_setSrc_ne _ hij)
    | srcUp j u =>
      cases u with
      | pull => exact .inl rfl
      | term | err e =>
        by_cases hij : i = j
        · subst hij; exact .inr (.inr ⟨ha, g.srcPh_setSrc_self _ _, _, rfl⟩)
        · exact .inl (g.srcPh_setSrc_ne _ hij)
    | down k d => exact .inl (by simp only [Ph.after]; split <;> rfl)
    | greet k | app b => exact .inl rfl
  · exact .inl rfl

theorem Ph.onOut_sinkPh {β : Type} (g : Ph) (o : Out β) (k : Nat) :
    (g.onOut o).sinkPh k = g.sinkPh k ∨
    (o = .greet k ∧ g.sinkPh k = .subscribed ∧ (g.onOut o).sinkPh k = .live) ∨
    (g.sinkPh k = .live ∧ (g.onOut o).sinkPh k = .doneBySrc ∧ ∃ d, o = .down k d) := by
  rcases g.onOut_eq o with ⟨ha, e⟩ | ⟨-, e⟩ <;> rw [e]
  · cases o with
    | greet j =>
      by_cases hkj : k = j
      · subst hkj; exact .inr (.inl ⟨rfl, ha, g.sinkPh_setSink_self _ _⟩)
      · exact .inl (by simp [Ph.after, hkj])
    | down j d =>
      by_cases hkj : k = j
      · subst hkj
        by_cases hd : isFinal d = true
        · exact .inr (.inr ⟨ha, by simp [Ph.after, hd], d, rfl⟩)
        · exact .inl (by simp [Ph.after, hd])
      · exact .inl (by simp only [Ph.after]; split <;> simp [hkj])
    | srcUp i u => cases u <;> exact .inl rfl
    | subSrc i | app b => exact .inl rfl
  · exact .inl rfl

theorem Ph.onIn_srcPh {α : Type} (g : Ph) (m : In α) (i : Nat) :
    (g.onIn m).srcPh i = g.srcPh i ∨ (m = .srcGreet i ∧ (g.onIn m).srcPh i = .live) ∨
      (∃ d, m = .srcDown i d ∧ (g.onIn m).srcPh i = .ended) := by
  cases m with
  | subscribe k => exact .inl rfl
  | sinkUp k u => cases u <;> exact .inl rfl
  | srcGreet j =>
    by_cases h : i = j
    · subst h; exact .inr (.inl ⟨rfl, by simp [Ph.onIn]⟩)
    · exact .inl (by simp [Ph.onIn, h])
  | srcDown j d =>
    by_cases h : i = j
    · subst h; cases d <;> first | exact .inl rfl | exact .inr (.inr ⟨_, rfl, by simp [Ph.onIn]⟩)
    · exact .inl (by cases d <;> simp [Ph.onIn, h])

theorem Ph.onIn_sinkPh {α : Type} (g : Ph) (m : In α) (k : Nat) :
    (g.onIn m).sinkPh k = g.sinkPh k ∨ (m = .subscribe k ∧ (g.onIn m).sinkPh k = .subscribed) ∨
      (∃ u, m = .sinkUp k u ∧ (g.onIn m).sinkPh k = .doneBySelf) := by
  cases m with
  | srcGreet i => exact .inl rfl
  | srcDown i d => cases d <;> exact .inl rfl
  | subscribe j =>
    by_cases h : k = j
    · subst h; exact .inr (.inl ⟨rfl, by simp [Ph.onIn]⟩)
    · exact .inl (by simp [Ph.onIn, h])
  | sinkUp j u =>
    by_cases h : k = j
    · subst h; cases u <;> first | exact .inl rfl | exact .inr (.inr ⟨_, rfl, by simp [Ph.onIn]⟩)
    · exact .inl (by cases u <;> simp [Ph.onIn, h])

section OnIn
variable {α : Type} (g : Ph)

@[simp] theorem Ph.srcPh_onIn_subscribe (k j : Nat) : (g.onIn (.subscribe k : In α)).srcPh j = g.srcPh j := rfl

@[simp] theorem Ph.srcPh_onIn_sinkUp (k : Nat) (u : Up) (j : Nat) : (g.onIn (.sinkUp k u : In α)).srcPh j = g.srcPh j := by
  cases u <;> rfl

@[simp] theorem Ph.sinkPh_onIn_srcGreet (i k : Nat) : (g.onIn (.srcGreet i : In α)).sinkPh k = g.sinkPh k := rfl

@[simp] theorem Ph.sinkPh_onIn_srcDown (i : Nat) (d : Down α) (k : Nat) : (g.onIn (.srcDown i d)).sinkPh k = g.sinkPh k := by
  cases d <;> rfl

theorem Ph.srcPh_onIn_srcGreet_ne {i j : Nat} (h : j ≠ i) : (g.onIn (.srcGreet i : In α)).srcPh j = g.srcPh j := by
  simp [Ph.onIn, h]

theorem Ph.srcPh_onIn_srcDown_ne {i j : Nat} (h : j ≠ i) (d : Down α) : (g.onIn (.srcDown i d)).srcPh j = g.srcPh j := by
  cases d <;> simp [Ph.onIn, h]

end OnIn

theorem Ph.anySinkOpen_iff (g : Ph) :
    g.anySinkOpen = true ↔ ∃ k, g.sinkPh k = .subscribed ∨ g.sinkPh k = .live := by
  unfold Ph.anySinkOpen Ph.sinkPh
  constructor
  · intro h
    obtain ⟨p, hp, hq⟩ := List.any_eq_true.1 h
    obtain ⟨k, hk, rfl⟩ := List.getElem_of_mem hp
    refine ⟨k, ?_⟩
    have : phAt g.sink k = g.sink[k] := by simp [phAt, List.getD, hk]
    rw [this]; simpa using hq
  · rintro ⟨k, hk⟩
    apply List.any_eq_true.2
    rcases phAt_mem_or_default g.sink k with hm | hd
    · exact ⟨_, hm, by rcases hk with hk | hk <;> simp [hk]⟩
    · rw [hd] at hk; rcases hk with hk | hk <;> cases hk

theorem Ph.anySinkOpen_false_iff (g : Ph) :
    g.anySinkOpen = false ↔ ∀ k, g.sinkPh k ≠ .subscribed ∧ g.sinkPh k ≠ .live := by
  rw [← Bool.not_eq_true, Ph.anySinkOpen_iff]
  simp [not_or]

theorem Ph.anySinkOpen_setSink (g : Ph) (k : Nat) {p : SinkPh} (hp : p = .subscribed ∨ p = .live) :
    (g.setSink k p).anySinkOpen = true :=
  (Ph.anySinkOpen_iff _).2 ⟨k, by rw [Ph.sinkPh_setSink, if_pos rfl]; exact hp⟩

theorem mem_liveSrcs (g : Ph) (i : Nat) : i ∈ liveSrcs g ↔ g.srcPh i = .live := by
  unfold liveSrcs
  simp only [List.mem_filter, List.mem_range, beq_iff_eq]
  constructor
  · exact fun h => h.2
  · intro h
    refine ⟨?_, h⟩
    by_cases hl : i < g.src.length
    · exact hl
    · simp [Ph.srcPh, phAt, List.getD, hl] at h; cases h

theorem mem_livesOf (g : Ph) (k : Nat) : k ∈ livesOf g ↔ g.sinkPh k = .live := by
  unfold livesOf
  simp only [List.mem_filter, List.mem_range, beq_iff_eq]
  constructor
  · exact fun h => h.2
  · intro h
    refine ⟨?_, h⟩
    by_cases hl : k < g.sink.length
    · exact hl
    · simp [Ph.sinkPh, phAt, List.getD, hl] at h; cases h

/-! ## The conformance automaton

`legalIn sh g c m` read as a proposition, one form of call at a time. -/

section Conformance
variable {α β : Type}

theorem legalIn_subscribe {sh : Shape} {g : Ph} {c : Ctx β} {k : Nat} :
    legalIn sh g c (.subscribe k : In α) = true ↔ (isTop c = true ∧ g.sinkPh k = .idle) ∧ (k = 0 ∨ sh.multiSink = true) := by
  simp only [legalIn, Bool.and_eq_true, beq_iff_eq, Bool.or_eq_true]
theorem legalIn_sinkUp {sh : Shape} {g : Ph} {c : Ctx β} {k : Nat} {u : Up} :
    legalIn sh g c (.sinkUp k u : In α) = true ↔
      g.sinkPh k = .live ∧ ((isTop c = true ∨ inGreet k c = true) ∨ inData k c = true) := by
  simp only [legalIn, Bool.and_eq_true, beq_iff_eq, Bool.or_eq_true]
theorem legalIn_srcGreet {sh : Shape} {g : Ph} {c : Ctx β} {i : Nat} :
    legalIn sh g c (.srcGreet i : In α) = true ↔
      g.srcPh i = .subscribed ∧ (inSub i c = true ∨ sh.lateGreet = true ∧ isTop c = true) := by
  simp only [legalIn, Bool.and_eq_true, beq_iff_eq, Bool.or_eq_true]
theorem legalIn_srcDown {sh : Shape} {g : Ph} {c : Ctx β} {i : Nat} {d : Down α} :
    legalIn sh g c (.srcDown i d) = true ↔ g.srcPh i = .live ∧ ((isTop c = true ∨ inSub i c = true) ∨ inPull i c = true) := by
  simp only [legalIn, Bool.and_eq_true, beq_iff_eq, Bool.or_eq_true]

theorem legal_subscribe {sh : Shape} {g : Ph} {c : Ctx β} {k : Nat}
    (h : legalIn sh g c (.subscribe k : In α) = true) : g.sinkPh k = .idle := (legalIn_subscribe.1 h).1.2

theorem legal_sinkUp {sh : Shape} {g : Ph} {c : Ctx β} {k : Nat} {u : Up}
    (h : legalIn sh g c (.sinkUp k u : In α) = true) : g.sinkPh k = .live := (legalIn_sinkUp.1 h).1

theorem legal_srcGreet {sh : Shape} {g : Ph} {c : Ctx β} {i : Nat}
    (h : legalIn sh g c (.srcGreet i : In α) = true) : g.srcPh i = .subscribed := (legalIn_srcGreet.1 h).1

theorem legal_srcDown {sh : Shape} {g : Ph} {c : Ctx β} {i : Nat} {d : Down α}
    (h : legalIn sh g c (.srcDown i d : In α) = true) : g.srcPh i = .live := (legalIn_srcDown.1 h).1

/-- inside the call `subSrc i` only upstream `i` may act, and nothing it may do leaves it `subscribed`: it greets, and it delivers only
once it is live -/
theorem legalIn_inSub {sh : Shape} {g : Ph} {i : Nat} {m : In α} (hl : legalIn sh g (.inCall (.subSrc i) : Ctx β) m = true)
    (hi : g.srcPh i = .subscribed) : (g.onIn m).srcPh i ≠ .subscribed := by
  cases m with
  | subscribe k => simp [legalIn, isTop] at hl
  | sinkUp k u => simp [legalIn, isTop, inGreet, inData] at hl
  | srcGreet j =>
    obtain rfl : j = i := by simpa [isTop, inSub] using (legalIn_srcGreet.1 hl).2
    rw [Ph.onIn_srcGreet, Ph.srcPh_setSrc_self]; nofun
  | srcDown j d =>
    obtain ⟨hlive, hc⟩ := legalIn_srcDown.1 hl
    obtain rfl : j = i := by simpa [isTop, inSub, inPull] using hc
    cases hi.symm.trans hlive


theorem legalIn_inTerm {α β : Type} (sh : Shape) (hsh : sh.lateGreet = false) (g : Ph) (k : Nat) (i : In α) :
    legalIn sh g (.inCall (.srcUp k .term) : Ctx β) i = false := by
  cases i <;> simp [legalIn, isTop, inGreet, inData, inSub, inPull, hsh]

end Conformance

/-! ## The phase of one peer across a call

Corollaries of `Ph.onOut_srcPh`, `Ph.onOut_sinkPh`, `Ph.onIn_srcPh` and `Ph.onIn_sinkPh`, each named in the namespace of the invariant
that uses it.  Under a legal input a finished peer stays as it is, because the automaton admits no call from it. -/

theorem ComposeSafe.onOut_srcPh_disposed {β : Type} (g : Ph) (o : Out β) (i : Nat) (h : g.srcPh i = .disposed) :
    (g.onOut o).srcPh i = .disposed := by
  rcases g.onOut_srcPh o i with h' | ⟨_, h', _⟩ | ⟨h', _⟩
  · rw [h', h]
  · rw [h] at h'; cases h'
  · rw [h] at h'; cases h'

theorem ComposeFull.onOut_srcPh_ended {β : Type} (g : Ph) (o : Out β) (i : Nat) (h : g.srcPh i = .ended) : (g.onOut o).srcPh i = .ended := by
  rcases g.onOut_srcPh o i with h' | ⟨_, hi, _⟩ | ⟨hl, _⟩
  · rw [h', h]
  · rw [h] at hi; cases hi
  · rw [h] at hl; cases hl

theorem ComposeFull.onOut_srcPh_idle_ne {β : Type} (g : Ph) (o : Out β) (i : Nat) (h : g.srcPh i = .idle) (ho : o ≠ .subSrc i) :
    (g.onOut o).srcPh i = .idle := by
  rcases g.onOut_srcPh o i with h' | ⟨ho', _⟩ | ⟨hl, _⟩
  · rw [h', h]
  · exact absurd ho' ho
  · rw [h] at hl; cases hl

theorem ComposeSafe.onOut_srcPh_subscribed {β : Type} (g : Ph) (o : Out β) (i : Nat) (h : (g.onOut o).srcPh i = .subscribed) :
    g.srcPh i = .subscribed ∨ o = .subSrc i := by
  rcases g.onOut_srcPh o i with h' | ⟨ho, _⟩ | ⟨_, h', _⟩
  · exact .inl (h' ▸ h)
  · exact .inr ho
  · rw [h] at h'; cases h'

theorem Ph.onOut_srcPh_back {β : Type} (g : Ph) (o : Out β) (i : Nat) {p : SrcPh} (h : (g.onOut o).srcPh i = p)
    (h1 : p ≠ .subscribed) (h2 : p ≠ .disposed) : g.srcPh i = p := by
  rcases g.onOut_srcPh o i with h' | ⟨_, _, h'⟩ | ⟨_, h', _⟩
  · exact h' ▸ h
  · exact absurd (h.symm.trans h') h1
  · exact absurd (h.symm.trans h') h2

theorem PlugConcat.onOut_srcPh_idle_back {β : Type} (g : Ph) (o : Out β) (i : Nat) (h : (g.onOut o).srcPh i = .idle) : g.srcPh i = .idle :=
  g.onOut_srcPh_back o i h nofun nofun

theorem PlugConcat.onOut_srcPh_ended_back {β : Type} (g : Ph) (o : Out β) (i : Nat) (h : (g.onOut o).srcPh i = .ended) : g.srcPh i = .ended :=
  g.onOut_srcPh_back o i h nofun nofun

theorem ComposeComplete.onOut_srcPh_live {β : Type} (g : Ph) (o : Out β) (i : Nat) (h : (g.onOut o).srcPh i = .live) : g.srcPh i = .live :=
  g.onOut_srcPh_back o i h nofun nofun

theorem LateMember.onOut_srcPh_notIdle {β : Type} (g : Ph) (o : Out β) (i : Nat) (h : g.srcPh i ≠ .idle) : (g.onOut o).srcPh i ≠ .idle :=
  fun h' => h (PlugConcat.onOut_srcPh_idle_back g o i h')

theorem Ph.srcPh_onOut_down {β : Type} (g : Ph) (k : Nat) (d : Down β) (j : Nat) : (g.onOut (.down k d : Out β)).srcPh j = g.srcPh j := by
  rcases g.onOut_srcPh (.down k d) j with h | ⟨h, -⟩ | ⟨-, -, _, h⟩
  · exact h
  · cases h
  · cases h

theorem ComposeSafe.onOut_sinkPh_doneBySrc {β : Type} (g : Ph) (o : Out β) (k : Nat) (h : g.sinkPh k = .doneBySrc) :
    (g.onOut o).sinkPh k = .doneBySrc := by
  rcases g.onOut_sinkPh o k with h' | ⟨_, h', _⟩ | ⟨h', _⟩
  · rw [h', h]
  · rw [h] at h'; cases h'
  · rw [h] at h'; cases h'

theorem ComposeFull.onOut_sinkPh_idle_keep {β : Type} (g : Ph) (o : Out β) (k : Nat) (h : g.sinkPh k = .idle) : (g.onOut o).sinkPh k = .idle := by
  rcases g.onOut_sinkPh o k with h' | ⟨_, hs, _⟩ | ⟨hl, _⟩
  · rw [h', h]
  · rw [h] at hs; cases hs
  · rw [h] at hl; cases hl

theorem ComposeFull.onOut_sinkPh_quiet {β : Type} (g : Ph) (o : Out β) (k : Nat) (h : g.sinkPh k = .idle ∨ g.sinkPh k = .subscribed)
    (ho : o ≠ .greet k) : (g.onOut o).sinkPh k = .idle ∨ (g.onOut o).sinkPh k = .subscribed := by
  rcases g.onOut_sinkPh o k with h' | ⟨ho', _⟩ | ⟨hl, _⟩
  · rwa [h']
  · exact absurd ho' ho
  · rw [hl] at h; rcases h with h | h <;> cases h

theorem ComposeSafe.onOut_sinkPh_idle {β : Type} (g : Ph) (o : Out β) (k : Nat) (h : (g.onOut o).sinkPh k = .idle) : g.sinkPh k = .idle := by
  rcases g.onOut_sinkPh o k with h' | ⟨_, _, h'⟩ | ⟨_, h', _⟩
  · exact h' ▸ h
  · rw [h] at h'; cases h'
  · rw [h] at h'; cases h'

theorem PlugSafe.onOut_sinkPh_subscribed {β : Type} (g : Ph) (o : Out β) (k : Nat) (h : (g.onOut o).sinkPh k = .subscribed) :
    g.sinkPh k = .subscribed := by
  rcases g.onOut_sinkPh o k with h' | ⟨_, _, h'⟩ | ⟨_, h', _⟩
  · exact h' ▸ h
  · rw [h] at h'; cases h'
  · rw [h] at h'; cases h'

theorem PlugConcat.onOut_sinkPh_doneBySrc_back {β : Type} (g : Ph) (o : Out β) (k : Nat) (ho : ∀ k' d, o ≠ .down k' d)
    (h : (g.onOut o).sinkPh k = .doneBySrc) : g.sinkPh k = .doneBySrc := by
  rcases g.onOut_sinkPh o k with h' | ⟨_, _, h'⟩ | ⟨_, _, d, rfl⟩
  · exact h' ▸ h
  · rw [h] at h'; cases h'
  · exact absurd rfl (ho k d)

theorem Ph.sinkPh_onOut_srcUp {β : Type} (g : Ph) (i : Nat) (u : Up) (k : Nat) : (g.onOut (.srcUp i u : Out β)).sinkPh k = g.sinkPh k := by
  rcases g.onOut_sinkPh (.srcUp i u : Out β) k with h | ⟨h, -⟩ | ⟨-, -, _, h⟩
  · exact h
  · cases h
  · cases h

theorem ShareWeak.down_data_sinkPh {α : Type} (g : Ph) (s : Nat) (a : α) (k : Nat) :
    (g.onOut (.down s (.data a) : Out α)).sinkPh k = g.sinkPh k := by
  rcases g.onOut_eq (.down s (.data a) : Out α) with ⟨-, e⟩ | ⟨-, e⟩ <;> rw [e] <;> rfl

theorem ShareWeak.down_sinkPh_ne {α : Type} (g : Ph) (s : Nat) (d : Down α) (k : Nat) (hk : k ≠ s) :
    (g.onOut (.down s d : Out α)).sinkPh k = g.sinkPh k := by
  rcases g.onOut_sinkPh (.down s d) k with h | ⟨h, -⟩ | ⟨-, -, _, h⟩
  · exact h
  · cases h
  · cases h; exact absurd rfl hk

theorem ShareWeak.down_live_back {α : Type} (g : Ph) (s : Nat) (d : Down α) (k : Nat) (h : (g.onOut (.down s d : Out α)).sinkPh k = .live) :
    g.sinkPh k = .live := by
  rcases g.onOut_sinkPh (.down s d) k with h' | ⟨h', -⟩ | ⟨hl, -⟩
  · exact h' ▸ h
  · cases h'
  · exact hl

theorem Ph.onOut_final_ne_live {β : Type} (g : Ph) (k : Nat) {d : Down β} (hd : isFinal d = true) :
    (g.onOut (.down k d)).sinkPh k ≠ .live := by
  intro h
  rcases g.onOut_sinkPh (.down k d) k with h' | ⟨h', -⟩ | ⟨-, h', -⟩
  · rw [Ph.onOut_final (h' ▸ h) hd, Ph.sinkPh_setSink_self] at h; cases h
  · cases h'
  · rw [h'] at h; cases h

theorem ComposeSafe.onIn_srcPh_disposed {α β : Type} (sh : Shape) (g : Ph) (c : Ctx β) (m : In α) (i : Nat)
    (hl : legalIn sh g c m = true) (h : g.srcPh i = .disposed) : (g.onIn m).srcPh i = .disposed := by
  rcases g.onIn_srcPh m i with h' | ⟨rfl, _⟩ | ⟨d, rfl, _⟩
  · rw [h', h]
  · rw [(legalIn_srcGreet.1 hl).1] at h; cases h
  · rw [(legalIn_srcDown.1 hl).1] at h; cases h

theorem ComposeFull.onIn_srcPh_ended {α β : Type} (sh : Shape) (g : Ph) (c : Ctx β) (m : In α) (i : Nat)
    (hl : legalIn sh g c m = true) (h : g.srcPh i = .ended) : (g.onIn m).srcPh i = .ended := by
  rcases g.onIn_srcPh m i with h' | ⟨rfl, _⟩ | ⟨d, rfl, _⟩
  · rw [h', h]
  · rw [(legalIn_srcGreet.1 hl).1] at h; cases h
  · rw [(legalIn_srcDown.1 hl).1] at h; cases h

theorem PlugConcat.onIn_srcPh_idle_back {α : Type} (g : Ph) (m : In α) (i : Nat) (h : (g.onIn m).srcPh i = .idle) : g.srcPh i = .idle := by
  rcases g.onIn_srcPh m i with h' | ⟨_, h'⟩ | ⟨_, _, h'⟩
  · exact h' ▸ h
  · rw [h] at h'; cases h'
  · rw [h] at h'; cases h'

theorem LateMember.onIn_srcPh_notIdle {α : Type} (g : Ph) (m : In α) (i : Nat) (h : g.srcPh i ≠ .idle) : (g.onIn m).srcPh i ≠ .idle :=
  fun h' => h (PlugConcat.onIn_srcPh_idle_back g m i h')

theorem LateMember.onIn_srcPh_subscribed {α : Type} (g : Ph) (m : In α) (i : Nat) (h : (g.onIn m).srcPh i = .subscribed) :
    g.srcPh i = .subscribed := by
  rcases g.onIn_srcPh m i with h' | ⟨_, h'⟩ | ⟨_, _, h'⟩
  · exact h' ▸ h
  · exact nomatch h'.symm.trans h
  · exact nomatch h'.symm.trans h

theorem ComposeSafe.onIn_sinkPh_doneBySrc {α β : Type} (sh : Shape) (g : Ph) (c : Ctx β) (m : In α) (k : Nat)
    (hl : legalIn sh g c m = true) (h : g.sinkPh k = .doneBySrc) : (g.onIn m).sinkPh k = .doneBySrc := by
  rcases g.onIn_sinkPh m k with h' | ⟨rfl, _⟩ | ⟨u, rfl, _⟩
  · rw [h', h]
  · rw [(legalIn_subscribe.1 hl).1.2] at h; cases h
  · rw [(legalIn_sinkUp.1 hl).1] at h; cases h

theorem PlugConcat.onIn_sinkPh_doneBySrc_back {α : Type} (g : Ph) (m : In α) (k : Nat) (h : (g.onIn m).sinkPh k = .doneBySrc) :
    g.sinkPh k = .doneBySrc := by
  rcases g.onIn_sinkPh m k with h' | ⟨_, h'⟩ | ⟨_, _, h'⟩
  · exact h' ▸ h
  · rw [h] at h'; cases h'
  · rw [h] at h'; cases h'

end Cb
