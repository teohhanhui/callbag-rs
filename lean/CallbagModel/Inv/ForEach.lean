import CallbagModel.Inv.Ghost2
import CallbagModel.Inv.Runs
import CallbagModel.Inv.TraceGhost
import CallbagModel.Inv.Views
import CallbagModel.Ops.ForEach
/-!
# for_each: the phase-level safety invariant

Sink 0 is the user who applied `for_each(f)(source)`: idle, then subscribed for ever (a sink has no downstream to greet).
The one continuation that carries an assumption is `wait (.app a) .pull` ("the closure has been applied; now pull"): it
assumes the source is still live and the talkback is stored.  It is stable because it is only ever the *top* frame, and
in context `inCall (.app a)` the environment has no legal call — it can only return.

The second half reads the trace off the macro steps: at a turn the closure has been applied to exactly the data received
(`applied_eq_sent`; at every configuration to a prefix of them, `applied_prefix_sent`), and a live upstream with no application open
owes an answer (`owes`).
-/
namespace Cb.ForEach

variable {α : Type}

/-- continuations that assume nothing -/
def Benign : Frame (Loc α) α → Prop
  | .wait _ .done => True
  | _ => False

inductive Mode (st : St) (g : Ph) (stk : List (Frame (Loc α) α)) : Prop where
  | m1 : g.sinkPh 0 = .idle → g.srcPh 0 = .idle → stk = [] → Mode st g stk
  | m2 : g.sinkPh 0 = .subscribed → g.srcPh 0 = .subscribed → stk = [.wait (.subSrc 0) .done] → Mode st g stk
  | m3 : g.sinkPh 0 = .subscribed → g.srcPh 0 = .live → st.tb = true → (∀ f ∈ stk, Benign f) → Mode st g stk
  /-- the source is live and the closure is being applied to an item (`pull` waits on top) -/
  | m3a : g.sinkPh 0 = .subscribed → g.srcPh 0 = .live → st.tb = true →
          (∃ a rest, stk = .wait (.app a) .pull :: rest ∧ ∀ f ∈ rest, Benign f) → Mode st g stk
  | m4 : g.sinkPh 0 = .subscribed → g.srcPh 0 = .ended → (∀ f ∈ stk, Benign f) → Mode st g stk

def Inv (s : Sys St (Loc α) α α) : Prop :=
  s.panicked = none ∧ s.g.ph.viols = [] ∧
  (∀ i, i ≠ 0 → s.g.ph.srcPh i = .idle) ∧ (∀ j, j ≠ 0 → s.g.ph.sinkPh j = .idle) ∧
  Mode s.st s.g.ph s.stack

theorem inv_turn (s : Sys St (Loc α) α α) (h : Inv s) : EnvTurn s ∧ BasicSafe s := by
  obtain ⟨hp, hb, _, _, hm⟩ := h
  refine ⟨⟨hp, ?_⟩, hb, hp⟩
  cases hm with
  | m1 _ _ h => simp [h, ctxOf]
  | m2 _ _ h => simp [h, ctxOf]
  | m3 _ _ _ h => exact ctx_isSome_of_waits (fun _ => id) h
  | m3a _ _ _ h => obtain ⟨_, _, h, _⟩ := h; simp [h, ctxOf]
  | m4 _ _ h => exact ctx_isSome_of_waits (fun _ => id) h

theorem sink_quiet {st : St} {g : Ph} {stk : List (Frame (Loc α) α)} (hm : Mode st g stk)
    (hoths : ∀ j, j ≠ 0 → g.sinkPh j = .idle) : ∀ k, g.sinkPh k ≠ .live ∧ g.sinkPh k ≠ .doneBySrc := by
  intro k
  by_cases hk : k = 0
  · subst hk
    cases hm with
    | m1 h1 | m2 h1 | m3 h1 | m3a h1 | m4 h1 => rw [h1]; exact ⟨by decide, by decide⟩
  · rw [hoths k hk]; exact ⟨by decide, by decide⟩

theorem step_pull : (machine α).step ⟨true⟩ .pull = .call (.srcUp 0 .pull) ⟨true⟩ .done := rfl

section run
variable {st : St}

theorem run_subscribe : Runs (machine α) st .sub0 st (some (.subSrc 0, .done)) := .call rfl

theorem run_pull (htb : st.tb = true) : Runs (machine α) st .pull st (some (.srcUp 0 .pull, .done)) := .call (if_pos htb)

theorem run_greet : Runs (machine α) st .g0 { st with tb := true } (some (.srcUp 0 .pull, .done)) := .tau rfl (run_pull rfl)

theorem run_data (a : α) : Runs (machine α) st (.d0 a) st (some (.app a, .pull)) := .call rfl

theorem run_done : Runs (machine α) st .done st none := .ret rfl

end run

inductive Macro (s : Sys St (Loc α) α α) : Move α → St → Option (Out α × Loc α) → Prop where
  | subscribe : s.g.ph.srcPh 0 = .idle → Macro s (.call (.subscribe 0)) s.st (some (.subSrc 0, .done))
  /-- the source greets: the talkback is stored and the first item is pulled -/
  | greet : Macro s (.call (.srcGreet 0)) { s.st with tb := true } (some (.srcUp 0 .pull, .done))
  | data (a : α) : Macro s (.call (.srcDown 0 (.data a))) s.st (some (.app a, .pull))
  | srcEnd (d : Down α) : isFinal d = true → Macro s (.call (.srcDown 0 d)) s.st none
  /-- the closure has been applied: the next item is pulled -/
  | applied : Macro s .ret s.st (some (.srcUp 0 .pull, .done))
  | ret : (∀ f ∈ s.stack, Benign f) → Macro s .ret s.st none

/-- The configuration comes as an equation for the reason given at `Take.lands`; the orphan clause of the second layer holds
because sink 0 stays subscribed. -/
theorem lands {t : Sys St (Loc α) α α} {st : St} {stk : List (Frame (Loc α) α)} {g' : G} {tr : List (Ev α α)}
    (ph : Ph) {P : Prop} (ht : t = ⟨st, stk, g', tr, none⟩) (hph : g'.ph = ph)
    (hS : Single ph) (h1 : ph.sinkPh 0 = .subscribed) (hm : Mode st ph stk) (h2 : P → NoOrphan g'.ph → XOk g') :
    Inv t ∧ (P → XOk t.g) := by
  subst ht hph
  exact ⟨⟨rfl, hS.viols, hS.srcs, hS.sinks, hm⟩, fun hP => h2 hP (noOrphan_of_open 0 (.inl h1))⟩

theorem cons_done {o : Out α} {stk : List (Frame (Loc α) α)} (h : ∀ f ∈ stk, Benign f) :
    ∀ f ∈ Frame.wait o .done :: stk, Benign f :=
  List.forall_mem_cons.2 ⟨trivial, h⟩

/-- Sink 0 is never live, so no upstream-error check is ever recorded and nothing is ever pending: only the phases change. -/
theorem macro_step {s s' : Sys St (Loc α) α α} {m : Move α} (h : Inv s) (hs : EnvStep (machine α) m s s') :
    Lands (machine α) Macro Inv XOk s s' m := by
  obtain ⟨_, hb, hoth, hoths, hm⟩ := h
  have hq := sink_quiet hm hoths
  have plain := fun {ph : Ph} (hx : XOk s.g) (ho : NoOrphan ph) => hx.of_ph (hx.pend_none_of_noDone fun k => (hq k).2) ho
  cases hs with
  | @call st stk g tr c i hc hl =>
    simp only at hb hoth hoths hm hq plain
    have hS : Single g.ph := ⟨hb, hoth, hoths⟩
    cases i with
    | subscribe j =>
      simp only [legalIn, Bool.and_eq_true, beq_iff_eq, machine, Bool.or_false] at hl
      obtain ⟨⟨-, hidle⟩, rfl⟩ := hl
      cases hm with
      | m1 h1 h2 h3 =>
        exact ⟨_, _, .subscribe h2, run_subscribe _ _ _, lands ((g.ph.setSink 0 .subscribed).setSrc 0 .subscribed) rfl
          (by rw [onOut_ph, onIn_ph]; exact Ph.onOut_subSrc h2 (Ph.anySinkOpen_setSink _ _ (.inl rfl)))
          ((hS.setSink _).setSrc _) (by simp) (.m2 (by simp) (by simp) (by rw [h3])) plain⟩
      | m2 h1 | m3 h1 | m3a h1 | m4 h1 => cases h1.symm.trans hidle
    | sinkUp j u =>
      simp only [legalIn, Bool.and_eq_true, beq_iff_eq, Bool.or_eq_true] at hl
      exact absurd hl.1 (hq j).1
    | srcGreet i =>
      simp only [legalIn, Bool.and_eq_true, beq_iff_eq, machine, Bool.false_and, Bool.or_false] at hl
      obtain ⟨hsub, -⟩ := hl
      cases src_eq_zero hoth (by rw [hsub]; decide)
      cases hm with
      | m2 h1 h2 h5 =>
        exact ⟨_, _, .greet, run_greet _ _ _, lands (g.ph.setSrc 0 .live) rfl
          (by rw [onOut_ph, onIn_ph]; exact Ph.onOut_pull (g := g.ph.setSrc 0 .live) (by simp))
          (hS.setSrc _) h1 (.m3 h1 (by simp) rfl (cons_done (by rw [h5]; simp [Benign]))) plain⟩
      | m1 _ h2 | m3 _ h2 | m3a _ h2 | m4 _ h2 => cases h2.symm.trans hsub
    | srcDown i d =>
      simp only [legalIn, Bool.and_eq_true, beq_iff_eq, Bool.or_eq_true] at hl
      obtain ⟨hlive, hctx⟩ := hl
      cases src_eq_zero hoth (by rw [hlive]; decide)
      cases hm with
      | m3 h1 h2 h3 h6 =>
        cases d with
        | data a =>
          exact ⟨_, _, .data a, run_data a _ _ _, lands g.ph rfl (by rw [onOut_ph, onIn_ph]; rfl) hS h1 (.m3a h1 h2 h3 ⟨a, stk, rfl, h6⟩) plain⟩
        | term | err e =>
          refine ⟨_, _, .srcEnd _ rfl, run_done _ _ _, lands (g.ph.setSrc 0 .ended) rfl (by rw [onRetO_ph, onIn_ph]; rfl) (hS.setSrc _) h1
            (.m4 h1 (by simp) h6) fun hx ho => ?_⟩
          rw [onRetO_ph] at ho
          rw [onIn_srcDown_noLive _ _ _ _ fun k => (hq k).1] at ho ⊢
          exact (plain hx ho).onRetO _
      | m3a h1 h2 h3 h5 =>
        obtain ⟨a, rest, rfl, -⟩ := h5
        cases hc; simp [isTop, inSub, inPull] at hctx
      | m1 _ h2 | m2 _ h2 | m4 _ h2 => cases h2.symm.trans hlive
  | @ret st stk g tr o l hl =>
    simp only at hb hoth hoths hm hq plain
    have hS : Single g.ph := ⟨hb, hoth, hoths⟩
    have quiet : ∀ (_ : ∀ f ∈ Frame.wait o l :: stk, Benign f) (h1 : g.ph.sinkPh 0 = .subscribed)
        (hm' : (∀ f ∈ stk, Benign f) → Mode st g.ph stk),
        Lands (machine α) Macro Inv XOk ⟨st, .wait o l :: stk, g, tr, none⟩
          ⟨st, .run l :: stk, g, .retE :: tr, none⟩ .ret := by
      intro h6 h1 hm'
      obtain ⟨hben, hrest⟩ := List.forall_mem_cons.1 h6
      cases l with
      | done => exact ⟨_, _, .ret h6, run_done _ _ _, lands g.ph rfl (onRetO_ph ..) hS h1 (hm' hrest) (fun hx _ => hx.onRetO _)⟩
      | _ => exact hben.elim
    cases hm with
    | m1 _ _ h => cases h
    | m2 h1 h2 h5 =>
      cases h5
      simp [legalRet, h2, machine] at hl
    | m3 h1 h2 h3 h6 => exact quiet h6 h1 (.m3 h1 h2 h3)
    | m3a h1 h2 h3 h5 =>
      obtain ⟨a, rest, he, hrest⟩ := h5
      cases he
      exact ⟨_, _, .applied, run_pull h3 _ _ _, lands g.ph rfl (by rw [onOut_ph]; exact Ph.onOut_pull h2) hS h1
        (.m3 h1 h2 h3 (cons_done hrest)) plain⟩
    | m4 h1 h2 h6 => exact quiet h6 h1 (.m4 h1 h2)

theorem inv_init : Inv (Sys.init (machine α)) :=
  ⟨rfl, rfl, fun _ _ => by simp [Sys.init], fun _ _ => by simp [Sys.init],
    Mode.m1 (by simp [Sys.init]) (by simp [Sys.init]) rfl⟩

theorem inv_of_turn {s : Sys St (Loc α) α α} (hs : SReach (machine α) s) (ht : EnvTurn s) : Inv s :=
  Lands.inv_at_turn inv_init (fun s hi => (inv_turn s hi).1) macro_step hs ht

/-- for_each: under every conformant source (synchronous or deferred, re-entrant through `Pull`), the sink never talks
to a source that is not live and never panics. -/
theorem forEach_basicSafe : ∀ s, SReach (machine α) s → BasicSafe s :=
  Lands.basicSafe inv_init inv_turn macro_step

end Cb.ForEach

namespace Cb
open ComposeComplete

/-- `for_each` has applied the closure to exactly what it has received, in order, whenever the environment has control (inside the
closure call the datum being applied is already counted on both sides) -/
theorem ForEach.applied_eq_sent {α : Type} :
    ∀ s, SReach (ForEach.machine α) s → EnvTurn s → applied s.tr = sentData 0 s.tr :=
  fun _ hs ht => (Lands.at_turn anyEnv (fun s => applied s.tr = sentData 0 s.tr) ForEach.inv_init rfl
    (fun s h => (ForEach.inv_turn s h).1) ForEach.macro_step (fun s m st r _ _ h _ hm _ _ => by
      cases hm with
      | data a => exact (congrArg (· ++ [a]) h).trans (sentData_data a s.tr).symm
      | srcEnd d hd => cases d with
        | data a => cases hd
        | term | err e => exact h
      | subscribe | greet | applied | ret => exact h) hs ht).2

theorem ForEach.applied_prefix_sent {α : Type} :
    ∀ s, SReach (ForEach.machine α) s → applied s.tr <+: sentData 0 s.tr :=
  fun s hs => reach_calls (ForEach.machine α) (fun _ => True) (fun tr => applied tr <+: sentData 0 tr) (fun _ _ _ => trivial)
    (List.prefix_refl _)
    (fun e tr he ih => by
      cases e with
      | out o => exact absurd rfl (he o)
      | _ => exact ih.trans (sentData_prefix_cons 0 _ tr))
    -- a call, of the closure or of the upstream, gives control to the environment
    (fun _ _ _ _ _ _ _ _ ha hst _ _ => ForEach.applied_eq_sent _ (reach_op ha (.call hst)) ⟨rfl, rfl⟩ ▸ List.prefix_refl _)
    s hs trivial

/-- `for_each` at a turn: while the upstream is live and no application of the closure is open, the upstream owes an answer (a Pull
was sent at the greeting and after every datum) -/
theorem ForEach.owes_of_turn {α : Type} {s : Sys ForEach.St (ForEach.Loc α) α α} (hs : SReach (ForEach.machine α) s)
    (ht : EnvTurn s) : s.g.ph.srcPh 0 = .live → (∀ f ∈ s.stack, ForEach.Benign f) → bP s.tr = true :=
  (Lands.at_turn anyEnv (fun s => s.g.ph.srcPh 0 = .live → (∀ f ∈ s.stack, ForEach.Benign f) → bP s.tr = true) ForEach.inv_init
    nofun (fun s h => (ForEach.inv_turn s h).1) ForEach.macro_step (fun s m st r _ _ h _ hm _ _ => by
      cases hm with
      | subscribe hi =>
        intro hl
        rw [onOut_ph, onIn_ph] at hl
        have hl : s.g.ph.srcPh 0 = .live := onOut_srcPh_live (s.g.ph.onIn (.subscribe 0)) _ _ hl
        exact nomatch hi.symm.trans hl
      | greet | applied => exact fun _ _ => rfl
      | data a => exact fun _ hb => (hb _ List.mem_cons_self).elim
      | srcEnd d hd =>
        intro hl
        rw [onRetO_ph, onIn_ph] at hl
        cases d with
        | data a => cases hd
        | term | err e => simp [Ph.onIn] at hl
      | ret hb => exact fun hl _ => h (onRetO_ph s.g _ ▸ hl) hb) hs ht).2

theorem ForEach.owes {α : Type} : ∀ s, SReach (ForEach.machine α) s → s.stack = [] → s.panicked = none →
    s.g.ph.srcPh 0 = .live → bP s.tr = true :=
  fun s hs hstk hp hl => ForEach.owes_of_turn hs (envTurn_of_top hp hstk) hl (by rw [hstk]; nofun)

end Cb

#print axioms Cb.ForEach.forEach_basicSafe
#print axioms Cb.ForEach.applied_eq_sent
