import CallbagModel.Inv.FlatDemand
/-!
# The cost of `flatten(map(g)(outer))` under a demand

Continues `Inv/FlatDemand.lean` (same namespace).  With `lens` the lengths of the inner lists, in the order of the outer list:
`pre lens j` is the number of items of the first `j` inner sources, and `needO dem lens` how many outer items are needed — as many as
inner sources must be started to meet the demand, all of them if the inner sources together do not meet it.  `CndG dem lens tr`:
`CndF`, every inner source `j + 1` ends after exactly `lens[j]` items (`EndLenSrc` of `Inv/EndOnPull.lean`), the outer source has
delivered at most `lens.length` items.

For the network `flatPlug Mo Mi initOf` (`FlatHyp`: the outer head `PullOnly`, the inner heads `PullOnly` and `EndOnPull`) the cost is
`flatC oc ci g ys dem = oc (needO dem lens) + Σ_j ci ys[j] (dsub dem (pre lens j))`: `nexts` of the network is the outer counter plus
the SUM over the inner sources created so far; their keys are distinct (`flatPlug_keysOk`), so the sum is bounded key by key
(`sum_le_keysB`, `le_sum_keysB`).
`PlugCost.flat_cost` (inner sources of one constant cost, the network run to its end) is the demand `none`: the upper bound asks of
the `flatten` inside only that it pulls as the demand allows (`flat_up_of_dm`), which `none` always does, and the lower bound at
the end asks of the heads only their bounds under `none` (`flat_low_none`).
`flatC_eq_flatCost`: the closed form is `flatCost` of `Inv/Pipeline.lean`, hence the cost `sem` assigns to `flatMap`.
-/
namespace Cb
namespace PlugCost

section Lists
variable {X S : Type}

theorem sum_filter_split (f : X → Nat) (q : X → Bool) (l : List X) :
    (l.map f).sum = ((l.filter q).map f).sum + ((l.filter (fun x => !q x)).map f).sum := by
  induction l with
  | nil => rfl
  | cons x t ih =>
    cases hq : q x <;> simp [hq, ih] <;> omega

theorem mem_le_sum (f : X → Nat) {l : List X} {x : X} (h : x ∈ l) : f x ≤ (l.map f).sum := by
  induction l with
  | nil => cases h
  | cons y t ih =>
    rcases List.mem_cons.1 h with rfl | h
    · simp
    · have := ih h; simp; omega

theorem find_of_nodup : ∀ (l : List (Nat × S)) (p : Nat × S), (l.map (·.1)).Nodup → p ∈ l → l.find? (·.1 == p.1) = some p
  | [], _, _, h => by cases h
  | q :: t, p, hn, hp => by
    simp only [List.map_cons, List.nodup_cons] at hn
    by_cases hq : q.1 = p.1
    · rcases List.mem_cons.1 hp with rfl | hp'
      · simp
      · exact absurd (List.mem_map.2 ⟨p, hp', hq.symm⟩) hn.1
    · rcases List.mem_cons.1 hp with rfl | hp'
      · exact absurd rfl hq
      · rw [List.find?_cons_of_neg (by simpa using hq)]
        exact find_of_nodup t p hn.2 hp'

end Lists

section Flat
variable {So Lo Si Li αo αi : Type}

def keysOk (st : FPSt So Si) : Prop := (st.inners.map (·.1)).Nodup

theorem keysOk_setInner {st : FPSt So Si} (h : keysOk st) (j : Nat) (si : Si) : keysOk (st.setInner j si) := by
  unfold keysOk FPSt.setInner
  simp only [List.map_cons, List.nodup_cons]
  refine ⟨?_, ?_⟩
  · simp [List.mem_map, List.mem_filter]
  · exact List.Pairwise.sublist (List.Sublist.map _ List.filter_sublist) h

macro "fpk" hst:ident h:ident : tactic =>
  `(tactic| (
      simp only [flatPlug] at $hst:ident
      repeat (any_goals (split at $hst:ident))
      all_goals first
        | (cases $hst:ident; first | exact $h | exact keysOk_setInner $h _ _)
        | (simp at $hst:ident; done)))

theorem flatPlug_keysOk (Mo : Machine So Lo αo Int) (Mi : Machine Si Li αi Int) (initOf : Int → Si) :
    ∀ s, SReach (flatPlug Mo Mi initOf) s → keysOk s.st := by
  refine st_inv _ keysOk (by simp [keysOk, flatPlug]) fun st l h => ?_
  -- every branch of `flatPlug` leaves `inners` as it is or changes it by `setInner`
  cases l with
  | nil => nofun
  | cons f rest =>
    cases f <;> simp only [flatPlug] <;> (repeat' split) <;> intro s hs <;> cases hs <;>
      first | exact h | exact keysOk_setInner h _ _

end Flat

end PlugCost

namespace FlatDemand
open ComposeSafe ComposeFun ComposeComplete PlugConcat FlatPlugSafe FlatPlugFun ComposeCost JoinDemand FK
open ConcatN (catN)

def pre (lens : List Nat) (n : Nat) : Nat := (lens.take n).sum

theorem pre_zero (lens : List Nat) : pre lens 0 = 0 := by simp [pre]

theorem pre_succ (lens : List Nat) (n : Nat) : pre lens (n + 1) = pre lens n + lens.getD n 0 := by
  unfold pre
  rw [List.take_add_one, List.sum_append]
  cases h : lens[n]? <;> simp [List.getD_eq_getElem?_getD, h]

theorem pre_cons (l : Nat) (ls : List Nat) (n : Nat) : pre (l :: ls) (n + 1) = l + pre ls n := by simp [pre]

theorem pre_mono (lens : List Nat) {a b : Nat} (h : a ≤ b) : pre lens a ≤ pre lens b := by
  induction h with
  | refl => exact Nat.le_refl _
  | step _ ih => rw [pre_succ]; omega

def needO : Demand → List Nat → Demand
  | none, _ => none
  | some 0, _ => some 0
  | some (_ + 1), [] => none
  | some (d + 1), l :: ls => if d + 1 ≤ l then some 1 else (needO (some (d + 1 - l)) ls).map (· + 1)

theorem needO_none (lens : List Nat) : needO none lens = none := by cases lens <;> rfl
theorem needO_zero (lens : List Nat) : needO (some 0) lens = some 0 := by cases lens <;> rfl

/-- the two branches of `needO` are one: an inner source that meets the demand leaves the demand 0, for which nothing more is needed -/
theorem needO_cons_succ (d l : Nat) (ls : List Nat) :
    needO (some (d + 1)) (l :: ls) = (needO (some (d + 1 - l)) ls).map (· + 1) := by
  rw [needO]
  split
  · next h => rw [Nat.sub_eq_zero_of_le h, needO_zero]; rfl
  · rfl

/-- the outer source is still wanted after `m` items if the first `m` inner sources have not met the demand -/
theorem needO_wants : ∀ (dem : Demand) (lens : List Nat) (m : Nat), m ≤ lens.length → wants dem (pre lens m) → wants (needO dem lens) m
  | none, lens, _, _, _ => by rw [needO_none]; trivial
  | some 0, _, _, _, h => by simp [wants] at h
  | some (d + 1), [], m, hm, _ => trivial
  | some (d + 1), l :: ls, 0, _, _ => by
    simp only [needO]; split
    · simp [wants]
    · cases h : needO (some (d + 1 - l)) ls <;> simp [wants]
  | some (d + 1), l :: ls, m + 1, hm, h => by
    simp only [wants, pre_cons] at h
    simp only [needO]
    have hl : ¬ (d + 1 ≤ l) := by omega
    rw [if_neg hl]
    have ih := needO_wants (some (d + 1 - l)) ls m (by simpa using hm) (by simp only [wants]; omega)
    cases hn : needO (some (d + 1 - l)) ls with
    | none => trivial
    | some x => rw [hn] at ih; simp only [wants, Option.map_some] at ih ⊢; omega

/-- once the first `m` inner sources cover `k` items, at most `m` outer items are needed for `k` -/
theorem needO_le : ∀ (k : Nat) (lens : List Nat) (m : Nat), k ≤ pre lens m → Dle (needO (some k) lens) (some m)
  | 0, lens, _, _ => by rw [needO_zero]; exact Nat.zero_le _
  | k + 1, [], m, h => by simp [pre] at h
  | k + 1, l :: ls, 0, h => by simp [pre] at h
  | k + 1, l :: ls, m + 1, h => by
    rw [pre_cons] at h
    simp only [needO]
    split
    · show 1 ≤ m + 1; omega
    · have ih := needO_le (k + 1 - l) ls m (by omega)
      cases hn : needO (some (k + 1 - l)) ls with
      | none => rw [hn] at ih; exact ih.elim
      | some x => rw [hn] at ih; simp only [Option.map_some]; show x + 1 ≤ m + 1; have : x ≤ m := ih; omega

theorem catN_len {f : Nat → List Int} {lens : List Nat} : ∀ (j : Nat), (∀ i, i < j → (f i).length = lens.getD i 0) →
    (catN f j).length = pre lens j
  | 0, _ => (pre_zero lens).symm
  | j + 1, h => by
    rw [catN, List.length_append, catN_len j (fun i hi => h i (Nat.lt_succ_of_lt hi)), pre_succ, h j (Nat.lt_succ_self j)]

theorem catN_len_le {f : Nat → List Int} {lens : List Nat} : ∀ (j : Nat), (∀ i, i < j → (f i).length ≤ lens.getD i 0) →
    (catN f j).length ≤ pre lens j
  | 0, _ => Nat.le_of_eq (pre_zero lens).symm
  | j + 1, h => by
    rw [catN, List.length_append, pre_succ]
    exact Nat.add_le_add (catN_len_le j (fun i hi => h i (Nat.lt_succ_of_lt hi))) (h j (Nat.lt_succ_self j))

structure CndG (dem : Demand) (lens : List Nat) (tr : List (Ev Int Int)) : Prop where
  f : CndF dem tr
  el : ∀ j, EndLenSrc (j + 1) (lens.getD j 0) (srcEvs tr)
  ol : (sentS 0 (srcEvs tr)).length ≤ lens.length

theorem CndG.tail {dem : Demand} {lens : List Nat} {e : Ev Int Int} {tr : List (Ev Int Int)} (h : CndG dem lens (e :: tr)) :
    CndG dem lens tr := by
  refine ⟨h.f.tail, fun j => endLenSrc_tail_ev (h.el j), ?_⟩
  have := (sentData_cons_prefix e tr).length_le
  rw [sentData_eq, sentData_eq] at this
  exact Nat.le_trans this h.ol

variable {dem : Demand} {lens : List Nat}

theorem cndG_full {s : FSys} (hs : SReach (Flatten.machine Int) s) (hC : CndG dem lens s.tr) (j : Nat)
    (h : s.g.ph.srcPh (j + 1) = .ended) : (sentS (j + 1) (srcEvs s.tr)).length = lens.getD j 0 :=
  ended_len hs (hC.el j) (fun e hm => hC.f.c.2 ⟨_, e, hm⟩) h

theorem sent_before {s : FSys} (hs : SReach (Flatten.machine Int) s) (hC : CndG dem lens s.tr) (j : Nat) (hj : j + 2 ≤ s.st.nextId) :
    (catN (fun i => sentData (i + 1) s.tr) j).length = pre lens j :=
  catN_len j fun i hi => sentData_eq (i + 1) s.tr ▸ cndG_full hs hC i
    ((E1_reach _ hs hC.f.c).1.ended (i + 1) (Nat.succ_pos i) (Nat.lt_of_lt_of_le (Nat.add_lt_add_right hi 2) hj))

/-- Flatten is about to pull the current inner source `j + 1` for an unserved `Pull` of the sink: what the sink has received is what the
inner sources have sent (`Core2T.at_pull`), and those before the last one created have sent their whole lists -/
theorem pullI_wants {st : Flatten.St} {stk : List Fm} {g : G} {tr : List (Ev Int Int)} {l l' : FL} {j : Nat}
    (ha : SReach (Flatten.machine Int) ⟨st, .run l :: stk, g, tr, none⟩)
    (hst : (Flatten.machine Int).step st l = .call (.srcUp (j + 1) .pull) st l') (hC : CndG dem lens tr)
    (hap : aP tr = true) (hin : st.inner = some (j + 1)) :
    wants (dsub dem (pre lens j)) (sentS (j + 1) (srcEvs tr)).length := by
  have hk := pulled_last ha hst hC.f.c hin
  obtain ⟨m, hm, hd, _⟩ := Core2T.at_pull ha hst hC.f.c
  obtain rfl : m = j + 1 := Nat.succ.inj (hm.symm.trans hk.symm)
  rw [catN] at hd
  have hw := wants_of_lastPull hC.f.dm hap
  rw [← recvData_eq, hd, List.length_append, sent_before ha hC j (Nat.le_of_eq hk), sentData_eq] at hw
  exact wants_dsub hw

/-- … the outer source, when every inner source created so far has ended: the sink wants more than they have delivered -/
theorem pullO_wants {st : Flatten.St} {stk : List Fm} {g : G} {tr : List (Ev Int Int)} {l l' : FL}
    (ha : SReach (Flatten.machine Int) ⟨st, .run l :: stk, g, tr, none⟩)
    (hst : (Flatten.machine Int).step st l = .call (.srcUp 0 .pull) st l') (hC : CndG dem lens tr)
    (hap : aP tr = true) (hall : AllEnded st.nextId g.ph) :
    wants (needO dem lens) (sentS 0 (srcEvs tr)).length := by
  obtain ⟨m, hm, hd, hcnt⟩ := Core2T.at_pull ha hst hC.f.c
  have hlen : (catN (fun i => sentData (i + 1) tr) m).length = pre lens m := by
    apply catN_len
    intro i hi
    rw [sentData_eq]
    exact cndG_full ha hC i (hall (i + 1) (Nat.succ_pos i) (by rw [hm]; exact Nat.succ_lt_succ hi))
  have hw := wants_of_lastPull hC.f.dm hap
  rw [← recvData_eq, hd, hlen] at hw
  rw [← sentData_eq, hcnt]
  exact needO_wants dem lens m (by rw [← hcnt, sentData_eq]; exact hC.ol) hw

/-- inner source `j + 1` is pulled only while the sink wants more than the `j` inner sources before it deliver: a property of the calls
`.srcUp (j + 1) .pull`, each made under an unserved `Pull` of the sink (`KF.fl`) -/
theorem flat_dmI (dem : Demand) (lens : List Nat) (j : Nat) :
    ∀ s, SReach (Flatten.machine Int) s → CndG dem lens s.tr → DemOkSrcJ (j + 1) (dsub dem (pre lens j)) (srcEvs s.tr) :=
  demOkSrcJ_reach _ (CndG dem lens) (fun _ _ h => h.tail) (j + 1) _ fun st l stk g tr s' l' ha hst hC => by
    have hfl := (KF_reach dem _ ha hC.f).fl
    cases Flatten.Edge.of hst with
    | ig1 h => exact pullI_wants ha hst hC hfl.1 h
    | p0 h => exact pullI_wants ha hst hC hfl.1 h

/-- the outer source is pulled only while the inner sources created so far have not met the demand -/
theorem flat_dmO (dem : Demand) (lens : List Nat) :
    ∀ s, SReach (Flatten.machine Int) s → CndG dem lens s.tr → DemOkSrcJ 0 (needO dem lens) (srcEvs s.tr) :=
  demOkSrcJ_reach _ (CndG dem lens) (fun _ _ h => h.tail) 0 _ fun st l stk g tr s' l' ha hst hC => by
    have hfl := (KF_reach dem _ ha hC.f).fl
    obtain ⟨hk1, hf1, _⟩ := E1_reach _ ha hC.f.c
    cases Flatten.Edge.of hst with
    | it2 h => exact pullO_wants ha hst hC hfl.1 hf1.1
    | p1 h => exact pullO_wants ha hst hC hfl.1 hf1.2
    | ig1 h => exact absurd (hk1.ipos _ h) (by decide)
    | p0 h => exact absurd (hk1.ipos _ h) (by decide)

section Sums
open PlugCost
variable {S : Type}

theorem sum_le_keysB (f : S → Nat) (Bs : List Nat) : ∀ (m : Nat) (l : List (Nat × S)), (l.map (·.1)).Nodup →
    (∀ p ∈ l, 1 ≤ p.1 ∧ p.1 ≤ m) → (∀ p ∈ l, f p.2 ≤ Bs.getD (p.1 - 1) 0) → (l.map (fun p => f p.2)).sum ≤ pre Bs m
  | 0, l, _, hk, _ => by
    cases l with
    | nil => simp
    | cons p t => have := hk p List.mem_cons_self; omega
  | m + 1, l, hn, hk, hb => by
    rw [sum_filter_split (fun p => f p.2) (fun p => p.1 == m + 1) l, pre_succ]
    have h1 : ((l.filter (fun p => p.1 == m + 1)).map (fun p => f p.2)).sum ≤ Bs.getD m 0 := by
      have hn' : ((l.filter (fun p => p.1 == m + 1)).map (·.1)).Nodup :=
        List.Pairwise.sublist (List.Sublist.map _ List.filter_sublist) hn
      cases hl : l.filter (fun p => p.1 == m + 1) with
      | nil => simp
      | cons p t =>
        have e1 : p.1 = m + 1 := by
          have := (List.mem_filter.1 (hl ▸ List.mem_cons_self : p ∈ l.filter _)).2; simpa using this
        cases t with
        | nil =>
          have hp : p ∈ l := (List.mem_filter.1 (hl ▸ List.mem_cons_self)).1
          have := hb p hp
          rw [e1] at this
          simpa using this
        | cons p' t' =>
          exfalso
          rw [hl] at hn'
          have e2 : p'.1 = m + 1 := by
            have := (List.mem_filter.1 (hl ▸ List.mem_cons_of_mem _ List.mem_cons_self : p' ∈ l.filter _)).2; simpa using this
          simp only [List.map_cons, List.nodup_cons, List.mem_cons] at hn'
          exact hn'.1 (.inl (e1.trans e2.symm))
    have h2 := sum_le_keysB f Bs m (l.filter (fun p => !(p.1 == m + 1)))
      (List.Pairwise.sublist (List.Sublist.map _ List.filter_sublist) hn)
      (fun p hp => by
        obtain ⟨hp1, hp2⟩ := List.mem_filter.1 hp
        have := hk p hp1
        have hne : p.1 ≠ m + 1 := by simpa using hp2
        omega)
      (fun p hp => hb p (List.mem_filter.1 hp).1)
    omega

theorem le_sum_keysB (f : S → Nat) (Bs : List Nat) : ∀ (m : Nat) (l : List (Nat × S)),
    (∀ j, j < m → Bs.getD j 0 = 0 ∨ ∃ p ∈ l, p.1 = j + 1 ∧ Bs.getD j 0 ≤ f p.2) → pre Bs m ≤ (l.map (fun p => f p.2)).sum
  | 0, _, _ => by simp [pre]
  | m + 1, l, h => by
    rw [sum_filter_split (fun p => f p.2) (fun p => p.1 == m + 1) l, pre_succ]
    have h1 : Bs.getD m 0 ≤ ((l.filter (fun p => p.1 == m + 1)).map (fun p => f p.2)).sum := by
      rcases h m (Nat.lt_succ_self m) with h0 | ⟨p, hp, hp1, hp2⟩
      · rw [h0]; exact Nat.zero_le _
      · exact Nat.le_trans hp2 (mem_le_sum (fun p => f p.2) (List.mem_filter.2 ⟨hp, by simp [hp1]⟩))
    have h2 := le_sum_keysB f Bs m (l.filter (fun p => !(p.1 == m + 1))) (fun j hj => by
      rcases h j (Nat.lt_succ_of_lt hj) with h0 | ⟨q, hq, hq1, hq2⟩
      · exact .inl h0
      · exact .inr ⟨q, List.mem_filter.2 ⟨hq, by simp [hq1]; omega⟩, hq1, hq2⟩)
    rw [Nat.add_comm (List.sum _)]; exact Nat.add_le_add h2 h1

end Sums

/-- the costs of the inner sources, each under what is left of the demand after the inner sources before it: `termsL` of
`Inv/JoinDemand.lean` for the inner sources as members -/
def innerTerms (ci : Int → Demand → Nat) (g : Int → List Int) (ys : List Int) (dem : Demand) : List Nat :=
  termsL (ys.map ci) (ys.map g) dem

theorem innerTerms_nil (ci : Int → Demand → Nat) (g : Int → List Int) (dem : Demand) : innerTerms ci g [] dem = [] := rfl

theorem innerTerms_cons (ci : Int → Demand → Nat) (g : Int → List Int) (a : Int) (rest : List Int) (dem : Demand) :
    innerTerms ci g (a :: rest) dem = ci a dem :: innerTerms ci g rest (dsub dem (g a).length) := rfl

theorem innerTerms_length (ci : Int → Demand → Nat) (g : Int → List Int) (ys : List Int) (dem : Demand) :
    (innerTerms ci g ys dem).length = ys.length := by
  rw [innerTerms, termsL_length _ _ _ (by simp), List.length_map]

theorem pre_innerTerms (ci : Int → Demand → Nat) (g : Int → List Int) (ys : List Int) (dem : Demand) :
    pre (innerTerms ci g ys dem) ys.length = (innerTerms ci g ys dem).sum := by
  unfold pre; rw [← innerTerms_length ci g ys dem, List.take_length]

/-- the items of the first `j` members, counted as in `costJ` and as in `flatC` -/
theorem offY_eq_pre (l : List (List Int)) (j : Nat) : offY (fun i => l.getD i []) j = pre (l.map List.length) j :=
  catN_len j fun i _ => by simp only [List.getD_eq_getElem?_getD, List.getElem?_map]; cases l[i]? <;> rfl

theorem innerTerms_getD (ci : Int → Demand → Nat) (g : Int → List Int) (ys : List Int) (dem : Demand) (j : Nat) (a : Int)
    (h : ys[j]? = some a) : (innerTerms ci g ys dem).getD j 0 = ci a (dsub dem (pre (ys.map (fun a => (g a).length)) j)) := by
  have hj : j < (ys.map ci).length := by
    rw [List.length_map]; exact (List.getElem?_eq_some_iff.1 h).1
  rw [innerTerms, termsL_getD _ _ _ j (by simp) hj, getD_map_of_getElem? h, offY_eq_pre, List.map_map]; rfl

theorem innerTerms_const (c : Nat) (g : Int → List Int) : ∀ (ys : List Int) (dem : Demand),
    (innerTerms (fun _ _ => c) g ys dem).sum = ys.length * c
  | [], _ => by simp [innerTerms_nil]
  | a :: rest, dem => by simp [innerTerms_cons, innerTerms_const c g rest, Nat.succ_mul, Nat.add_comm]

theorem innerTerms_zero (ci : Int → Demand → Nat) (g : Int → List Int) (hz : ∀ a, ci a (some 0) = 0) :
    ∀ ys : List Int, (innerTerms ci g ys (some 0)).sum = 0
  | [] => rfl
  | a :: rest => by
    have : dsub (some 0) (g a).length = some 0 := by simp [dsub]
    simp [innerTerms_cons, hz, this, innerTerms_zero ci g hz rest]

/-- the cost: the outer source under "as many items as inner sources are needed", plus the inner sources -/
def flatC (oc : Demand → Nat) (ci : Int → Demand → Nat) (g : Int → List Int) (ys : List Int) (dem : Demand) : Nat :=
  oc (needO dem (ys.map (fun a => (g a).length))) + (innerTerms ci g ys dem).sum

theorem prefix_getElem? {X : Type} {l ys : List X} {j : Nat} {a : X} (hp : l <+: ys) (h : l[j]? = some a) : ys[j]? = some a := by
  obtain ⟨t, rfl⟩ := hp
  have hj : j < l.length := by
    rcases Nat.lt_or_ge j l.length with h' | h'
    · exact h'
    · rw [List.getElem?_eq_none h'] at h; cases h
  rw [List.getElem?_append_left hj]; exact h

section Network
open ComposeFull PlugCost
variable {So Lo Si Li αo αi : Type} {Mo : Machine So Lo αo Int} {Mi : Machine Si Li αi Int} {initOf : Int → Si}

structure FlatHyp (Mo : Machine So Lo αo Int) (Mi : Machine Si Li αi Int) (initOf : Int → Si) (ys : List Int) (g : Int → List Int) : Prop where
  hO : HeadOkT Mo ys
  NO : NoUpstream Mo
  PO : PullOnly Mo
  hI : ∀ a, HeadOkT (atInit Mi (initOf a)) (g a)
  NI : ∀ a, NoUpstream (atInit Mi (initOf a))
  PI : ∀ a, PullOnly (atInit Mi (initOf a))
  EI : ∀ a, EndOnPull (atInit Mi (initOf a))

variable {ys : List Int} {g : Int → List Int}

theorem FlatHyp.proj (F : FlatHyp Mo Mi initOf ys g) : ∀ s, SReach (flatPlug Mo Mi initOf) s → ∃ sO sF fam, ProjF Mo Mi initOf s sO sF fam :=
  flat_proj F.hO F.NO F.PO F.hI F.NI

theorem born_ys (hO : HeadOkT Mo ys) {s : NSys So Lo Si Li} {sO : Sys So Lo αo Int} {sF : FSys} {fam : Fam Si Li αi}
    (hp : ProjF Mo Mi initOf s sO sF fam) {j : Nat} {a : Int} {sI : Sys Si Li αi Int} (hf : fam (j + 1) = some (a, sI)) :
    ys[j]? = some a := by
  have hb := hp.t.born j a sI hf
  rw [hp.outerData] at hb
  exact prefix_getElem? (recv_prefix_all hO.head.spec sO hp.rO) hb

theorem lens_getD {j : Nat} {a : Int} (h : ys[j]? = some a) : (ys.map (fun a => (g a).length)).getD j 0 = (g a).length :=
  getD_map_of_getElem? h 0

theorem cndG_of_proj (F : FlatHyp Mo Mi initOf ys g) {s : NSys So Lo Si Li} {sO : Sys So Lo αo Int} {sF : FSys} {fam : Fam Si Li αi}
    (hp : ProjF Mo Mi initOf s sO sF fam) {dem : Demand} (hd : DemOk dem (sinkEvs s.tr)) :
    CndG dem (ys.map (fun a => (g a).length)) sF.tr := by
  refine ⟨cndF_of_proj hp F.PI F.EI hd, fun j => ?_, ?_⟩
  · cases hf : fam (j + 1) with
    | none => exact endLenSrc_of_srcEq _ _ _ (srcEq_of_none hp.t hf ▸ trivial)
    | some p =>
      obtain ⟨a, sI⟩ := p
      rw [lens_getD (born_ys F.hO hp hf)]
      exact (hp.ifcI hf).endLen (endFull_reach (F.hI a) sI (hp.m.inner.rI _ _ _ hf))
  · rw [hp.outerData, List.length_map]
    exact (recv_prefix_all F.hO.head.spec sO hp.rO).length_le

theorem inner_entry {s : NSys So Lo Si Li} {sO : Sys So Lo αo Int} {sF : FSys} {fam : Fam Si Li αi}
    (hp : ProjF Mo Mi initOf s sO sF fam) (hkeys : keysOk s.st) {p : Nat × Si} (hp' : p ∈ s.st.inners) :
    ∃ j a sI, p.1 = j + 1 ∧ fam (j + 1) = some (a, sI) ∧ p.2 = sI.st := by
  have hfind : s.st.innerSt p.1 = some p.2 := by
    unfold FPSt.innerSt; rw [find_of_nodup _ p hkeys hp']; rfl
  have hst := hp.m.inner.stI p.1
  rw [hfind] at hst
  cases hf : fam p.1 with
  | none => rw [hf] at hst; cases hst
  | some x =>
    obtain ⟨a, sI⟩ := x
    rw [hf] at hst
    have hsI : p.2 = sI.st := by simpa using hst
    have hpos : p.1 ≠ 0 := fun h0 => by rw [h0, hp.m.inner.fam0] at hf; cases hf
    obtain ⟨j, hj⟩ : ∃ j, p.1 = j + 1 := ⟨p.1 - 1, by omega⟩
    exact ⟨j, a, sI, hj, hj ▸ hf, hsI⟩

theorem flat_up_of_dm (hO : HeadOkT Mo ys) {nxO : So → Nat} {nxI : Si → Nat} {oc : Demand → Nat} {ci : Int → Demand → Nat}
    (uO : HeadUp Mo nxO oc) (uI : ∀ a, HeadUp (atInit Mi (initOf a)) nxI (ci a))
    {s : NSys So Lo Si Li} {sO : Sys So Lo αo Int} {sF : FSys} {fam : Fam Si Li αi} (hs : SReach (flatPlug Mo Mi initOf) s)
    (hp : ProjF Mo Mi initOf s sO sF fam) {dem : Demand} (dO : DemOkSrcJ 0 (needO dem (ys.map (fun a => (g a).length))) (srcEvs sF.tr))
    (dI : ∀ j, DemOkSrcJ (j + 1) (dsub dem (pre (ys.map (fun a => (g a).length)) j)) (srcEvs sF.tr)) :
    nxO s.st.outer + (s.st.inners.map (fun p => nxI p.2)).sum ≤ flatC oc ci g ys dem := by
  have h1 : nxO s.st.outer ≤ oc (needO dem (ys.map (fun a => (g a).length))) := by
    rw [hp.m.outer.stO]
    exact uO _ sO hp.rO (hp.ifcO.demOk dO)
  have hkeys := flatPlug_keysOk Mo Mi initOf s hs
  have hent : ∀ p ∈ s.st.inners, (1 ≤ p.1 ∧ p.1 ≤ ys.length) ∧ nxI p.2 ≤ (innerTerms ci g ys dem).getD (p.1 - 1) 0 := by
    intro p hp'
    obtain ⟨j, a, sI, hj, hf, hsI⟩ := inner_entry hp hkeys hp'
    have hy := born_ys hO hp hf
    have hjl : j < ys.length := by
      rcases Nat.lt_or_ge j ys.length with h | h
      · exact h
      · rw [List.getElem?_eq_none h] at hy; cases hy
    refine ⟨by omega, ?_⟩
    rw [hj, Nat.add_sub_cancel, innerTerms_getD ci g ys dem j a hy, hsI]
    exact uI a _ sI (hp.m.inner.rI _ _ _ hf) ((hp.ifcI hf).demOk (dI j))
  have h2 := sum_le_keysB nxI (innerTerms ci g ys dem) ys.length s.st.inners hkeys (fun p hp' => (hent p hp').1) (fun p hp' => (hent p hp').2)
  exact Nat.add_le_add h1 (pre_innerTerms ci g ys dem ▸ h2)

theorem flat_headUp (F : FlatHyp Mo Mi initOf ys g) {nxO : So → Nat} {nxI : Si → Nat} {oc : Demand → Nat} {ci : Int → Demand → Nat}
    (uO : HeadUp Mo nxO oc) (uI : ∀ a, HeadUp (atInit Mi (initOf a)) nxI (ci a)) :
    HeadUp (flatPlug Mo Mi initOf) (fun st => nxO st.outer + (st.inners.map (fun p => nxI p.2)).sum) (flatC oc ci g ys) := by
  intro dem s hs hd
  obtain ⟨sO, sF, fam, hp⟩ := F.proj s hs
  have hC := cndG_of_proj F hp hd
  exact flat_up_of_dm F.hO uO uI hs hp (flat_dmO dem _ sF hp.rF hC) fun j => flat_dmI dem _ j sF hp.rF hC

theorem entry_of_fam {s : NSys So Lo Si Li} {sO : Sys So Lo αo Int} {sF : FSys} {fam : Fam Si Li αi}
    (hp : ProjF Mo Mi initOf s sO sF fam) {j : Nat} {a : Int} {sI : Sys Si Li αi Int} (hf : fam (j + 1) = some (a, sI)) :
    ∃ p ∈ s.st.inners, p.1 = j + 1 ∧ p.2 = sI.st := by
  have hst := hp.m.inner.stI (j + 1)
  rw [hf] at hst
  simp only [Option.map_some, FPSt.innerSt, Option.map_eq_some_iff] at hst
  obtain ⟨q, hq, hq2⟩ := hst
  exact ⟨q, List.mem_of_find?_eq_some hq, by simpa using List.find?_some hq, hq2⟩

theorem flat_low_none (hO : HeadOkT Mo ys) {nxO : So → Nat} {nxI : Si → Nat} {oc : Demand → Nat} {ci : Int → Demand → Nat}
    (lO : ∀ sO, SReach Mo sO → sO.stack = [] → sO.g.ph.sinkPh 0 = .doneBySrc → oc none ≤ nxO sO.st)
    (lI : ∀ a sI, SReach (atInit Mi (initOf a)) sI → sI.stack = [] → sI.g.ph.sinkPh 0 = .doneBySrc → ci a none ≤ nxI sI.st)
    {s : NSys So Lo Si Li} {sO : Sys So Lo αo Int} {sF : FSys} {fam : Fam Si Li αi} (hp : ProjF Mo Mi initOf s sO sF fam)
    (hstk : s.stack = []) (hdone : s.g.ph.sinkPh 0 = .doneBySrc) :
    flatC oc ci g ys none ≤ nxO s.st.outer + (s.st.inners.map (fun p => nxI p.2)).sum := by
  obtain ⟨hkO, hkF, hkI⟩ := hp.top hstk
  obtain ⟨hk, _, _⟩ := E1_reach sF hp.rF hp.c
  obtain ⟨m, hm, _, hcnt⟩ := E2T_of_turn hp.rF ⟨hp.m.core.pF, by simp [hkF, ctxOf]⟩ hp.c
  have hdF : sF.g.ph.sinkPh 0 = .doneBySrc := by rw [← hp.m.core.sink 0]; exact hdone
  obtain ⟨h0, hall⟩ := hk.tc hdF
  have hdO : sO.g.ph.sinkPh 0 = .doneBySrc := hp.ifcO.ended h0
  have htO : EnvTurn sO := ⟨hp.m.outer.pO, by simp [hkO, ctxOf]⟩
  have hmy : m = ys.length := by rw [← hO.doneT sO hp.rO htO hdO, ← hp.outerData, ← sentData_eq]; exact hcnt.symm
  have h1 : oc (needO none (ys.map (fun a => (g a).length))) ≤ nxO s.st.outer := by
    rw [needO_none, hp.m.outer.stO]; exact lO sO hp.rO hkO hdO
  have h3 := le_sum_keysB nxI (innerTerms ci g ys none) ys.length s.st.inners (fun j hjl => by
    right
    obtain ⟨a, sI, hf, hdI⟩ := hp.innerEnded j (hall (j + 1) (Nat.succ_pos j) (by rw [hm, hmy]; exact Nat.succ_lt_succ hjl))
    obtain ⟨p, hpm, hp1, hp2⟩ := entry_of_fam hp hf
    refine ⟨p, hpm, hp1, ?_⟩
    rw [innerTerms_getD ci g ys none j a (born_ys hO hp hf), hp2]
    exact lI a sI (hp.m.inner.rI _ _ _ hf) (hkI _ _ _ hf) hdI)
  exact Nat.add_le_add h1 (pre_innerTerms ci g ys none ▸ h3)

theorem flat_headLow (F : FlatHyp Mo Mi initOf ys g) {nxO : So → Nat} {nxI : Si → Nat} {oc : Demand → Nat} {ci : Int → Demand → Nat}
    (lO : HeadLow Mo nxO oc) (lI : ∀ a, HeadLow (atInit Mi (initOf a)) nxI (ci a))
    (monoO : ∀ d1 d2, Dle d1 d2 → oc d1 ≤ oc d2) (monoI : ∀ a d1 d2, Dle d1 d2 → ci a d1 ≤ ci a d2) (zeroI : ∀ a, ci a (some 0) = 0) :
    HeadLow (flatPlug Mo Mi initOf) (fun st => nxO st.outer + (st.inners.map (fun p => nxI p.2)).sum) (flatC oc ci g ys) := by
  intro s hs hstk
  obtain ⟨sO, sF, fam, hp⟩ := F.proj s hs
  obtain ⟨hkO, hkF, hkI⟩ := hp.top hstk
  have htF : EnvTurn sF := ⟨hp.m.core.pF, by simp [hkF, ctxOf]⟩
  obtain ⟨_, _, _, hidle, _, _⟩ := Flatten.inv_of_turn hp.rF htF
  obtain ⟨hk, _, _⟩ := E1_reach sF hp.rF hp.c
  obtain ⟨m, hm, hd, hcnt⟩ := E2T_of_turn hp.rF htF hp.c
  have hmO : m = (recvData 0 sO.tr).length := by rw [← hp.outerData, ← sentData_eq]; exact hcnt.symm
  have hturnI : ∀ j a sI, fam (j + 1) = some (a, sI) → EnvTurn sI :=
    fun j a sI hf => ⟨hp.m.inner.pI _ _ _ hf, by simp [hkI _ _ _ hf, ctxOf]⟩
  have hle : ∀ j, j < m → (sentData (j + 1) sF.tr).length ≤ (ys.map (fun a => (g a).length)).getD j 0 := by
    intro j _
    rw [hp.innerData j]
    cases hf : fam (j + 1) with
    | none => simp
    | some p =>
      obtain ⟨a, sI⟩ := p
      simp only
      rw [lens_getD (born_ys F.hO hp hf)]
      exact ((F.hI a).head.spec sI (hp.m.inner.rI _ _ _ hf) (hturnI j a sI hf)).length_le
  have hkle : (recvData 0 s.tr).length ≤ pre (ys.map (fun a => (g a).length)) m := by
    rw [hp.recv, hd]; exact catN_len_le m hle
  -- `m` inner sources have been created; all but the last have ended, with their whole lists
  have hended : ∀ i, 1 ≤ i → i < m → sF.g.ph.srcPh i = .ended :=
    fun i h1 h2 => hk.ended i h1 (by rw [hm]; exact Nat.succ_lt_succ h2)
  have hbefore : ∀ j, j < m → (catN (fun i => sentData (i + 1) sF.tr) j).length = pre (ys.map (fun a => (g a).length)) j :=
    fun j hj => sent_before hp.rF (cndG_of_proj F hp (demOk_none _)) j (by rw [hm]; exact Nat.succ_le_succ hj)
  rw [show (fun st : FPSt So Si => nxO st.outer + (st.inners.map (fun p => nxI p.2)).sum) s.st =
    nxO s.st.outer + (s.st.inners.map (fun p => nxI p.2)).sum from rfl]
  refine ⟨?_, fun hdone => ?_⟩
  · have h1 : oc (needO (some (recvData 0 s.tr).length) (ys.map (fun a => (g a).length))) ≤ nxO s.st.outer := by
      rw [hp.m.outer.stO]
      refine Nat.le_trans (monoO _ _ (needO_le _ _ m hkle)) ?_
      rw [hmO]; exact (lO sO hp.rO hkO).1
    have h3 := le_sum_keysB nxI (innerTerms ci g ys (some (recvData 0 s.tr).length)) ys.length s.st.inners (fun j hjl => by
      have hy : ys[j]? = some ys[j] := List.getElem?_eq_getElem hjl
      rw [innerTerms_getD ci g ys _ j _ hy]
      cases hf : fam (j + 1) with
      | none =>
        left
        have hjm : m ≤ j + 1 := by
          apply Classical.byContradiction; intro hn
          obtain ⟨a, sI, hf', _⟩ := hp.innerEnded j (hended (j + 1) (Nat.succ_pos j) (Nat.lt_of_not_le hn))
          rw [hf] at hf'; cases hf'
        have hkj : (recvData 0 s.tr).length ≤ pre (ys.map (fun a => (g a).length)) j := by
          rcases Nat.eq_or_lt_of_le hjm with he | hlt
          · have hz : sentData (j + 1) sF.tr = [] := by rw [hp.innerData j, hf]
            rw [hp.recv, hd, he, catN, hz, List.append_nil, hbefore j (he ▸ Nat.lt_succ_self j)]
            exact Nat.le_refl _
          · exact Nat.le_trans hkle (pre_mono _ (Nat.le_of_lt_succ hlt))
        rw [dsub_of_le hkj]; exact zeroI _
      | some x =>
        obtain ⟨a, sI⟩ := x
        right
        have hya := born_ys F.hO hp hf
        have hae : ys[j] = a := by rw [hy] at hya; exact Option.some.inj hya
        rw [hae]
        obtain ⟨p, hpm, hp1, hp2⟩ := entry_of_fam hp hf
        refine ⟨p, hpm, hp1, ?_⟩
        rw [hp2]
        obtain ⟨l1, l2⟩ := lI a sI (hp.m.inner.rI _ _ _ hf) (hkI _ _ _ hf)
        have hifc := (hp.ifcI hf).ph
        by_cases he : sF.g.ph.srcPh (j + 1) = .ended
        · exact Nat.le_trans (monoI a _ _ (Dle.to_none _)) (l2 ((hp.ifcI hf).ended he))
        · have hjm : m ≤ j + 1 := by
            apply Classical.byContradiction; intro hn
            exact he (hended (j + 1) (Nat.succ_pos j) (Nat.lt_of_not_le hn))
          have hjn : j + 1 < sF.st.nextId := by
            apply Classical.byContradiction; intro hn
            have := hidle (j + 1) (Nat.le_of_not_lt hn)
            rw [hifc] at this
            exact hp.m.inner.alive _ _ _ hf (toSrc_idle.1 this)
          have hjm' : j + 1 = m := Nat.le_antisymm (Nat.le_of_lt_succ (show j + 1 < m + 1 by rw [← hm]; exact hjn)) hjm
          have hsent : sentData (j + 1) sF.tr = recvData 0 sI.tr := by rw [hp.innerData j, hf]
          have hk' : (recvData 0 s.tr).length = pre (ys.map (fun a => (g a).length)) j + (recvData 0 sI.tr).length := by
            rw [hp.recv, hd, ← hjm', catN, List.length_append, hbefore j (hjm' ▸ Nat.lt_succ_self j), hsent]
          rw [hk', dsub_add]; exact l1)
    exact Nat.add_le_add h1 (pre_innerTerms ci g ys _ ▸ h3)
  · exact flat_low_none F.hO (fun sO hr hk => (lO sO hr hk).2) (fun a sI hr hk => (lI a sI hr hk).2) hp hstk hdone

/-- **`flatten(map(g)(outer))` ends only when pulled**, if the outer source does -/
theorem flat_endOnPull (F : FlatHyp Mo Mi initOf ys g) (EO : EndOnPull Mo) : EndOnPull (flatPlug Mo Mi initOf) := by
  intro s hs
  obtain ⟨sO, sF, fam, hp⟩ := F.proj s hs
  rw [hp.t.sink]
  exact flat_eok none sF hp.rF ⟨cndF_of_proj hp F.PI F.EI (demOk_none _), hp.ifcO.eOk (EO sO hp.rO)⟩

end Network

def shiftD (s : Nat) : Demand → Demand
  | none => none
  | some x => some (x + s)

theorem shiftD_map_succ (s : Nat) : ∀ x : Demand, shiftD s (x.map (· + 1)) = shiftD (s + 1) x
  | none => rfl
  | some x => congrArg some (Nat.add_right_comm x 1 s)

theorem flatCost_eq (semG : Int → Demand → List Int × Nat) (oc : Demand → Nat) (g : Int → List Int)
    (hlen : ∀ a d, (semG a (some d)).1.length = min d (g a).length) (hz : ∀ a, (semG a (some 0)).2 = 0) :
    ∀ (rest : List Int) (dem : Demand) (s : Nat),
      flatCost semG oc rest dem s =
        oc (shiftD s (needO dem (rest.map (fun a => (g a).length)))) + (innerTerms (fun a d => (semG a d).2) g rest dem).sum
  | rest, some 0, s => by
    rw [needO_zero, innerTerms_zero _ g hz]
    cases rest <;> simp [flatCost, shiftD]
  | [], none, s => by simp [flatCost, needO, shiftD, innerTerms_nil]
  | [], some (d + 1), s => by simp [flatCost, needO, shiftD, innerTerms_nil]
  | a :: rest, none, s => by
    have ih := flatCost_eq semG oc g hlen hz rest none (s + 1)
    simp only [flatCost, ih, needO_none, shiftD, innerTerms_cons, dsub, List.sum_cons]
    omega
  | a :: rest, some (d + 1), s => by
    rw [flatCost_cons_succ, hlen, sub_min, flatCost_eq semG oc g hlen hz rest _ (s + 1), List.map_cons, needO_cons_succ,
      shiftD_map_succ, innerTerms_cons, List.sum_cons]
    exact Nat.add_left_comm _ _ _

theorem flatC_eq_flatCost (semG : Int → Demand → List Int × Nat) (oc : Demand → Nat) (g : Int → List Int)
    (hlen : ∀ a d, (semG a (some d)).1.length = min d (g a).length) (hz : ∀ a, (semG a (some 0)).2 = 0) (ys : List Int) (dem : Demand) :
    flatC oc (fun a d => (semG a d).2) g ys dem = flatCost semG oc ys dem 0 := by
  rw [flatCost_eq semG oc g hlen hz ys dem 0]
  unfold flatC
  cases needO dem (ys.map (fun a => (g a).length)) <;> simp [shiftD]

end FlatDemand

namespace PlugCost
open PlugConcat ComposeFull FlatPlugSafe FlatPlugFun ComposeCost FlatDemand
variable {So Lo Si Li αo αi : Type}

/-- **`flatten(map(g)(outer))` run to its end**: the cost of the outer source plus the cost of one inner source per outer datum — the
two bounds of `flatC` at the demand `none`, which asks nothing of how the upstreams are pulled -/
theorem flat_cost {Mo : Machine So Lo αo Int} {Mi : Machine Si Li αi Int} {initOf : Int → Si} {ys : List Int} {g : Int → List Int}
    {nxO : So → Nat} {nxI : Si → Nat} {co ci : Nat}
    (hO : HeadOkT Mo ys) (NO : NoUpstream Mo) (PO : PullOnly Mo)
    (hI : ∀ a, HeadOkT (atInit Mi (initOf a)) (g a)) (NI : ∀ a, NoUpstream (atInit Mi (initOf a)))
    (kO : CostN Mo nxO co) (kI : ∀ a, CostN (atInit Mi (initOf a)) nxI ci) :
    CostN (flatPlug Mo Mi initOf) (fun st => nxO st.outer + (st.inners.map (fun p => nxI p.2)).sum) (co + ys.length * ci) := by
  refine ⟨fun s hs => ?_, fun s hs hstk hd => ?_⟩ <;> obtain ⟨sO, sF, fam, hp⟩ := flat_proj hO NO PO hI NI s hs
  · have := flat_up_of_dm (g := g) (dem := none) (oc := fun _ => co) (ci := fun _ _ => ci) hO (fun _ sO hr _ => kO.ub sO hr)
      (fun a _ sI hr _ => (kI a).ub sI hr) hs hp ((needO_none _).symm ▸ demOkSrcJ_none _ _) fun _ => demOkSrcJ_none _ _
    rwa [flatC, innerTerms_const] at this
  · have := flat_low_none (g := g) (oc := fun _ => co) (ci := fun _ _ => ci) hO kO.lb (fun a => (kI a).lb) hp hstk hd
    rwa [flatC, innerTerms_const] at this

end PlugCost
end Cb

#print axioms Cb.FlatDemand.flat_headUp
#print axioms Cb.FlatDemand.flat_headLow
#print axioms Cb.FlatDemand.flat_endOnPull
#print axioms Cb.FlatDemand.flatC_eq_flatCost
#print axioms Cb.PlugCost.flat_cost
