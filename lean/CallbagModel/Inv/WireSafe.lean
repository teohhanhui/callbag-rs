import CallbagModel.Inv.Conform
import CallbagModel.Inv.Wire
/-!
# Assume–guarantee, once: the projection of `wire W sh M₁ M₂` onto its components

Each component is the other's environment, and what makes that environment conformant is the other's safety: `M₁` free of C01–C03
violations is a conformant SOURCE for `M₂`, `M₂` free of C04 violations is a conformant SINK for `M₁`.

`wire_inv`: EVERY small-step reachable configuration of the composite projects onto reachable configurations of `M₁` and of `M₂`, each
with its own ghost and its own trace (`MatchW`).  The state is the pair of states.  The stack is the interleaving of the two stacks
(`RelW`): a call routed outside is waited on by the component that made it and only that component can be re-entered through it; a
call routed inside has a frame of the other component on top.  The ghosts agree along the table (`GW`); across the internal
boundary `M₂` sees its upstream `j` in the phase `toSrc p` when `M₁` sees its sink 0 in phase `p`.  The traces are the log of the
matched steps (`TrW`).

Every micro-step is matched (`step_lo`, `step_hi`, `step_env`).  A silent step, and a call that the table routes OUTSIDE, is the same
step of the component on top.  A call routed INSIDE is an operator step of the caller and a LEGAL environment call on the callee; an
internal return is an operator return of the callee and a legal environment return on the caller.  A move of the environment is the
same move on the component that owns that boundary (`Turn`).  A call routed `dead` does not happen: the caller's monitor forbids it,
or `HypW` does.  Legality on the callee is where `Inv/Conform.lean` comes in: the caller recorded no violation, which fixes the phase
of the interface, and the callee is at top level or waiting on a call across the same boundary (`RelW.lo_k2`, `RelW.hi_k1`), which
with that phase fixes its context.

`HypW` is what is asked of the components: their safety, that the dead routes are dead code, and two conditions about moments that
neither component can see by itself.  `sync`: if `M₁` returns from its subscription without having greeted, `M₂` must admit a late
greeting.  `opn`: `M₁` subscribes upstream while its sink `M₂` is open, and the composite's monitor asks that a sink of the composite,
i.e. of `M₂`, be open then.  Either of two conditions gives that.  `Open2 j M₂`: slot `j` subscribed or live keeps a sink of `M₂` open,
in the configurations of `M₂` in which `M₁` can run.  `SubIn M₁`: `M₁` subscribes upstream only inside its own subscription, before it
has greeted; then `M₂` is still inside the call `subSrc j`, in exactly the configuration in which it made that call
(`subscribed_fresh`), and it made it without a violation.  With late greetings `M₁` may also be inside its own subscription at top level,
entered by its upstream: that upstream has been subscribed (`lo_bottom`), and `M₁` has no other.

`MatchW.up` is the invariant that rules out a greeting by `M₁` from inside a message of `M₂` to it.
-/
namespace Cb
namespace Wire
open ComposeSafe PlugSafe LateMember

variable {S1 L1 S2 L2 ι α β γ : Type}

section Routes
variable {W : Wiring ι α β}

theorem out1_int {o : Out β} {i : In β} (h : W.out1 (γ := γ) o = .int i) :
    (o = .greet 0 ∧ i = .srcGreet W.j) ∨ ∃ d, o = .down 0 d ∧ i = .srcDown W.j d := by
  cases o with
  | greet k => cases k with
    | zero => cases h; exact .inl ⟨rfl, rfl⟩
    | succ k => cases h
  | down k d => cases k with
    | zero => cases h; exact .inr ⟨d, rfl, rfl⟩
    | succ k => cases h
  | subSrc i' => simp only [Wiring.out1] at h; split at h <;> cases h
  | srcUp i' u => simp only [Wiring.out1] at h; split at h <;> cases h
  | app b => cases h

theorem internal1_of_int {o : Out β} {i : In β} (h : W.out1 (γ := γ) o = .int i) : Internal1 o := by
  rcases out1_int h with ⟨rfl, _⟩ | ⟨d, rfl, _⟩ <;> trivial

theorem out1_ext {o : Out β} {o' : Out γ} (h : W.out1 o = .ext o') :
    ∃ i i', W.up1 i = some i' ∧ ((o = .subSrc i ∧ o' = .subSrc i') ∨ ∃ u, o = .srcUp i u ∧ o' = .srcUp i' u) := by
  cases o with
  | greet k => cases k <;> cases h
  | down k d => cases k <;> cases h
  | subSrc i => simp only [Wiring.out1] at h; split at h <;> cases h; exact ⟨i, _, ‹_›, .inl ⟨rfl, rfl⟩⟩
  | srcUp i u => simp only [Wiring.out1] at h; split at h <;> cases h; exact ⟨i, _, ‹_›, .inr ⟨u, rfl, rfl⟩⟩
  | app b => cases h

theorem out2_int {o : Out γ} {i : In α} (h : W.out2 o = .int i) :
    (o = .subSrc W.j ∧ i = .subscribe 0) ∨ ∃ u, o = .srcUp W.j u ∧ i = .sinkUp 0 u := by
  cases o with
  | subSrc i' =>
    simp only [Wiring.out2] at h
    split at h
    · rename_i hb; cases h; obtain rfl := eq_of_beq hb; exact .inl ⟨rfl, rfl⟩
    · split at h <;> cases h
  | srcUp i' u =>
    simp only [Wiring.out2] at h
    split at h
    · rename_i hb; cases h; obtain rfl := eq_of_beq hb; exact .inr ⟨u, rfl, rfl⟩
    · split at h <;> cases h
  | _ => cases h

theorem out2_ext {o o' : Out γ} (h : W.out2 o = .ext o') :
    (o' = o ∧ SinkSide o) ∨
      ∃ i i', i ≠ W.j ∧ W.up2 i = some i' ∧ ((o = .subSrc i ∧ o' = .subSrc i') ∨ ∃ u, o = .srcUp i u ∧ o' = .srcUp i' u) := by
  cases o with
  | subSrc i =>
    simp only [Wiring.out2] at h
    split at h
    · cases h
    · rename_i hij; split at h <;> cases h
      exact .inr ⟨i, _, fun e => hij (beq_iff_eq.2 e), ‹_›, .inl ⟨rfl, rfl⟩⟩
  | srcUp i u =>
    simp only [Wiring.out2] at h
    split at h
    · cases h
    · rename_i hij; split at h <;> cases h
      exact .inr ⟨i, _, fun e => hij (beq_iff_eq.2 e), ‹_›, .inr ⟨u, rfl, rfl⟩⟩
  | _ => cases h; exact .inl ⟨rfl, trivial⟩

theorem out2_ext_ne {o o' : Out γ} {l' : L2} (hw : W.out2 o = .ext o') :
    ∀ u l, (Frame.wait o l' : Frame L2 γ) ≠ .wait (.srcUp W.j u) l := by
  intro u l e
  cases e
  simp [Wiring.out2] at hw

end Routes

def Wiring.loEnter (W : Wiring ι α β) : Prop := ∃ i i1, W.enter i = .inl i1

/-- The waiting part of the composite — the component frames `cfs` that remain in the current composite frame, then the composite
frames `stk` — as the interleaving of `M₁`'s waiting stack `k1` and `M₂`'s waiting stack `k2`; `sd` is the component of the frame
directly above.  `M₂` subscribes to `M₁` when `M₁` has never run (`int2`: `k1 = []`).  At the bottom is `M₂`, or `M₁` if the
environment can enter it. -/
inductive RelW (W : Wiring ι α β) :
    Side → List (CFr L1 L2) → List (Frame (List (CFr L1 L2)) γ) → List (Frame L1 β) → List (Frame L2 γ) → Prop where
  | nil {sd} : (sd = .lo → W.loEnter) → RelW W sd [] [] [] []
  | ext1 {o o' l cfs stk k1 k2} : W.out1 o = .ext o' → RelW W .lo cfs stk k1 k2 →
      RelW W .lo [] (.wait o' (.lo l :: cfs) :: stk) (.wait o l :: k1) k2
  | ext2 {o o' l cfs stk k1 k2} : W.out2 o = .ext o' → RelW W .hi cfs stk k1 k2 →
      RelW W .hi [] (.wait o' (.hi l :: cfs) :: stk) k1 (.wait o l :: k2)
  | int1 {o i l cfs stk k1 k2} : W.out1 (γ := γ) o = .int i → RelW W .lo cfs stk k1 k2 →
      RelW W .hi (.lo l :: cfs) stk (.wait o l :: k1) k2
  | int2 {o i l cfs stk k1 k2} : W.out2 o = .int i → (o = .subSrc W.j → k1 = []) → RelW W .hi cfs stk k1 k2 →
      RelW W .lo (.hi l :: cfs) stk k1 (.wait o l :: k2)

inductive SMW (W : Wiring ι α β) : List (Frame (List (CFr L1 L2)) γ) → List (Frame L1 β) → List (Frame L2 γ) → Prop where
  | turn {sd stk k1 k2} : RelW W sd [] stk k1 k2 → SMW W stk k1 k2
  | runLo {l cfs stk k1 k2} : RelW W .lo cfs stk k1 k2 → SMW W (.run (.lo l :: cfs) :: stk) (.run l :: k1) k2
  | runHi {l cfs stk k1 k2} : RelW W .hi cfs stk k1 k2 → SMW W (.run (.hi l :: cfs) :: stk) k1 (.run l :: k2)

section RelLemmas
variable {W : Wiring ι α β} {sd : Side} {cfs : List (CFr L1 L2)} {stk : List (Frame (List (CFr L1 L2)) γ)}
  {k1 : List (Frame L1 β)} {k2 : List (Frame L2 γ)}

theorem RelW.lo_k2 (h : RelW W sd cfs stk k1 k2) : sd = .lo →
    k2 = [] ∨ (∃ l r, k2 = .wait (.subSrc W.j) l :: r) ∨ (∃ u l r, k2 = .wait (.srcUp W.j u) l :: r) := by
  induction h with
  | nil => intro _; exact .inl rfl
  | ext1 _ _ ih => exact ih
  | ext2 _ _ ih => intro h; cases h
  | int1 _ _ ih => intro h; cases h
  | int2 hw _ _ ih =>
    intro _
    rcases out2_int hw with ⟨rfl, _⟩ | ⟨u, rfl, _⟩
    · exact .inr (.inl ⟨_, _, rfl⟩)
    · exact .inr (.inr ⟨_, _, _, rfl⟩)

theorem RelW.hi_k1 (h : RelW W sd cfs stk k1 k2) : sd = .hi → k1 = [] ∨ (∃ o l r, k1 = .wait o l :: r ∧ Internal1 o) := by
  induction h with
  | nil => intro _; exact .inl rfl
  | ext1 _ _ ih => intro h; cases h
  | ext2 _ _ ih => exact ih
  | int1 hw _ ih => exact fun _ => .inr ⟨_, _, _, rfl, internal1_of_int hw⟩
  | int2 _ _ _ ih => intro h; cases h

end RelLemmas

/-- the shapes of an environment turn of the composite, and the component contexts that go with its context `c` -/
inductive Turn (W : Wiring ι α β) (stk : List (Frame (List (CFr L1 L2)) γ)) (k1 : List (Frame L1 β)) (k2 : List (Frame L2 γ)) :
    Ctx γ → Prop where
  | top : (W.loEnter → RelW W .lo [] stk k1 k2) → RelW W .hi [] stk k1 k2 → ctxOf k1 = some .top → ctxOf k2 = some .top →
      Turn W stk k1 k2 .top
  | in1 {o o'} : W.out1 o = .ext o' → RelW W .lo [] stk k1 k2 → ctxOf k1 = some (.inCall o) → Turn W stk k1 k2 (.inCall o')
  | in2 {o o'} : W.out2 o = .ext o' → RelW W .hi [] stk k1 k2 → ctxOf k2 = some (.inCall o) → Turn W stk k1 k2 (.inCall o')

theorem RelW.turn {W : Wiring ι α β} {sd} {stk : List (Frame (List (CFr L1 L2)) γ)} {k1 : List (Frame L1 β)}
    {k2 : List (Frame L2 γ)} {c : Ctx γ} (h : RelW W sd [] stk k1 k2) (hc : ctxOf stk = some c) : Turn W stk k1 k2 c := by
  cases h with
  | nil => cases hc; exact .top (fun hl => .nil fun _ => hl) (.nil nofun) rfl rfl
  | ext1 hw h => cases hc; exact .in1 hw (.ext1 hw h) rfl
  | ext2 hw h => cases hc; exact .in2 hw (.ext2 hw h) rfl

section Turn
variable {W : Wiring ι α β} {stk : List (Frame (List (CFr L1 L2)) γ)} {k1 : List (Frame L1 β)} {k2 : List (Frame L2 γ)} {c : Ctx γ}

theorem Turn.ctxSink {k : Nat} (ht : Turn W stk k1 k2 c) (h : (isTop c = true ∨ inGreet k c = true) ∨ inData k c = true) :
    ctxOf k2 = some c ∧ RelW W .hi [] stk k1 k2 := by
  cases ht with
  | top _ h2 _ hc2 => exact ⟨hc2, h2⟩
  | in1 hw => obtain ⟨_, _, _, ⟨_, rfl⟩ | ⟨_, _, rfl⟩⟩ := out1_ext hw <;> simp [isTop, inGreet, inData] at h
  | in2 hw h2 hc2 =>
    rcases out2_ext hw with ⟨rfl, _⟩ | ⟨_, _, _, _, ⟨_, rfl⟩ | ⟨_, _, rfl⟩⟩
    · exact ⟨hc2, h2⟩
    · simp [isTop, inGreet, inData] at h
    · simp [isTop, inGreet, inData] at h

theorem Turn.ctx1 (hW : W.Ok) {i i' : Nat} (hi : W.up1 i = some i') (ht : Turn W stk k1 k2 c)
    (h : (isTop c = true ∨ inSub i' c = true) ∨ inPull i' c = true) :
    ∃ c1 : Ctx β, ctxOf k1 = some c1 ∧ (W.loEnter → RelW W .lo [] stk k1 k2) ∧ isTop c1 = isTop c ∧
      (inSub i' c = true → inSub i c1 = true) ∧ (inPull i' c = true → inPull i c1 = true) := by
  cases ht with
  | top h1 _ hc1 _ => exact ⟨_, hc1, h1, rfl, nofun, nofun⟩
  | in1 hw h1 hc1 =>
    refine ⟨_, hc1, fun _ => h1, ?_⟩
    obtain ⟨i2, i2', hi2, ⟨rfl, rfl⟩ | ⟨u, rfl, rfl⟩⟩ := out1_ext hw
    · refine ⟨rfl, fun e => ?_, nofun⟩
      obtain rfl : i' = i2' := by simpa [inSub] using e
      obtain rfl := hW.inj1 _ _ _ hi hi2
      exact beq_self_eq_true _
    · refine ⟨rfl, nofun, fun e => ?_⟩
      cases u <;> simp only [inPull, beq_iff_eq, Bool.false_eq_true] at e
      subst e
      obtain rfl := hW.inj1 _ _ _ hi hi2
      exact beq_self_eq_true _
  | @in2 o o' hw =>
    exfalso
    rcases out2_ext hw with ⟨rfl, ho⟩ | ⟨i2, i2', hj2, hi2, ⟨_, rfl⟩ | ⟨u, _, rfl⟩⟩
    · cases o' <;> simp [isTop, inSub, inPull, SinkSide] at h ho
    · obtain rfl : i' = i2' := by simpa [isTop, inSub, inPull] using h
      exact hW.disj _ _ _ hj2 hi hi2
    · cases u <;> simp [isTop, inSub, inPull] at h
      subst h
      exact hW.disj _ _ _ hj2 hi hi2

theorem Turn.ctx2 (hW : W.Ok) {i i' : Nat} (hj : i ≠ W.j) (hi : W.up2 i = some i') (ht : Turn W stk k1 k2 c)
    (h : (isTop c = true ∨ inSub i' c = true) ∨ inPull i' c = true) :
    ∃ c2 : Ctx γ, ctxOf k2 = some c2 ∧ RelW W .hi [] stk k1 k2 ∧ isTop c2 = isTop c ∧
      (inSub i' c = true → inSub i c2 = true) ∧ (inPull i' c = true → inPull i c2 = true) := by
  cases ht with
  | top _ h2 _ hc2 => exact ⟨_, hc2, h2, rfl, nofun, nofun⟩
  | in1 hw =>
    exfalso
    obtain ⟨i2, i2', hi2, ⟨_, rfl⟩ | ⟨u, _, rfl⟩⟩ := out1_ext hw
    · obtain rfl : i' = i2' := by simpa [isTop, inSub, inPull] using h
      exact hW.disj _ _ _ hj hi2 hi
    · cases u <;> simp [isTop, inSub, inPull] at h
      subst h
      exact hW.disj _ _ _ hj hi2 hi
  | @in2 o o' hw h2 hc2 =>
    refine ⟨_, hc2, h2, ?_⟩
    rcases out2_ext hw with ⟨rfl, ho⟩ | ⟨i2, i2', hj2, hi2, ⟨rfl, rfl⟩ | ⟨u, rfl, rfl⟩⟩
    · cases o' <;> simp [isTop, inSub, inPull, SinkSide] at h ho
    · refine ⟨rfl, fun e => ?_, nofun⟩
      obtain rfl : i' = i2' := by simpa [inSub] using e
      obtain rfl := hW.inj2 _ _ _ hj hj2 hi hi2
      exact beq_self_eq_true _
    · refine ⟨rfl, nofun, fun e => ?_⟩
      cases u <;> simp only [inPull, beq_iff_eq, Bool.false_eq_true] at e
      subst e
      obtain rfl := hW.inj2 _ _ _ hj hj2 hi hi2
      exact beq_self_eq_true _

end Turn

/-- the three ghosts: `g` of the composite, `g1` of `M₁`, `g2` of `M₂`; an upstream of the composite that the table does not know
stays idle (`free`), and so does an upstream of a component that the table does not give it (`dead1`, `dead2`) -/
structure GW (W : Wiring ι α β) (g g1 g2 : Ph) : Prop where
  v : g.viols = []
  sink : ∀ k, g.sinkPh k = g2.sinkPh k
  ifc : g2.srcPh W.j = toSrc (g1.sinkPh 0)
  sink1 : ∀ k, g1.sinkPh (k + 1) = .idle
  src1 : ∀ i i', W.up1 i = some i' → g.srcPh i' = g1.srcPh i
  dead1 : ∀ i, W.up1 i = none → g1.srcPh i = .idle
  src2 : ∀ i i', i ≠ W.j → W.up2 i = some i' → g.srcPh i' = g2.srcPh i
  dead2 : ∀ i, i ≠ W.j → W.up2 i = none → g2.srcPh i = .idle
  free : ∀ i', (∀ i, W.up1 i ≠ some i') → (∀ i, i ≠ W.j → W.up2 i ≠ some i') → g.srcPh i' = .idle

section GW
variable {W : Wiring ι α β} {g g1 g2 : Ph}

theorem GW.setIfc (h : GW W g g1 g2) (p : SinkPh) : GW W g (g1.setSink 0 p) (g2.setSrc W.j (toSrc p)) :=
  ⟨h.v, fun k => by simp [h.sink], by simp, fun k => by simp [h.sink1], fun i i' hi => by simp [h.src1 i i' hi],
    fun i hi => by simp [h.dead1 i hi], fun i i' hij hi => by simp [hij, h.src2 i i' hij hi],
    fun i hij hi => by simp [hij, h.dead2 i hij hi], h.free⟩

theorem GW.setSinkExt (h : GW W g g1 g2) (k : Nat) (p : SinkPh) : GW W (g.setSink k p) g1 (g2.setSink k p) :=
  ⟨h.v, fun k' => by simp [h.sink], by simp [h.ifc], h.sink1, fun i i' hi => by simp [h.src1 i i' hi], h.dead1,
    fun i i' hij hi => by simp [h.src2 i i' hij hi], fun i hij hi => by simp [h.dead2 i hij hi], fun i' a b => by simp [h.free i' a b]⟩

theorem GW.setSrc1 (hW : W.Ok) (h : GW W g g1 g2) {i i' : Nat} (hi : W.up1 i = some i') (p : SrcPh) :
    GW W (g.setSrc i' p) (g1.setSrc i p) g2 := by
  refine ⟨h.v, fun k => by simp [h.sink], by simp [h.ifc], fun k => by simp [h.sink1], ?_, ?_, ?_, h.dead2, ?_⟩
  · intro i0 i0' h0
    simp only [Ph.srcPh_setSrc]
    by_cases e : i0 = i
    · subst e; cases hi.symm.trans h0; simp
    · have e' : i0' ≠ i' := by rintro rfl; exact e (hW.inj1 i i0 i0' hi h0)
      rw [if_neg e, if_neg e', h.src1 i0 i0' h0]
  · intro i0 h0
    have e : i0 ≠ i := by rintro rfl; rw [hi] at h0; cases h0
    rw [Ph.srcPh_setSrc_ne _ _ e, h.dead1 i0 h0]
  · intro i0 i0' hij h0
    have e : i0' ≠ i' := by rintro rfl; exact hW.disj i i0 i0' hij hi h0
    rw [Ph.srcPh_setSrc_ne _ _ e, h.src2 i0 i0' hij h0]
  · intro i0' a b
    have e : i0' ≠ i' := by rintro rfl; exact a i hi
    rw [Ph.srcPh_setSrc_ne _ _ e, h.free i0' a b]

theorem GW.setSrc2 (hW : W.Ok) (h : GW W g g1 g2) {i i' : Nat} (hij : i ≠ W.j) (hi : W.up2 i = some i') (p : SrcPh) :
    GW W (g.setSrc i' p) g1 (g2.setSrc i p) := by
  refine ⟨h.v, fun k => by simp [h.sink], by simp [Ne.symm hij, h.ifc], h.sink1, ?_, h.dead1, ?_, ?_, ?_⟩
  · intro i0 i0' h0
    have e : i0' ≠ i' := by rintro rfl; exact hW.disj i0 i i0' hij h0 hi
    rw [Ph.srcPh_setSrc_ne _ _ e, h.src1 i0 i0' h0]
  · intro i0 i0' h0j h0
    simp only [Ph.srcPh_setSrc]
    by_cases e : i0 = i
    · subst e; cases hi.symm.trans h0; simp
    · have e' : i0' ≠ i' := by rintro rfl; exact e (hW.inj2 i i0 i0' hij h0j hi h0)
      rw [if_neg e, if_neg e', h.src2 i0 i0' h0j h0]
  · intro i0 h0j h0
    have e : i0 ≠ i := by rintro rfl; rw [hi] at h0; cases h0
    rw [Ph.srcPh_setSrc_ne _ _ e, h.dead2 i0 h0j h0]
  · intro i0' a b
    have e : i0' ≠ i' := by rintro rfl; exact b i hij hi
    rw [Ph.srcPh_setSrc_ne _ _ e, h.free i0' a b]

theorem GW.anySinkOpen (h : GW W g g1 g2) (h2 : g2.anySinkOpen = true) : g.anySinkOpen = true :=
  anySinkOpen_of_sink h.sink h2

theorem GW.onOut_ext2 (hW : W.Ok) (h : GW W g g1 g2) {o o' : Out γ} (hw : W.out2 o = .ext o') (hv : (g2.onOut o).viols = []) :
    GW W (g.onOut o') g1 (g2.onOut o) := by
  rcases out2_ext hw with ⟨rfl, ho⟩ | ⟨i, i', hij, hi, ⟨rfl, rfl⟩ | ⟨u, rfl, rfl⟩⟩
  · rcases onOut_sinkSide_eq ho h.sink hv with ⟨e, e2⟩ | ⟨k, p, e, e2⟩ <;> rw [e, e2]
    · exact h
    · exact h.setSinkExt k p
  · obtain ⟨hidle, hopen, heq⟩ := Ph.onOut_subSrc_ok _ _ hv
    rw [heq, Ph.onOut_subSrc ((h.src2 i i' hij hi).trans hidle) (h.anySinkOpen hopen)]
    exact h.setSrc2 hW hij hi .subscribed
  · obtain ⟨hlive, heq⟩ := Ph.onOut_srcUp_ok _ _ _ hv
    rw [heq, onOut_srcUp_eq u ((h.src2 i i' hij hi).trans hlive)]
    cases u with
    | pull => exact h
    | term => exact h.setSrc2 hW hij hi .disposed
    | err e => exact h.setSrc2 hW hij hi .disposed

theorem GW.slot_open (h : GW W g g1 g2) (h1 : g1.anySinkOpen = true) :
    g2.srcPh W.j = .subscribed ∨ g2.srcPh W.j = .live := slot_open_of h.sink1 h.ifc h1

theorem GW.init : GW W ({} : Ph) {} {} :=
  ⟨rfl, fun _ => rfl, rfl, fun _ => rfl, fun _ _ _ => rfl, fun _ _ => rfl, fun _ _ _ _ => rfl, fun _ _ _ => rfl, fun _ _ _ => rfl⟩

end GW

/-- a message from an upstream that the table knows -/
def Wiring.Known (W : Wiring ι α β) : In ι → Prop
  | .srcGreet i' | .srcDown i' _ => (∃ i, W.up1 i = some i') ∨ ∃ i, i ≠ W.j ∧ W.up2 i = some i'
  | _ => True

/-- the events that one matched step adds to the three traces -/
inductive Blk (W : Wiring ι α β) : List (Ev ι γ) → List (Ev α β) → List (Ev β γ) → Prop where
  | ret1 : Blk W [.retO] [.retO] []
  | ret12 : Blk W [] [.retO] [.retE]
  | int1 {o i} : W.out1 (γ := γ) o = .int i → Blk W [] [.out o] [.inp i]
  | ext1 {o o'} : W.out1 o = .ext o' → Blk W [.out o'] [.out o] []
  | ret2 : Blk W [.retO] [] [.retO]
  | ret21 : Blk W [] [.retE] [.retO]
  | int2 {o i} : W.out2 o = .int i → Blk W [] [.inp i] [.out o]
  | ext2 {o o'} : W.out2 o = .ext o' → Blk W [.out o'] [] [.out o]
  | in1 {i i1} : W.enter i = .inl i1 → W.Known i → Blk W [.inp i] [.inp i1] []
  | in2 {i i2} : W.enter i = .inr i2 → W.Known i → Blk W [.inp i] [] [.inp i2]
  | retE1 : Blk W [.retE] [.retE] []
  | retE2 : Blk W [.retE] [] [.retE]

/-- the three traces (newest first) grow by the blocks of the matched steps -/
inductive TrW (W : Wiring ι α β) : List (Ev ι γ) → List (Ev α β) → List (Ev β γ) → Prop where
  | nil : TrW W [] [] []
  | step {e e1 e2 t t1 t2} : Blk W e e1 e2 → TrW W t t1 t2 → TrW W (e ++ t) (e1 ++ t1) (e2 ++ t2)

structure MatchW (W : Wiring ι α β) (s : Sys (S1 × S2) (List (CFr L1 L2)) ι γ) (s1 : Sys S1 L1 α β) (s2 : Sys S2 L2 β γ) :
    Prop where
  st : s.st = (s1.st, s2.st)
  p : s.panicked = none
  p1 : s1.panicked = none
  p2 : s2.panicked = none
  gh : GW W s.g.ph s1.g.ph s2.g.ph
  stk : SMW W s.stack s1.stack s2.stack
  /-- while `M₂` has a message to upstream `j` in flight, `M₁`'s sink has been greeted -/
  up : ∀ u l, Frame.wait (.srcUp W.j u) l ∈ s2.stack → NotPre (s1.g.ph.sinkPh 0)
  tr : TrW W s.tr s1.tr s2.tr

/-- the composite's shape promises its environment no more than the components' shapes promise theirs -/
structure ShapeOk (W : Wiring ι α β) (sh sh1 sh2 : Shape) : Prop where
  ms : sh.multiSink = true → sh2.multiSink = true
  lg1 : ∀ i i', W.up1 i = some i' → sh.lateGreet = true → sh1.lateGreet = true
  lg2 : ∀ i i', i ≠ W.j → W.up2 i = some i' → sh.lateGreet = true → sh2.lateGreet = true

def SubIn (M1 : Machine S1 L1 α β) : Prop :=
  ∀ st l k1 g tr i st' l', SReach M1 ⟨st, .run l :: k1, g, tr, none⟩ → M1.step st l = .call (.subSrc i) st' l' →
    g.ph.sinkPh 0 = .subscribed

structure HypW (W : Wiring ι α β) (sh : Shape) (M1 : Machine S1 L1 α β) (M2 : Machine S2 L2 β γ) : Prop where
  ok : W.Ok
  shp : ShapeOk W sh M1.shape M2.shape
  noApp1 : ∀ st l b st' l', M1.step st l ≠ .call (.app b) st' l'
  /-- `M₁` subscribes only to upstreams that the table gives it -/
  sub1 : ∀ st l k1 g tr i st' l', SReach M1 ⟨st, .run l :: k1, g, tr, none⟩ → M1.step st l = .call (.subSrc i) st' l' →
    (g.ph.onOut (.subSrc i : Out β)).viols = [] → (W.up1 i).isSome
  sub2 : ∀ st l i st' l', M2.step st l = .call (.subSrc i) st' l' → i = W.j ∨ (W.up2 i).isSome
  sync : M2.shape.lateGreet = true ∨ ∀ s, SReach M1 s → s.stack = [] → s.g.ph.sinkPh 0 ≠ .subscribed
  opn : ∀ i i', W.up1 i = some i' → Open2 W.j M2 ∨ (SubIn M1 ∧ ∀ i0 i0', W.up1 i0 = some i0' → i0 = i)
  safe1 : ∀ s, SReach M1 s → BasicSafe s
  safe2 : ∀ s, SReach M2 s → BasicSafe s

section Bottom
variable {W : Wiring ι α β} {sh : Shape} {M1 : Machine S1 L1 α β} {M2 : Machine S2 L2 β γ}

def isLo : CFr L1 L2 → Bool | .lo _ => true | .hi _ => false

/-- the bottom component frame, the one the environment entered, is `M₁`'s -/
def loLast : List (CFr L1 L2) → Bool
  | [] => false
  | [c] => isLo c
  | _ :: c :: r => loLast (c :: r)

theorem loLast_head (c c' : CFr L1 L2) (rest : List (CFr L1 L2)) (h : isLo c = isLo c') : loLast (c :: rest) = loLast (c' :: rest) := by
  cases rest with
  | nil => simpa [loLast] using h
  | cons c'' r => rfl

theorem Tau.loLast {st s' : S1 × S2} {cfs cfs' : List (CFr L1 L2)} (h : Tau W M1 M2 st cfs s' cfs') : loLast cfs' = loLast cfs := by
  cases h with
  | loRet | hiRet => rfl
  | @loInt l rest _ _ _ l' => exact loLast_head (.lo l') (.lo l) rest rfl
  | @hiInt l rest _ _ _ l' => exact loLast_head (.hi l') (.hi l) rest rfl
  | _ => exact loLast_head _ _ _ rfl

theorem Call.loLast {st s' : S1 × S2} {cfs cfs' : List (CFr L1 L2)} {o : Out γ} (h : Call W M1 M2 st cfs o s' cfs') :
    loLast cfs' = loLast cfs := by
  cases h <;> exact loLast_head _ _ _ rfl

/-- a frame of the composite whose bottom component frame is `M₁`'s was entered from outside by an upstream of `M₁` (greeting or
delivering): that upstream has been subscribed to -/
theorem lo_bottom (hW : W.Ok) {s : Sys (S1 × S2) (List (CFr L1 L2)) ι γ} (h : SReach (wire W sh M1 M2) s) :
    ∀ f ∈ s.stack, loLast f.loc = true → ∃ i i', W.up1 i = some i' ∧ s.g.ph.srcPh i' ≠ .idle := by
  revert s
  apply reach_ind
  · intro f hf; simp [Sys.init] at hf
  · intro a b ha ih hop
    cases hop with
    | @tau st l _ _ _ _ _ hst =>
      intro f hf hl
      rcases List.mem_cons.1 hf with rfl | hf
      · exact ih _ List.mem_cons_self (by simpa [Frame.loc, Tau.loLast (Edge.of hst)] using hl)
      · exact ih f (List.mem_cons_of_mem _ hf) hl
    | @call st l _ _ _ _ _ _ hst =>
      intro f hf hl
      simp only [onOut_ph]
      suffices h : ∃ i i', W.up1 i = some i' ∧ _ from h.imp fun i h => h.imp fun i' h => ⟨h.1, onOut_srcPh_notIdle _ _ _ h.2⟩
      rcases List.mem_cons.1 hf with rfl | hf
      · exact ih _ List.mem_cons_self (by simpa [Frame.loc, Call.loLast (Edge.of hst)] using hl)
      · exact ih f (List.mem_cons_of_mem _ hf) hl
    | ret hst => intro f hf hl; simp only [onRetO_ph]; exact ih f (List.mem_cons_of_mem _ hf) hl
    | panic hst => intro f hf hl; exact ih f (List.mem_cons_of_mem _ hf) hl
  · intro a b m ha ih henv
    cases henv with
    | @call st stk g tr c m hc hl =>
      intro f hf hlo
      simp only [onIn_ph]
      suffices h : ∃ i i', W.up1 i = some i' ∧ g.ph.srcPh i' ≠ .idle from
        h.imp fun i h => h.imp fun i' h => ⟨h.1, onIn_srcPh_notIdle _ _ _ h.2⟩
      rcases List.mem_cons.1 hf with rfl | hf
      · have hent := hW.ent m
        simp only [Frame.loc, wire] at hlo
        generalize W.enter m = r at hent hlo
        cases hent with
        | greet1 hi => exact ⟨_, _, hi, by rw [(legalIn_srcGreet.1 hl).1]; nofun⟩
        | down1 hi => exact ⟨_, _, hi, by rw [(legalIn_srcDown.1 hl).1]; nofun⟩
        | _ => cases hlo
      · exact ih f hf hlo
    | @ret st stk g tr o l hl =>
      intro f hf hlo
      rcases List.mem_cons.1 hf with rfl | hf
      · exact ih (.wait o l) List.mem_cons_self hlo
      · exact ih f (List.mem_cons_of_mem _ hf) hlo

end Bottom

section Steps
variable {W : Wiring ι α β} {sh : Shape} {M1 : Machine S1 L1 α β} {M2 : Machine S2 L2 β γ}

theorem step_lo (H : HypW W sh M1 M2) {st1 : S1} {st2 : S2} {l : L1} {rest : List (CFr L1 L2)}
    {stk : List (Frame (List (CFr L1 L2)) γ)} {g : G} {tr : List (Ev ι γ)}
    {k1 : List (Frame L1 β)} {k2 : List (Frame L2 γ)} {g1 g2 : G} {tr1 : List (Ev α β)} {tr2 : List (Ev β γ)}
    {b : Sys (S1 × S2) (List (CFr L1 L2)) ι γ}
    (hra : SReach (wire W sh M1 M2) ⟨(st1, st2), .run (.lo l :: rest) :: stk, g, tr, none⟩)
    (hr1 : SReach M1 ⟨st1, .run l :: k1, g1, tr1, none⟩) (hr2 : SReach M2 ⟨st2, k2, g2, tr2, none⟩)
    (hrel : RelW W .lo rest stk k1 k2) (hgh : GW W g.ph g1.ph g2.ph)
    (hup : ∀ u l, Frame.wait (.srcUp W.j u) l ∈ k2 → NotPre (g1.ph.sinkPh 0)) (htr : TrW W tr tr1 tr2)
    (hop : opStep (wire W sh M1 M2) ⟨(st1, st2), .run (.lo l :: rest) :: stk, g, tr, none⟩ = some b) :
    ∃ s1 s2, SReach M1 s1 ∧ SReach M2 s2 ∧ MatchW W b s1 s2 := by
  cases hst : M1.step st1 l with
  | tau s1' l' =>
    obtain rfl := opStep_det hop (.tau (wire_lo_tau hst))
    exact ⟨_, _, reach_op hr1 (.tau hst), hr2, ⟨rfl, rfl, rfl, rfl, hgh, .runLo hrel, hup, htr⟩⟩
  | panic m => exact nomatch (H.safe1 _ (reach_op hr1 (.panic hst))).2
  | ret =>
    have hr1' := reach_op hr1 (.ret hst)
    cases rest with
    | nil =>
      obtain rfl := opStep_det hop (.ret (wire_lo_ret_last hst))
      exact ⟨_, _, hr1', hr2, ⟨rfl, rfl, rfl, rfl, by simpa only [onRetO_ph] using hgh, .turn hrel,
        by simpa only [onRetO_ph] using hup, htr.step .ret1⟩⟩
    | cons c rest' =>
      obtain rfl := opStep_det hop (.tau (wire_lo_ret hst))
      cases hrel with
      | int2 hw hk h =>
        -- `M₁` returns into the call of `M₂` that entered it: a return of `M₂`'s environment
        refine ⟨_, _, hr1', reach_ret hr2 ?_, ⟨rfl, rfl, rfl, rfl, by simpa only [onRetO_ph] using hgh, .runHi h,
          by simp only [onRetO_ph]; exact up_cons (fun _ _ e => nomatch e) (up_tail hup), htr.step .ret12⟩⟩
        rcases out2_int hw with ⟨rfl, _⟩ | ⟨u, rfl, _⟩
        · obtain rfl := hk rfl
          rcases H.sync with hs | hs
          · simp [legalRet, hs]
          · have h1 : g1.ph.sinkPh 0 ≠ .subscribed := by simpa only [onRetO_ph] using hs _ hr1' rfl
            simp [legalRet, hgh.ifc, toSrc_subscribed, h1]
        · rfl
  | call o s1' l' =>
    have hr1' := reach_op hr1 (.call hst)
    have hv := (H.safe1 _ hr1').1
    simp only [onOut_ph] at hv
    cases hw : W.out1 (γ := γ) o with
    | int i =>
      obtain rfl := opStep_det hop (.tau (wire_lo_int hst hw))
      rcases out1_int hw with ⟨rfl, rfl⟩ | ⟨d, rfl, rfl⟩
      · obtain ⟨hsub, heq⟩ := Ph.onOut_greet_ok _ _ hv
        have hsub2 : g2.ph.srcPh W.j = .subscribed := by rw [hgh.ifc, hsub]; rfl
        obtain ⟨c, hc, hl⟩ := legal_srcGreet_of M2 hr2 W.j (hrel.lo_k2 rfl)
          (fun _ u l2 r e => absurd hsub (hup u l2 (e ▸ List.mem_cons_self)).2) hsub2
        refine ⟨_, _, hr1', reach_call hr2 (.srcGreet W.j) hc hl, ⟨rfl, rfl, rfl, rfl, ?_, .runHi (.int1 hw hrel), ?_, htr.step (.int1 hw)⟩⟩
        · simp only [onOut_ph, onIn_ph, heq]
          exact hgh.setIfc .live
        · intro u l hm
          simp only [onOut_ph, heq]
          exact ⟨by simp, by simp⟩
      · obtain ⟨hlive, heq⟩ := Ph.onOut_down_ok _ _ _ hv
        have hlive2 : g2.ph.srcPh W.j = .live := by rw [hgh.ifc, hlive]; rfl
        obtain ⟨c, hc, hl⟩ := legal_srcDown_of M2 hr2 (H.safe2 _ hr2).1 W.j (hrel.lo_k2 rfl) hlive2 d
        refine ⟨_, _, hr1', reach_call hr2 (.srcDown W.j d) hc hl, ⟨rfl, rfl, rfl, rfl, ?_, .runHi (.int1 hw hrel), ?_, htr.step (.int1 hw)⟩⟩
        · simp only [onOut_ph, onIn_ph, heq]
          cases d with
          | data x => simpa [isFinal, Ph.onIn] using hgh
          | term => simpa [isFinal, Ph.onIn, toSrc] using hgh.setIfc .doneBySrc
          | err e => simpa [isFinal, Ph.onIn, toSrc] using hgh.setIfc .doneBySrc
        · simp only [onOut_ph]
          intro u l hm
          have : NotPre (g1.ph.sinkPh 0) := ⟨by rw [hlive]; decide, by rw [hlive]; decide⟩
          exact this.onOut _
    | ext o' =>
      obtain rfl := opStep_det hop (.call (wire_lo_ext hst hw))
      have hup' : ∀ u' l0, Frame.wait (.srcUp W.j u') l0 ∈ k2 → NotPre ((g1.ph.onOut o).sinkPh 0) :=
        fun u' l0 hm => (hup u' l0 hm).onOut _
      obtain ⟨i, i', hi, ⟨rfl, rfl⟩ | ⟨u, rfl, rfl⟩⟩ := out1_ext hw
      · obtain ⟨hidle1, hopen1, heq⟩ := Ph.onOut_subSrc_ok _ _ hv
        have hopen2 : g2.ph.anySinkOpen = true := by
          rcases H.opn i i' hi with hO | ⟨hS, hone⟩
          · exact hO _ hr2 rfl (hrel.lo_k2 rfl) (hgh.slot_open hopen1)
          · -- `M₁` has not greeted `M₂` yet: `M₂` is still inside the call that subscribed slot `j`, where its sink is open
            have hsub1 : g1.ph.sinkPh 0 = .subscribed := hS _ _ _ _ _ _ _ _ hr1 hst
            rcases hrel.lo_k2 rfl with rfl | ⟨l2, r, rfl⟩ | ⟨u, l2, r, rfl⟩
            · -- at top level: `M₁` was entered from outside, by its one upstream, which is therefore not idle
              obtain rfl : rest = [] := by cases hrel <;> rfl
              obtain ⟨i0, i0', hi0, hne⟩ := lo_bottom H.ok hra _ List.mem_cons_self rfl
              obtain rfl := hone i0 i0' hi0
              cases hi.symm.trans hi0
              exact absurd ((hgh.src1 _ _ hi).trans hidle1) hne
            · have hsub2 : g2.ph.srcPh W.j = .subscribed := by rw [hgh.ifc, hsub1]; rfl
              exact (subscribed_fresh M2 hr2 (H.safe2 _ hr2).1 W.j hsub2).2 _ _ rfl
            · exact absurd hsub1 (hup u l2 List.mem_cons_self).2
        have hopenC := hgh.anySinkOpen hopen2
        refine ⟨_, _, hr1', hr2, ⟨rfl, rfl, rfl, rfl, ?_, .turn (.ext1 hw hrel), by simpa only [onOut_ph] using hup', htr.step (.ext1 hw)⟩⟩
        simp only [onOut_ph, heq, Ph.onOut_subSrc ((hgh.src1 i i' hi).trans hidle1) hopenC]
        exact hgh.setSrc1 H.ok hi .subscribed
      · obtain ⟨hlive1, heq⟩ := Ph.onOut_srcUp_ok _ _ _ hv
        refine ⟨_, _, hr1', hr2, ⟨rfl, rfl, rfl, rfl, ?_, .turn (.ext1 hw hrel), by simpa only [onOut_ph] using hup', htr.step (.ext1 hw)⟩⟩
        simp only [onOut_ph, heq, onOut_srcUp_eq u ((hgh.src1 i i' hi).trans hlive1)]
        cases u with
        | pull => exact hgh
        | term => exact hgh.setSrc1 H.ok hi .disposed
        | err e => exact hgh.setSrc1 H.ok hi .disposed
    | dead =>
      -- a dead route is a call the ghost of `M₁` forbids, or one that the hypotheses exclude
      exfalso
      cases o with
      | greet k => cases k with
        | zero => cases hw
        | succ k => have := (Ph.onOut_greet_ok _ _ hv).1; rw [hgh.sink1 k] at this; cases this
      | down k d => cases k with
        | zero => cases hw
        | succ k => have := (Ph.onOut_down_ok _ _ _ hv).1; rw [hgh.sink1 k] at this; cases this
      | subSrc i =>
        have := H.sub1 _ _ _ _ _ _ _ _ hr1 hst hv
        simp only [Wiring.out1] at hw
        split at hw
        · cases hw
        · rename_i hn; rw [hn] at this; cases this
      | srcUp i u =>
        simp only [Wiring.out1] at hw
        split at hw
        · cases hw
        · rename_i hn; have := (Ph.onOut_srcUp_ok _ _ _ hv).1; rw [hgh.dead1 i hn] at this; cases this
      | app b' => exact H.noApp1 _ _ _ _ _ hst

theorem step_hi (H : HypW W sh M1 M2) {st1 : S1} {st2 : S2} {l : L2} {rest : List (CFr L1 L2)}
    {stk : List (Frame (List (CFr L1 L2)) γ)} {g : G} {tr : List (Ev ι γ)}
    {k1 : List (Frame L1 β)} {k2 : List (Frame L2 γ)} {g1 g2 : G} {tr1 : List (Ev α β)} {tr2 : List (Ev β γ)}
    {b : Sys (S1 × S2) (List (CFr L1 L2)) ι γ}
    (hr1 : SReach M1 ⟨st1, k1, g1, tr1, none⟩) (hr2 : SReach M2 ⟨st2, .run l :: k2, g2, tr2, none⟩)
    (hrel : RelW W .hi rest stk k1 k2) (hgh : GW W g.ph g1.ph g2.ph)
    (hup : ∀ u l', Frame.wait (.srcUp W.j u) l' ∈ (Frame.run l :: k2 : List (Frame L2 γ)) → NotPre (g1.ph.sinkPh 0))
    (htr : TrW W tr tr1 tr2)
    (hop : opStep (wire W sh M1 M2) ⟨(st1, st2), .run (.hi l :: rest) :: stk, g, tr, none⟩ = some b) :
    ∃ s1 s2, SReach M1 s1 ∧ SReach M2 s2 ∧ MatchW W b s1 s2 := by
  have hup2 := up_tail hup
  cases hst : M2.step st2 l with
  | tau s2' l' =>
    obtain rfl := opStep_det hop (.tau (wire_hi_tau hst))
    exact ⟨_, _, hr1, reach_op hr2 (.tau hst), ⟨rfl, rfl, rfl, rfl, hgh, .runHi hrel, up_cons (fun _ _ e => nomatch e) hup2, htr⟩⟩
  | panic m => exact nomatch (H.safe2 _ (reach_op hr2 (.panic hst))).2
  | ret =>
    have hr2' := reach_op hr2 (.ret hst)
    cases rest with
    | nil =>
      obtain rfl := opStep_det hop (.ret (wire_hi_ret_last hst))
      exact ⟨_, _, hr1, hr2', ⟨rfl, rfl, rfl, rfl, by simpa only [onRetO_ph] using hgh, .turn hrel, hup2, htr.step .ret2⟩⟩
    | cons c rest' =>
      obtain rfl := opStep_det hop (.tau (wire_hi_ret hst))
      cases hrel with
      | int1 hw h =>
        -- `M₂` returns into the call of `M₁` that entered it: a call to a sink, from which the environment may always return
        exact ⟨_, _, reach_ret hr1 (legalRet_internal1 _ _ (internal1_of_int hw)), hr2', ⟨rfl, rfl, rfl, rfl, by simpa only [onRetO_ph] using hgh, .runLo h, hup2, htr.step .ret21⟩⟩
  | call o s2' l' =>
    have hr2' := reach_op hr2 (.call hst)
    have hv := (H.safe2 _ hr2').1
    simp only [onOut_ph] at hv
    cases hw : W.out2 o with
    | int i =>
      obtain rfl := opStep_det hop (.tau (wire_hi_int hst hw))
      rcases out2_int hw with ⟨rfl, rfl⟩ | ⟨u, rfl, rfl⟩
      · -- `M₂` subscribes to slot `j`: `M₁` has never run
        obtain ⟨hidle2, _, heq⟩ := Ph.onOut_subSrc_ok _ _ hv
        have hidle1 : g1.ph.sinkPh 0 = .idle := toSrc_idle.1 (hgh.ifc ▸ hidle2)
        obtain rfl := stack_nil_of_idle M1 hr1 hidle1 hgh.sink1
        refine ⟨_, _, reach_call hr1 (.subscribe 0) rfl (legalIn_subscribe.2 ⟨⟨rfl, hidle1⟩, .inl rfl⟩), hr2',
          ⟨rfl, rfl, rfl, rfl, ?_, .runLo (.int2 hw (fun _ => rfl) hrel), ?_, htr.step (.int2 hw)⟩⟩
        · simp only [onOut_ph, onIn_ph, heq]
          exact hgh.setIfc .subscribed
        · exact up_cons (fun _ _ e => nomatch e) fun u l0 hm => absurd hidle1 (hup2 u l0 hm).1
      · obtain ⟨hlive2, heq⟩ := Ph.onOut_srcUp_ok _ _ _ hv
        have hlive1 : g1.ph.sinkPh 0 = .live := toSrc_live.1 (hgh.ifc ▸ hlive2)
        obtain ⟨c, hc, hl⟩ := legal_sinkUp_of M1 hr1 (H.safe1 _ hr1).1 (hrel.hi_k1 rfl) hlive1 u
        have hnp : NotPre (g1.ph.sinkPh 0) := ⟨by rw [hlive1]; decide, by rw [hlive1]; decide⟩
        refine ⟨_, _, reach_call hr1 (.sinkUp 0 u) hc hl, hr2',
          ⟨rfl, rfl, rfl, rfl, ?_, .runLo (.int2 hw (fun e => nomatch e) hrel), ?_, htr.step (.int2 hw)⟩⟩
        · simp only [onOut_ph, onIn_ph, heq]
          cases u with
          | pull => simpa [Ph.onIn, Ph.afterUp] using hgh
          | term => simpa [Ph.onIn, toSrc, Ph.afterUp] using hgh.setIfc .doneBySelf
          | err e => simpa [Ph.onIn, toSrc, Ph.afterUp] using hgh.setIfc .doneBySelf
        · intro u' l0 _
          simp only [onIn_ph]
          exact hnp.onIn hl
    | ext o' =>
      obtain rfl := opStep_det hop (.call (wire_hi_ext hst hw))
      exact ⟨_, _, hr1, hr2', ⟨rfl, rfl, rfl, rfl, by simpa only [onOut_ph] using hgh.onOut_ext2 H.ok hw hv, .turn (.ext2 hw hrel),
        up_cons (out2_ext_ne hw) hup2, htr.step (.ext2 hw)⟩⟩
    | dead =>
      exfalso
      cases o with
      | subSrc i =>
        simp only [Wiring.out2] at hw
        split at hw
        · cases hw
        · rename_i hij
          split at hw
          · cases hw
          · rename_i hn
            rcases H.sub2 _ _ _ _ _ hst with rfl | h
            · exact hij (beq_self_eq_true _)
            · rw [hn] at h; cases h
      | srcUp i u =>
        simp only [Wiring.out2] at hw
        split at hw
        · cases hw
        · rename_i hij
          split at hw
          · cases hw
          · rename_i hn
            have := (Ph.onOut_srcUp_ok _ _ _ hv).1
            rw [hgh.dead2 i (fun e => hij (e ▸ beq_self_eq_true _)) hn] at this; cases this
      | _ => cases hw

theorem env_lo {st1 : S1} {st2 : S2} {stk : List (Frame (List (CFr L1 L2)) γ)} {g : G} {tr : List (Ev ι γ)}
    {k1 : List (Frame L1 β)} {k2 : List (Frame L2 γ)} {g1 g2 : G} {tr1 : List (Ev α β)} {tr2 : List (Ev β γ)} {c1 : Ctx β}
    {i : In ι} {i1 : In α}
    (hr1 : SReach M1 ⟨st1, k1, g1, tr1, none⟩) (hr2 : SReach M2 ⟨st2, k2, g2, tr2, none⟩)
    (hrel : RelW W .lo [] stk k1 k2) (hgh : GW W (g.ph.onIn i) (g1.ph.onIn i1) g2.ph)
    (hup : ∀ u l, Frame.wait (.srcUp W.j u) l ∈ k2 → NotPre (g1.ph.sinkPh 0)) (htr : TrW W tr tr1 tr2)
    (hc1 : ctxOf k1 = some c1) (hent : W.enter i = .inl i1) (hk : W.Known i) (hl1 : legalIn M1.shape g1.ph c1 i1 = true) :
    ∃ s1 s2, SReach M1 s1 ∧ SReach M2 s2 ∧
      MatchW W (⟨(st1, st2), .run ((wire W sh M1 M2).enter i) :: stk, g.onIn stk.length i, .inp i :: tr, none⟩ :
        Sys (S1 × S2) (List (CFr L1 L2)) ι γ) s1 s2 := by
  refine ⟨_, _, reach_call hr1 i1 hc1 hl1, hr2,
    ⟨rfl, rfl, rfl, rfl, by simpa only [onIn_ph] using hgh, by simp only [wire, hent]; exact .runLo hrel, ?_, htr.step (.in1 hent hk)⟩⟩
  intro u l' hm
  simp only [onIn_ph]
  exact (hup u l' hm).onIn hl1

theorem env_hi {st1 : S1} {st2 : S2} {stk : List (Frame (List (CFr L1 L2)) γ)} {g : G} {tr : List (Ev ι γ)}
    {k1 : List (Frame L1 β)} {k2 : List (Frame L2 γ)} {g1 g2 : G} {tr1 : List (Ev α β)} {tr2 : List (Ev β γ)} {c2 : Ctx γ}
    {i : In ι} {i2 : In β}
    (hr1 : SReach M1 ⟨st1, k1, g1, tr1, none⟩) (hr2 : SReach M2 ⟨st2, k2, g2, tr2, none⟩)
    (hrel : RelW W .hi [] stk k1 k2) (hgh : GW W (g.ph.onIn i) g1.ph (g2.ph.onIn i2))
    (hup : ∀ u l, Frame.wait (.srcUp W.j u) l ∈ k2 → NotPre (g1.ph.sinkPh 0)) (htr : TrW W tr tr1 tr2)
    (hc2 : ctxOf k2 = some c2) (hent : W.enter i = .inr i2) (hk : W.Known i) (hl2 : legalIn M2.shape g2.ph c2 i2 = true) :
    ∃ s1 s2, SReach M1 s1 ∧ SReach M2 s2 ∧
      MatchW W (⟨(st1, st2), .run ((wire W sh M1 M2).enter i) :: stk, g.onIn stk.length i, .inp i :: tr, none⟩ :
        Sys (S1 × S2) (List (CFr L1 L2)) ι γ) s1 s2 :=
  ⟨_, _, hr1, reach_call hr2 i2 hc2 hl2,
    ⟨rfl, rfl, rfl, rfl, by simpa only [onIn_ph] using hgh, by simp only [wire, hent]; exact .runHi hrel,
      up_cons (fun _ _ e => nomatch e) hup, htr.step (.in2 hent hk)⟩⟩

theorem step_env_call (H : HypW W sh M1 M2)
    {st1 : S1} {st2 : S2} {stk : List (Frame (List (CFr L1 L2)) γ)} {g : G} {tr : List (Ev ι γ)}
    {k1 : List (Frame L1 β)} {k2 : List (Frame L2 γ)} {g1 g2 : G} {tr1 : List (Ev α β)} {tr2 : List (Ev β γ)} {c : Ctx γ} {i : In ι}
    (hr1 : SReach M1 ⟨st1, k1, g1, tr1, none⟩) (hr2 : SReach M2 ⟨st2, k2, g2, tr2, none⟩)
    (ht : Turn W stk k1 k2 c) (hgh : GW W g.ph g1.ph g2.ph)
    (hup : ∀ u l, Frame.wait (.srcUp W.j u) l ∈ k2 → NotPre (g1.ph.sinkPh 0)) (htr : TrW W tr tr1 tr2)
    (hl : legalIn sh g.ph c i = true) :
    ∃ s1 s2, SReach M1 s1 ∧ SReach M2 s2 ∧
      MatchW W (⟨(st1, st2), .run ((wire W sh M1 M2).enter i) :: stk, g.onIn stk.length i, .inp i :: tr, none⟩ :
        Sys (S1 × S2) (List (CFr L1 L2)) ι γ) s1 s2 := by
  have hent := H.ok.ent i
  generalize hr : W.enter i = r at hent
  cases hent with
  | sub k =>
    obtain ⟨⟨hc', hidle⟩, hk⟩ := legalIn_subscribe.1 hl
    obtain ⟨hc2, h2⟩ := ht.ctxSink (k := k) (.inl (.inl hc'))
    exact env_hi (i2 := .subscribe k) hr1 hr2 h2 (hgh.setSinkExt k .subscribed) hup htr hc2 hr trivial
      (legalIn_subscribe.2 ⟨⟨hc', (hgh.sink k).symm.trans hidle⟩, hk.imp id H.shp.ms⟩)
  | up k u =>
    obtain ⟨hlive, hctx⟩ := legalIn_sinkUp.1 hl
    obtain ⟨hc2, h2⟩ := ht.ctxSink hctx
    refine env_hi hr1 hr2 h2 ?_ hup htr hc2 hr trivial (legalIn_sinkUp.2 ⟨(hgh.sink k).symm.trans hlive, hctx⟩)
    cases u with
    | pull => exact hgh
    | term => exact hgh.setSinkExt k .doneBySelf
    | err e => exact hgh.setSinkExt k .doneBySelf
  | @greet1 i0 i' hi =>
    obtain ⟨hsub, hctx⟩ := legalIn_srcGreet.1 hl
    obtain ⟨c1, hc1, h1, htop, hs, _⟩ := ht.ctx1 H.ok hi (.inl (hctx.elim .inr (.inl ·.2)))
    exact env_lo (i1 := .srcGreet _) hr1 hr2 (h1 ⟨_, _, hr⟩) (hgh.setSrc1 H.ok hi .live) hup htr hc1 hr (.inl ⟨_, hi⟩)
      (legalIn_srcGreet.2 ⟨(hgh.src1 i0 i' hi).symm.trans hsub, hctx.imp hs fun h => ⟨H.shp.lg1 _ _ hi h.1, htop ▸ h.2⟩⟩)
  | @down1 i0 i' d d1 hi hd =>
    obtain ⟨hlive, hctx⟩ := legalIn_srcDown.1 hl
    obtain ⟨c1, hc1, h1, htop, hs, hp⟩ := ht.ctx1 H.ok hi hctx
    refine env_lo hr1 hr2 (h1 ⟨_, _, hr⟩) ?_ hup htr hc1 hr (.inl ⟨_, hi⟩)
      (legalIn_srcDown.2 ⟨(hgh.src1 i0 i' hi).symm.trans hlive, hctx.imp (.imp (htop ▸ ·) hs) hp⟩)
    rw [onIn_srcDown_eq, onIn_srcDown_eq, hd]
    split
    · exact hgh.setSrc1 H.ok hi .ended
    · exact hgh
  | @greet2 i0 i' hj hi =>
    obtain ⟨hsub, hctx⟩ := legalIn_srcGreet.1 hl
    obtain ⟨c2, hc2, h2, htop, hs, _⟩ := ht.ctx2 H.ok hj hi (.inl (hctx.elim .inr (.inl ·.2)))
    exact env_hi (i2 := .srcGreet _) hr1 hr2 h2 (hgh.setSrc2 H.ok hj hi .live) hup htr hc2 hr (.inr ⟨_, hj, hi⟩)
      (legalIn_srcGreet.2 ⟨(hgh.src2 i0 i' hj hi).symm.trans hsub, hctx.imp hs fun h => ⟨H.shp.lg2 _ _ hj hi h.1, htop ▸ h.2⟩⟩)
  | @down2 i0 i' d d2 hj hi hd =>
    obtain ⟨hlive, hctx⟩ := legalIn_srcDown.1 hl
    obtain ⟨c2, hc2, h2, htop, hs, hp⟩ := ht.ctx2 H.ok hj hi hctx
    refine env_hi hr1 hr2 h2 ?_ hup htr hc2 hr (.inr ⟨_, hj, hi⟩)
      (legalIn_srcDown.2 ⟨(hgh.src2 i0 i' hj hi).symm.trans hlive, hctx.imp (.imp (htop ▸ ·) hs) hp⟩)
    rw [onIn_srcDown_eq, onIn_srcDown_eq, hd]
    split
    · exact hgh.setSrc2 H.ok hj hi .ended
    · exact hgh
  | freeG a b => have := (legalIn_srcGreet.1 hl).1; rw [hgh.free _ a b] at this; cases this
  | freeD a b => have := (legalIn_srcDown.1 hl).1; rw [hgh.free _ a b] at this; cases this

theorem legalRet_subSrc {β' γ' : Type} {sh sh' : Shape} {g g' : Ph} {i i' : Nat} (hlg : sh.lateGreet = true → sh'.lateGreet = true)
    (hph : g.srcPh i' = g'.srcPh i) (hl : legalRet sh g (.inCall (.subSrc i') : Ctx γ') = true) :
    legalRet sh' g' (.inCall (.subSrc i) : Ctx β') = true := by
  simp only [legalRet, Bool.or_eq_true, bne_iff_ne] at hl ⊢
  exact hl.imp hlg (hph ▸ ·)

theorem step_env (H : HypW W sh M1 M2)
    {a b : Sys (S1 × S2) (List (CFr L1 L2)) ι γ} {s1 : Sys S1 L1 α β} {s2 : Sys S2 L2 β γ} {m : Move ι}
    (hr1 : SReach M1 s1) (hr2 : SReach M2 s2) (hm : MatchW W a s1 s2) (he : EnvStep (wire W sh M1 M2) m a b) :
    ∃ s1' s2', SReach M1 s1' ∧ SReach M2 s2' ∧ MatchW W b s1' s2' := by
  obtain ⟨st1, k1, g1, tr1, p1⟩ := s1
  obtain ⟨st2, k2, g2, tr2, p2⟩ := s2
  obtain ⟨hst, _, hp1, hp2, hgh, hsm, hup, htr⟩ := hm
  simp only at hp1 hp2
  subst hp1 hp2
  cases he with
  | @call st stk g tr c i hc hl =>
    simp only at hst hgh hsm hup htr
    subst hst
    cases hsm with
    | runLo h => cases hc
    | runHi h => cases hc
    | turn hrel => exact step_env_call H hr1 hr2 (hrel.turn hc) hgh hup htr hl
  | @ret st stk g tr o l hl =>
    simp only at hst hgh hsm hup htr
    subst hst
    cases hsm with
    | turn hrel =>
      cases hrel with
      | ext1 hw h =>
        refine ⟨_, _, reach_ret hr1 ?_, hr2, ⟨rfl, rfl, rfl, rfl, hgh, .runLo h, hup, htr.step .retE1⟩⟩
        obtain ⟨i, i', hi, ⟨rfl, rfl⟩ | ⟨u, rfl, rfl⟩⟩ := out1_ext hw
        · exact legalRet_subSrc (H.shp.lg1 _ _ hi) (hgh.src1 i i' hi) hl
        · rfl
      | ext2 hw h =>
        refine ⟨_, _, hr1, reach_ret hr2 ?_,
          ⟨rfl, rfl, rfl, rfl, hgh, .runHi h, up_cons (fun _ _ e => nomatch e) (up_tail hup), htr.step .retE2⟩⟩
        rcases out2_ext hw with ⟨rfl, ho⟩ | ⟨i, i', hj, hi, ⟨rfl, rfl⟩ | ⟨u, rfl, rfl⟩⟩
        · exact legalRet_sinkSide _ _ ho
        · exact legalRet_subSrc (H.shp.lg2 _ _ hj hi) (hgh.src2 i i' hj hi) hl
        · rfl

/-- **The projection**: every reachable configuration of `wire W sh M₁ M₂` projects onto reachable configurations of `M₁` and `M₂`. -/
theorem wire_inv (H : HypW W sh M1 M2) :
    ∀ s, SReach (wire W sh M1 M2) s → ∃ s1 s2, SReach M1 s1 ∧ SReach M2 s2 ∧ MatchW W s s1 s2 := by
  intro s hs
  induction hs with
  | init =>
    exact ⟨Sys.init M1, Sys.init M2, .init, .init, ⟨rfl, rfl, rfl, rfl, GW.init, .turn (sd := .hi) (.nil nofun), nofun, .nil⟩⟩
  | @step a b ha hab ih =>
    obtain ⟨s1, s2, hr1, hr2, hm⟩ := ih
    cases hab with
    | env he _ => exact step_env H hr1 hr2 hm he
    | op hop =>
      obtain ⟨st, stk, g, tr, p⟩ := a
      obtain ⟨st1, k1, g1, tr1, p1⟩ := s1
      obtain ⟨st2, k2, g2, tr2, p2⟩ := s2
      obtain ⟨hst, hp, hp1, hp2, hgh, hsm, hup, htr⟩ := hm
      simp only at hst hp hp1 hp2 hgh hsm hup htr
      subst hst hp hp1 hp2
      cases hsm with
      | turn hrel =>
        have hturn : (ctxOf stk).isSome = true := by cases hrel <;> rfl
        have := opStep_none_of_envTurn (M := wire W sh M1 M2) (s := ⟨(st1, st2), stk, g, tr, none⟩) ⟨rfl, hturn⟩
        rw [this] at hop; cases hop
      | runLo hrel => exact step_lo H ha hr1 hr2 hrel hgh hup htr hop
      | runHi hrel => exact step_hi H hr1 hr2 hrel hgh hup htr hop

end Steps
end Wire
end Cb

#print axioms Cb.Wire.lo_bottom
#print axioms Cb.Wire.wire_inv
