import CallbagModel.Inv.ComposeSafe
import CallbagModel.Inv.Relay
import CallbagModel.Inv.Take
import CallbagModel.Inv.FromIter
import CallbagModel.Inv.ForEach
import CallbagModel.Inv.Concat
import CallbagModel.Inv.Flatten
import CallbagModel.Inv.Merge
/-!
# Assume–guarantee by ROLE: heads, stages and tails of a pipeline

`Pipeable M` (ComposeSafe.lean) asks of `M` everything `compose_basicSafe` asks of either component; the relays and `take` qualify
(`Relay.pipeable`, `Take.pipeable` below, each field read off the operator's invariant of turns or off the listing of its steps).
Operators that qualify in one role only — a source-like head (`from_iter`, `concat!`, `flatten`), a sink-like tail (`for_each`) — are
covered by splitting it (`UpSide`, `DownSide`; `pipeable_iff`).

`compose_safe_of_roles : UpSide M₁ → DownSide M₂ → pipeline safe`, and the two closure lemmas that are true:
`UpSide.compose` (head ∘ stage is a head; uses `UpSide M₁`, and BOTH roles of the stage `M₂`), `DownSide.compose` (stage ∘ tail is a
tail; uses BOTH roles of the stage `M₁`, and `DownSide M₂`); the two together are `Pipeable.compose` (stage ∘ stage is a stage).
Payoff: `closed_pipeline_safe`, closed pull pipelines `pipe!(head, stage, …, stage, for_each(f))` of any length.
The last section shows that the split is needed (`for_each` is no head; `concat!`, `flatten` are no tails) and that `merge!`, proved safe for
the shape `lateGreet := true`, fits neither role.
-/
namespace Cb
open ComposeSafe

theorem FromIter.calls {ι α α' : Type} {next : ι → Option (α × ι)} {it0 : ι} {st l o st' l'}
    (h : (FromIter.machine α' next it0).step st l = .call o st' l') : o = .greet 0 ∨ ∃ d, o = .down 0 d := by
  cases FromIter.Edge.of h with
  | sub0 => exact .inl rfl
  | w4_term _ | w4_data _ _ _ => exact .inr ⟨_, rfl⟩

theorem ForEach.calls {α : Type} {st : ForEach.St} {l : ForEach.Loc α} {o st' l'}
    (h : (ForEach.machine α).step st l = .call o st' l') : o = .subSrc 0 ∨ o = .srcUp 0 .pull ∨ ∃ a, o = .app a := by
  cases ForEach.Edge.of h with
  | sub0 => exact .inl rfl
  | pull => exact .inr (.inl rfl)
  | d0 a => exact .inr (.inr ⟨a, rfl⟩)

theorem Relay.calls {σ α β : Type} (k : Relay.Kind σ α β) {st l o st' l'}
    (h : (Relay.machine k).step st l = .call o st' l') : (∀ b, o ≠ .app b) ∧ ∀ i, o ≠ .subSrc (i + 1) := by
  cases Relay.Edge.of h <;> exact ⟨nofun, nofun⟩

theorem Take.calls {α : Type} (max : Nat) {st l o st' l'}
    (h : (Take.machine α max).step st l = .call o st' l') : (∀ b, o ≠ .app b) ∧ ∀ i, o ≠ .subSrc (i + 1) := by
  cases Take.Edge.of h <;> exact ⟨nofun, nofun⟩

theorem Relay.sync {σ α β : Type} (k : Relay.Kind σ α β) (hk : k.slotted = false → ∀ s a, (k.xfer s a).2 ≠ none) :
    ∀ s, SReach (Relay.machine k) s → s.stack = [] → s.g.ph.sinkPh 0 ≠ .subscribed := fun s hs hstk h =>
  nomatch hstk.symm.trans ((Relay.inv_of_turn k hk hs
    (envTurn_of_top (Relay.relay_basicSafe k hk s hs).2 hstk)).2.2.2.2.of_subscribed (.inl h)).2.2

theorem Relay.noApp {σ α β : Type} (k : Relay.Kind σ α β) :
    ∀ st l b st' l', (Relay.machine k).step st l ≠ .call (.app b) st' l' :=
  fun _ _ b _ _ h => (Relay.calls k h).1 b rfl

theorem Relay.oneSrc {σ α β : Type} (k : Relay.Kind σ α β) :
    ∀ st l i st' l', (Relay.machine k).step st l ≠ .call (.subSrc (i + 1)) st' l' :=
  fun _ _ i _ _ h => (Relay.calls k h).2 i rfl

theorem Relay.opn {σ α β : Type} (k : Relay.Kind σ α β) (hk : k.slotted = false → ∀ s a, (k.xfer s a).2 ≠ none) :
    ∀ s, SReach (Relay.machine k) s → EnvTurn s → (s.g.ph.srcPh 0 = .subscribed ∨ s.g.ph.srcPh 0 = .live) →
      s.g.ph.anySinkOpen = true := by
  intro s hs ht h
  obtain ⟨_, _, _, _, hm⟩ := Relay.inv_of_turn k hk hs ht
  apply (Ph.anySinkOpen_iff _).2
  cases hm with
  | m1 _ h2 _ => simp [h2] at h
  | m2 h1 _ _ => exact ⟨0, .inl h1⟩
  | m3 h1 _ _ _ => exact ⟨0, .inr h1⟩
  | m4 _ h2 _ => simp [h2] at h
  | m5 _ h2 _ => simp [h2] at h

theorem Take.opn {α : Type} (max : Nat) :
    ∀ s, SReach (Take.machine α max) s → EnvTurn s → (s.g.ph.srcPh 0 = .subscribed ∨ s.g.ph.srcPh 0 = .live) →
      s.g.ph.anySinkOpen = true := by
  intro s hs ht h
  obtain ⟨_, _, _, _, _, hm⟩ := Take.inv_of_turn max hs ht
  apply (Ph.anySinkOpen_iff _).2
  cases hm with
  | m1 _ h2 _ _ _ _ => simp [h2] at h
  | m2 h1 _ _ _ _ _ => exact ⟨0, .inl h1⟩
  | m3 h1 _ _ _ _ _ => exact ⟨0, .inr h1⟩
  | m4 _ h2 _ _ => simp [h2] at h
  | m5 _ h2 _ _ => simp [h2] at h
  | m6 _ h2 _ _ _ => simp [h2] at h
  | m7 _ h2 _ _ => simp [h2] at h

theorem Take.noApp {α : Type} (max : Nat) :
    ∀ st l b st' l', (Take.machine α max).step st l ≠ .call (.app b) st' l' :=
  fun _ _ b _ _ h => (Take.calls max h).1 b rfl

theorem Take.oneSrc {α : Type} (max : Nat) :
    ∀ st l i st' l', (Take.machine α max).step st l ≠ .call (.subSrc (i + 1)) st' l' :=
  fun _ _ i _ _ h => (Take.calls max h).2 i rfl

theorem Take.sync {α : Type} (max : Nat) :
    ∀ s, SReach (Take.machine α max) s → s.stack = [] → s.g.ph.sinkPh 0 ≠ .subscribed := fun s hs hstk h =>
  nomatch hstk.symm.trans ((Take.inv_of_turn max hs
    (envTurn_of_top (Take.take_basicSafe max s hs).2 hstk)).2.2.2.2.2.of_subscribed (.inl h)).2.2.2.2.2

theorem Relay.pipeable {σ α β : Type} (k : Relay.Kind σ α β) (hk : k.slotted = false → ∀ s a, (k.xfer s a).2 ≠ none) :
    Pipeable (Relay.machine k) :=
  ⟨rfl, Relay.noApp k, Relay.oneSrc k, Relay.sync k hk, Relay.opn k hk, Relay.relay_basicSafe k hk⟩

theorem Take.pipeable {α : Type} (max : Nat) : Pipeable (Take.machine α max) :=
  ⟨rfl, Take.noApp max, Take.oneSrc max, Take.sync max, Take.opn max, Take.take_basicSafe max⟩

variable {St Loc S1 L1 S2 L2 α β γ : Type}

/-- what `compose_basicSafe` asks of the upstream-side component -/
structure UpSide (M : Machine St Loc α β) : Prop where
  noApp : ∀ st l b st' l', M.step st l ≠ .call (.app b) st' l'
  sync : ∀ s, SReach M s → s.stack = [] → s.g.ph.sinkPh 0 ≠ .subscribed
  safe : ∀ s, SReach M s → BasicSafe s

/-- what `compose_basicSafe` asks of the downstream-side component -/
structure DownSide (M : Machine St Loc α β) : Prop where
  lg : M.shape.lateGreet = false
  oneSrc : ∀ st l i st' l', M.step st l ≠ .call (.subSrc (i + 1)) st' l'
  opn : ∀ s, SReach M s → EnvTurn s → (s.g.ph.srcPh 0 = .subscribed ∨ s.g.ph.srcPh 0 = .live) → s.g.ph.anySinkOpen = true
  safe : ∀ s, SReach M s → BasicSafe s

theorem Pipeable.upSide {M : Machine St Loc α β} (P : Pipeable M) : UpSide M := ⟨P.noApp, P.sync, P.safe⟩
theorem Pipeable.downSide {M : Machine St Loc α β} (P : Pipeable M) : DownSide M := ⟨P.lg, P.oneSrc, P.opn, P.safe⟩

theorem pipeable_iff {M : Machine St Loc α β} : Pipeable M ↔ UpSide M ∧ DownSide M :=
  ⟨fun P => ⟨P.upSide, P.downSide⟩, fun ⟨U, D⟩ => ⟨D.lg, U.noApp, D.oneSrc, U.sync, D.opn, U.safe⟩⟩

theorem hyp_of_roles {M1 : Machine S1 L1 α β} {M2 : Machine S2 L2 β γ} (U : UpSide M1) (D : DownSide M2) : Hyp M1 M2 :=
  ⟨D.lg, U.noApp, D.oneSrc, U.sync, D.opn, U.safe, D.safe⟩

/-- **Assume–guarantee by role**: a head-capable operator followed by a tail-capable one -/
theorem compose_safe_of_roles {M1 : Machine S1 L1 α β} {M2 : Machine S2 L2 β γ} (U : UpSide M1) (D : DownSide M2) :
    ∀ s, SReach (compose M1 M2) s → BasicSafe s :=
  compose_basicSafe M1 M2 D.lg U.noApp D.oneSrc U.sync D.opn U.safe D.safe

/-- a head followed by a stage is a head.  Fields used: all of `UpSide M₁`; of `M₂`: `lg`, `oneSrc`, `opn`, `safe` (to compose at all),
`noApp` (the pipeline applies a closure iff `M₂` does) and `sync` (the pipeline's sink is `M₂`'s sink). -/
theorem UpSide.compose {M1 : Machine S1 L1 α β} {M2 : Machine S2 L2 β γ} (U1 : UpSide M1) (D2 : DownSide M2) (U2 : UpSide M2) :
    UpSide (Cb.compose M1 M2) := by
  refine ⟨compose_noApp U2.noApp, fun s hs hstk => ?_, compose_safe_of_roles U1 D2⟩
  obtain ⟨s1, s2, _, hr2, hm⟩ := compose_inv (hyp_of_roles U1 D2) s hs
  rw [hm.gh.sink 0]
  exact U2.sync _ hr2 (hm.stack_nil hstk).2

theorem UpSide.compose' {M1 : Machine S1 L1 α β} {M2 : Machine S2 L2 β γ} (U1 : UpSide M1) (P2 : Pipeable M2) :
    UpSide (Cb.compose M1 M2) := U1.compose P2.downSide P2.upSide

/-- a stage followed by a tail is a tail.  Fields used: all of `DownSide M₂`; of `M₁`: `noApp`, `sync`, `safe` (to compose at all),
`lg` and `oneSrc` (the pipeline's upstreams are `M₁`'s) and `opn` (chained with `M₂`'s through the internal interface). -/
theorem DownSide.compose {M1 : Machine S1 L1 α β} {M2 : Machine S2 L2 β γ} (U1 : UpSide M1) (D1 : DownSide M1) (D2 : DownSide M2) :
    DownSide (Cb.compose M1 M2) := by
  refine ⟨D1.lg, compose_oneSrc D1.oneSrc, fun s hs ht h => ?_, compose_safe_of_roles U1 D2⟩
  obtain ⟨s1, s2, hr1, hr2, hm⟩ := compose_inv (hyp_of_roles U1 D2) s hs
  obtain ⟨ht1, ht2⟩ := hm.turns ht
  exact hm.gh.anySinkOpen (D1.opn _ hr1 ht1 (hm.gh.src 0 ▸ h)) (D2.opn _ hr2 ht2)

theorem DownSide.compose' {M1 : Machine S1 L1 α β} {M2 : Machine S2 L2 β γ} (P1 : Pipeable M1) (D2 : DownSide M2) :
    DownSide (Cb.compose M1 M2) := DownSide.compose P1.upSide P1.downSide D2

/-- a pipeline of two pipeable operators is pipeable: `compose_basicSafe` can be iterated -/
theorem Pipeable.compose {S1 L1 S2 L2 α β γ : Type} {M1 : Machine S1 L1 α β} {M2 : Machine S2 L2 β γ}
    (P1 : Pipeable M1) (P2 : Pipeable M2) : Pipeable (compose M1 M2) :=
  pipeable_iff.2 ⟨P1.upSide.compose' P2, DownSide.compose' P1 P2.downSide⟩

/-- `pipe!(source, <relay>, take(max))` — e.g. `map(f)`, `filter(p)`, `scan(r, seed)`, `skip(n)` followed by `take(max)` — is
phase-level safe; all hypotheses of `compose_basicSafe` are discharged from `Inv/Relay.lean` and `Inv/Take.lean` -/
theorem compose_relay_take_basicSafe {σ α β : Type} (k : Relay.Kind σ α β)
    (hk : k.slotted = false → ∀ s a, (k.xfer s a).2 ≠ none) (max : Nat) :
    ∀ s, SReach (compose (Relay.machine k) (Take.machine β max)) s → BasicSafe s :=
  ((Relay.pipeable k hk).compose (Take.pipeable max)).safe

example {α β : Type} (f : α → β) (max : Nat) :
    ∀ s, SReach (compose (Relay.machine (Relay.map f)) (Take.machine β max)) s → BasicSafe s :=
  compose_relay_take_basicSafe (Relay.map f) (Relay.map_ok f) max

/-- a four-stage pipeline `pipe!(source, filter(p), map(f), take(n), scan(r, seed))`, bracketed both ways -/
example {α β γ : Type} (p : α → Bool) (f : α → β) (n : Nat) (r : γ → β → γ) (seed : γ) :
    (∀ s, SReach (compose (compose (compose (Relay.machine (Relay.filter p)) (Relay.machine (Relay.map f))) (Take.machine β n))
        (Relay.machine (Relay.scan r seed))) s → BasicSafe s) ∧
    (∀ s, SReach (compose (Relay.machine (Relay.filter p)) (compose (Relay.machine (Relay.map f))
        (compose (Take.machine β n) (Relay.machine (Relay.scan r seed))))) s → BasicSafe s) := by
  have hF := Relay.pipeable (Relay.filter p) (Relay.filter_ok p)
  have hM := Relay.pipeable (Relay.map f) (Relay.map_ok f)
  have hT := Take.pipeable (α := β) n
  have hS := Relay.pipeable (Relay.scan r seed) (Relay.scan_ok r seed)
  exact ⟨(((hF.compose hM).compose hT).compose hS).safe, (hF.compose (hM.compose (hT.compose hS))).safe⟩

/-- `from_iter`: no upstream at all, so it qualifies in both roles (`opn`, `oneSrc` are vacuous) -/
theorem FromIter.pipeable {ι α α' : Type} (next : ι → Option (α × ι)) (it0 : ι) :
    Pipeable (FromIter.machine α' next it0) := by
  refine ⟨rfl, ?_, ?_, ?_, ?_, FromIter.fromIter_basicSafe next it0⟩
  · intro st l b st' l' h
    rcases FromIter.calls h with ho | ⟨d, ho⟩ <;> cases ho
  · intro st l i st' l' h
    rcases FromIter.calls h with ho | ⟨d, ho⟩ <;> cases ho
  · intro s hs hstk
    obtain ⟨_, _, _, _, hm⟩ :=
      FromIter.inv_of_turn next it0 hs (envTurn_of_top (FromIter.fromIter_basicSafe next it0 s hs).2 hstk)
    cases hm with
    | idle h | live0 h | live1 h | self0 h | self1 h | src0 h | src1 h => simp [h]
  · intro s hs ht h
    obtain ⟨_, _, hsrc, _, _⟩ := FromIter.inv_of_turn next it0 hs ht
    rw [hsrc 0] at h
    rcases h with h | h <;> cases h

theorem FromIter.upSide {ι α α' : Type} (next : ι → Option (α × ι)) (it0 : ι) : UpSide (FromIter.machine α' next it0) :=
  (FromIter.pipeable next it0).upSide

/-- `for_each`: a tail.  Its only sink (the user who applied it) is `subscribed` for ever, which counts as open.  It is NOT an
`UpSide`: it applies the user closure (`app`), and `sync` fails (its sink is never greeted). -/
theorem ForEach.downSide {α : Type} : DownSide (ForEach.machine α) := by
  refine ⟨rfl, ?_, ?_, ForEach.forEach_basicSafe⟩
  · intro st l i st' l' h
    rcases ForEach.calls h with ho | ho | ⟨a, ho⟩ <;> cases ho
  · intro s hs ht h
    obtain ⟨_, _, _, _, hm⟩ := ForEach.inv_of_turn hs ht
    apply (Ph.anySinkOpen_iff _).2
    cases hm with
    | m1 _ h2 | m4 _ h2 => simp [h2] at h
    | m2 h1 | m3 h1 | m3a h1 => exact ⟨0, .inl h1⟩

/-- n-ary `concat!` as the head of a pipeline; its members stay external upstreams of the pipeline.  Not a `DownSide` for `n ≥ 2`
(it subscribes to members `1 … n-1`; `compose` wires only upstream 0). -/
theorem Concat.upSide {α : Type} (n : Nat) (hn : 0 < n) : UpSide (Concat.machine α n) := by
  refine ⟨?_, ?_, Concat.concat_basicSafe n hn⟩
  · intro st l b st' l' h
    cases Concat.Edge.of h
  · intro s hs hstk
    obtain ⟨_, _, _, hm⟩ := Concat.inv_of_turn n hn hs (envTurn_of_top (Concat.concat_basicSafe n hn s hs).2 hstk)
    cases hm with
    | idle h _ _ _ => simp [h]
    | waiting _ _ _ _ _ _ h => obtain ⟨r, h, _⟩ := h; simp [hstk] at h
    | live _ _ h _ _ _ _ => simp [h]
    | over h _ _ => rcases h with h | h <;> simp [h]

/-- `flatten` as the head of a pipeline; the outer and all inner sources stay external.  Not a `DownSide` (it subscribes to the
inner sources `1, 2, …`). -/
theorem Flatten.upSide {α : Type} : UpSide (Flatten.machine α) := by
  refine ⟨?_, ?_, Flatten.flatten_basicSafe⟩
  · intro st l b st' l' h
    cases Flatten.Edge.of h
  · intro s hs hstk
    obtain ⟨_, _, _, _, _, hm⟩ := Flatten.inv_of_turn hs (envTurn_of_top (Flatten.flatten_basicSafe s hs).2 hstk)
    cases hm with
    | init h _ _ _ _ _ => simp [h]
    | sub _ _ h _ _ _ => simp [hstk] at h
    | live h _ _ _ _ => simp [h]
    | wgreet _ _ _ _ _ _ _ h | od1 _ _ _ _ h | oe1 _ _ _ _ h | ie1 _ _ _ h | x1 _ _ _ _ h =>
      obtain ⟨r, h, _⟩ := h; simp [hstk] at h
    | fin h _ _ => rcases h with h | h <;> simp [h]

/-- `pipe!(head, stage, for_each(f))` where `stage` may itself be a pipeline of stages (`Pipeable.compose`): phase-level safe
(C01–C03, protocol part of C04 at the boundary to the head's external upstreams and to the user) and never panics (C17) -/
theorem closed_pipeline_safe {Msrc : Machine S1 L1 α β} {Mmid : Machine S2 L2 β γ} (hsrc : UpSide Msrc) (hmid : Pipeable Mmid) :
    ∀ s, SReach (compose (compose Msrc Mmid) (ForEach.machine γ)) s → BasicSafe s :=
  compose_safe_of_roles (hsrc.compose' hmid) ForEach.downSide

/-- the same, bracketed the other way: `pipe!(head, pipe!(stage, for_each(f)))` -/
theorem closed_pipeline_safe' {Msrc : Machine S1 L1 α β} {Mmid : Machine S2 L2 β γ} (hsrc : UpSide Msrc) (hmid : Pipeable Mmid) :
    ∀ s, SReach (compose Msrc (compose Mmid (ForEach.machine γ))) s → BasicSafe s :=
  compose_safe_of_roles hsrc (DownSide.compose' hmid ForEach.downSide)

/-- no stage at all: `pipe!(head, for_each(f))` -/
theorem closed_pipeline_safe₀ {Msrc : Machine S1 L1 α β} (hsrc : UpSide Msrc) :
    ∀ s, SReach (compose Msrc (ForEach.machine β)) s → BasicSafe s :=
  compose_safe_of_roles hsrc ForEach.downSide

/-- `pipe!(from_iter(it), filter(p), map(f), take(n), for_each(g))` -/
example {ι α β : Type} (next : ι → Option (α × ι)) (it0 : ι) (p : α → Bool) (f : α → β) (n : Nat) :
    ∀ s, SReach (compose (compose (FromIter.machine Unit next it0)
        (compose (compose (Relay.machine (Relay.filter p)) (Relay.machine (Relay.map f))) (Take.machine β n)))
        (ForEach.machine β)) s → BasicSafe s :=
  closed_pipeline_safe (FromIter.upSide next it0)
    (((Relay.pipeable (Relay.filter p) (Relay.filter_ok p)).compose
      (Relay.pipeable (Relay.map f) (Relay.map_ok f))).compose (Take.pipeable n))

/-- `pipe!(concat!(a, b), skip(k), for_each(g))`: the two members `a`, `b` are the external upstreams 0, 1 of the pipeline -/
example {α : Type} (k : Nat) :
    ∀ s, SReach (compose (compose (Concat.machine α 2) (Relay.machine (Relay.skip k))) (ForEach.machine α)) s → BasicSafe s :=
  closed_pipeline_safe (Concat.upSide 2 (by decide)) (Relay.pipeable (Relay.skip k) (Relay.skip_ok k))

/-- `pipe!(flatten(outer), scan(r, seed), take(n), for_each(g))` -/
example {α β : Type} (r : β → α → β) (seed : β) (n : Nat) :
    ∀ s, SReach (compose (compose (Flatten.machine α)
        (compose (Relay.machine (Relay.scan r seed)) (Take.machine β n))) (ForEach.machine β)) s → BasicSafe s :=
  closed_pipeline_safe Flatten.upSide
    ((Relay.pipeable (Relay.scan r seed) (Relay.scan_ok r seed)).compose (Take.pipeable n))

/-! ## What is not an instance: `merge!` in either role, `for_each` as a head, `concat!` and `flatten` as tails -/

/-- as a tail: `merge!` is proved safe (`merge_basicSafe`) for the shape `lateGreet := true` — its members may greet after the
subscribing call has returned — and `compose_basicSafe` needs `lateGreet = false` of the downstream-side component (besides, for
`n ≥ 2` it has more than one upstream) -/
theorem Merge.not_downSide {α : Type} (n : Nat) : ¬ DownSide (Merge.machine α n) := by
  intro D
  have := D.lg
  simp [Merge.machine] at this

/-- as a head: `sync` fails.  Because members may greet late, the subscribing call can return before the sink has been greeted:
`subscribe 0; [subSrc 0; ret]` ends with an empty stack and the sink still `subscribed` -/
theorem Merge.not_sync {α : Type} :
    ¬ (∀ s, SReach (Merge.machine α 1) s → s.stack = [] → s.g.ph.sinkPh 0 ≠ .subscribed) := by
  intro h
  have r0 : SReach (Merge.machine α 1) (Sys.init (Merge.machine α 1)) := .init
  have e1 := EnvStep.call (M := Merge.machine α 1) (st := (Merge.machine α 1).init) (stk := []) (g := {}) (tr := [])
    (.subscribe 0) rfl (by simp [legalIn, isTop])
  have r1 := reach_env r0 e1
  have r2 := reach_op r1 (OStep.tau (s' := (Merge.machine α 1).init) (l' := .subCall 0)
    (by simp [Merge.machine, Merge.step, Merge.enter]))
  have r3 := reach_op r2 (OStep.call (o := .subSrc 0) (s' := (Merge.machine α 1).init) (l' := .subLoop 1)
    (by simp [Merge.machine, Merge.step]))
  have e4 := EnvStep.ret (M := Merge.machine α 1) (st := (Merge.machine α 1).init) (stk := [])
    (g := (({} : G).onIn 0 (.subscribe 0 : In α)).onOut (Merge.machine α 1).shape (.subSrc 0 : Out α))
    (tr := [.out (.subSrc 0), .inp (.subscribe 0)]) (o := .subSrc 0) (l := .subLoop 1) (by simp [legalRet, Merge.machine])
  have r4 := reach_env r3 e4
  have r5 := reach_op r4 (OStep.ret (by simp [Merge.machine, Merge.step]))
  refine h _ r5 rfl ?_
  have hopen : (({} : Ph).setSink 0 .subscribed).anySinkOpen = true := (Ph.anySinkOpen_iff _).2 ⟨0, by simp⟩
  rw [onRetO_ph, onOut_ph, onIn_ph, Ph.onIn_subscribe, Ph.onOut_subSrc (by simp) hopen]; simp

theorem Merge.not_upSide {α : Type} : ¬ UpSide (Merge.machine α 1) := fun U => Merge.not_sync U.sync

theorem ForEach.not_upSide {α : Type} (a : α) : ¬ UpSide (ForEach.machine α) :=
  fun U => U.noApp {} (.d0 a) a {} .pull rfl

theorem Concat.not_downSide {α : Type} : ¬ DownSide (Concat.machine α 2) :=
  fun D => D.oneSrc ⟨1, none, false⟩ .next 0 ⟨1, none, false⟩ .done (by simp [Concat.machine, Concat.step])

theorem Flatten.not_downSide {α : Type} : ¬ DownSide (Flatten.machine α) :=
  fun D => D.oneSrc {} .od1 0 { nextId := 2 } .done (by simp [Flatten.machine, Flatten.step])

end Cb

#print axioms Cb.compose_safe_of_roles
#print axioms Cb.UpSide.compose
#print axioms Cb.DownSide.compose
#print axioms Cb.Pipeable.compose
#print axioms Cb.compose_relay_take_basicSafe
#print axioms Cb.Relay.pipeable
#print axioms Cb.Take.pipeable
#print axioms Cb.FromIter.pipeable
#print axioms Cb.ForEach.downSide
#print axioms Cb.Concat.upSide
#print axioms Cb.Flatten.upSide
#print axioms Cb.closed_pipeline_safe
#print axioms Cb.closed_pipeline_safe'
#print axioms Cb.Merge.not_sync
