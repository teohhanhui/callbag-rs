import CallbagModel.Sem
import CallbagModel.Inv.Ghost
import CallbagModel.Props
import CallbagModel.Ops.Compose
/-!
# The run of a handler, and the environment turn it ends in

Between two moves of the environment the operator runs alone: silent steps, then either an outgoing call (control passes to
the environment, which may re-enter) or the return of the handler.  `Runs M st l st' r` says so for the handler body at
location `l`, whatever is below it on the stack; `r` is the call made together with the continuation, or `none` for a return.
The `macro_step` of every operator has the form `Lands`; every further invariant is a layer over it, with one induction for all
of them (`Lands.at_turn`), and the last macro step before a turn or a call is recovered by `Lands.turn_cases` / `call_cases`; what a
step adds to the data views is `Sys.next_recvData` / `next_sentData` (`dataOut`, `dataIn`).
The micro-steps of a pipeline are those of the component on top (`compose_lo_*`, `compose_hi_*`): a call to the environment is a
call of the pipeline, a call across the internal boundary is a silent step that puts the other component's handler on top.
-/
namespace Cb

section Run
variable {St Loc α β : Type}

@[reducible] def Sys.ends (sh : Shape) (st : St) (stk : List (Frame Loc β)) (g : G) (tr : List (Ev α β)) :
    Option (Out β × Loc) → Sys St Loc α β
  | some (o, l) => ⟨st, .wait o l :: stk, g.onOut sh o, .out o :: tr, none⟩
  | none => ⟨st, stk, g.onRetO stk.length, .retO :: tr, none⟩

def Runs (M : Machine St Loc α β) (st : St) (l : Loc) (st' : St) (r : Option (Out β × Loc)) : Prop :=
  ∀ stk g tr, ∃ n, advance M n ⟨st, .run l :: stk, g, tr, none⟩ = Sys.ends M.shape st' stk g tr r

theorem Runs.tau {M : Machine St Loc α β} {st st' st'' : St} {l l' : Loc} {r : Option (Out β × Loc)}
    (h : M.step st l = .tau st' l') (hr : Runs M st' l' st'' r) : Runs M st l st'' r := fun stk g tr =>
  (hr stk g tr).imp' (· + 1) fun n hn => by rw [← hn]; simp [advance, opStep, h]

theorem Runs.call {M : Machine St Loc α β} {st st' : St} {l l' : Loc} {o : Out β} (h : M.step st l = .call o st' l') :
    Runs M st l st' (some (o, l')) := fun stk g tr => ⟨1, by simp [advance, opStep, h, Sys.ends]⟩

theorem Runs.ret {M : Machine St Loc α β} {st : St} {l : Loc} (h : M.step st l = .ret) : Runs M st l st none :=
  fun stk g tr => ⟨1, by simp [advance, opStep, h, Sys.ends]⟩

/-- a loop over `j < n` that passes the members that are not `hit` in silence: the run from `L j` is the run from the first `hit`
member from `j` on, or from the end of the loop -/
theorem Runs.scan {M : Machine St Loc α β} {st : St} (L : Nat → Loc) (hit : Nat → Prop) [DecidablePred hit] (n : Nat)
    (hskip : ∀ j, j < n → ¬ hit j → M.step st (L j) = .tau st (L (j+1))) (j : Nat) :
    ∃ j'', j ≤ j'' ∧ (n ≤ j'' ∨ hit j'') ∧ (∀ j', j ≤ j' → j' < j'' → ¬ hit j') ∧
      ∀ {st' r}, Runs M st (L j'') st' r → Runs M st (L j) st' r := by
  generalize hd : n - j = d
  induction d generalizing j with
  | zero => exact ⟨j, Nat.le_refl _, .inl (by omega), fun j' h1 h2 => by omega, id⟩
  | succ d ih =>
    by_cases hj : hit j
    · exact ⟨j, Nat.le_refl _, .inr hj, fun j' h1 h2 => by omega, id⟩
    · obtain ⟨j'', h1, h2, h3, hr⟩ := ih (j+1) (by omega)
      refine ⟨j'', by omega, h2, fun j' h4 h5 => ?_, fun h => .tau (hskip j (by omega) hj) (hr h)⟩
      by_cases hjj : j' = j
      · rw [hjj]; exact hj
      · exact h3 j' (by omega) h5

/-- The environment turn after the move `m` from the environment turn `s`, when the handler entered or resumed by `m` ends in
state `st` with `r`. -/
@[reducible] def Sys.next (sh : Shape) (s : Sys St Loc α β) (st : St) : Move α → Option (Out β × Loc) → Sys St Loc α β
  | .call i => Sys.ends sh st s.stack (s.g.onIn s.stack.length i) (.inp i :: s.tr)
  | .ret => Sys.ends sh st s.stack.tail s.g (.retE :: s.tr)

/-- the ghost right after the move `m` from the turn `s`, and the stack below the handler that `m` enters or resumes -/
def Sys.gIn (s : Sys St Loc α β) : Move α → G
  | .call i => s.g.onIn s.stack.length i
  | .ret => s.g

def Sys.below (s : Sys St Loc α β) : Move α → List (Frame Loc β)
  | .call _ => s.stack
  | .ret => s.stack.tail

def Move.ev : Move α → Ev α β
  | .call i => .inp i
  | .ret => .retE

theorem Sys.next_eq (sh : Shape) (s : Sys St Loc α β) (st : St) (m : Move α) (r : Option (Out β × Loc)) :
    s.next sh st m r = Sys.ends sh st (s.below m) (s.gIn m) (m.ev :: s.tr) r := by
  cases m <;> rfl

theorem Sys.gIn_ph (s : Sys St Loc α β) (i : In α) : (s.gIn (.call i)).ph = s.g.ph.onIn i := onIn_ph ..

theorem Sys.next_ret {sh : Shape} {s : Sys St Loc α β} {f : Frame Loc β} {stk : List (Frame Loc β)} (h : s.stack = f :: stk)
    (st : St) (r : Option (Out β × Loc)) : s.next sh st .ret r = Sys.ends sh st stk s.g (.retE :: s.tr) r := by
  show Sys.ends sh st s.stack.tail _ _ r = _
  rw [h]; rfl

theorem Sys.ends_some_ph (sh : Shape) (st : St) (stk : List (Frame Loc β)) (g : G) (tr : List (Ev α β)) (o : Out β) (l : Loc) :
    (Sys.ends sh st stk g tr (some (o, l))).g.ph = g.ph.onOut o := onOut_ph ..

theorem Sys.ends_none_ph (sh : Shape) (st : St) (stk : List (Frame Loc β)) (g : G) (tr : List (Ev α β)) :
    (Sys.ends (Loc := Loc) sh st stk g tr none).g.ph = g.ph := onRetO_ph ..

theorem Sys.next_st (sh : Shape) (s : Sys St Loc α β) (st : St) (m : Move α) (r : Option (Out β × Loc)) :
    (s.next sh st m r).st = st := by
  rcases r with _ | ⟨o, l⟩ <;> cases m <;> rfl

theorem Sys.next_eq_call {sh : Shape} {s : Sys St Loc α β} {st st' : St} {m : Move α} {r : Option (Out β × Loc)} {o : Out β} {l : Loc}
    {stk : List (Frame Loc β)} {g : G} {tr : List (Ev α β)}
    (h : s.next sh st m r = ⟨st', .wait o l :: stk, g, .out o :: tr, none⟩) : r = some (o, l) ∧ st = st' := by
  rcases r with _ | ⟨o1, l1⟩
  · cases m <;> exact nomatch List.head_eq_of_cons_eq (congrArg Sys.tr h)
  · have hk : Frame.wait o1 l1 = .wait o l ∧ st = st' := by
      cases m <;> exact ⟨List.head_eq_of_cons_eq (congrArg Sys.stack h), congrArg Sys.st h⟩
    cases hk.1; exact ⟨rfl, hk.2⟩

/-- What an operator's `macro_step` shows of a move `m` of the environment from the turn `s`, which leads to `s'`: which of its
macro steps `Macro s m st r` follows (the state `st` in which the run ends and the call `r` it ends with), that the run ends at
`s.next`, the invariant `Inv` there, and the second ghost layer `X` carried along; `X := fun _ => True` where the second layer also
reads the stack and is a layer by `Lands.step` (merge, flatten, share), or where there is none (combine). -/
def Lands (M : Machine St Loc α β) (Macro : Sys St Loc α β → Move α → St → Option (Out β × Loc) → Prop)
    (Inv : Sys St Loc α β → Prop) (X : G → Prop) (s s' : Sys St Loc α β) (m : Move α) : Prop :=
  ∃ st r, Macro s m st r ∧ (∃ n, advance M n s' = s.next M.shape st m r) ∧
    Inv (s.next M.shape st m r) ∧ (X s.g → X (s.next M.shape st m r).g)

section Lands
variable {M : Machine St Loc α β} {Macro : Sys St Loc α β → Move α → St → Option (Out β × Loc) → Prop}
  {Inv : Sys St Loc α β → Prop} {X : G → Prop} {s s' : Sys St Loc α β} {m : Move α}

theorem Lands.inv (h : Lands M Macro Inv X s s' m) : ∃ n, Inv (advance M n s') :=
  have ⟨_, _, _, ⟨n, hn⟩, hi, _⟩ := h
  ⟨n, hn ▸ hi⟩

theorem Lands.step (h : Lands M Macro Inv X s s' m) {P : Sys St Loc α β → Prop}
    (hP : ∀ st r, Macro s m st r → Inv (s.next M.shape st m r) → P (s.next M.shape st m r)) :
    ∃ n, Inv (advance M n s') ∧ P (advance M n s') :=
  have ⟨st, r, hm, ⟨n, hn⟩, hi, _⟩ := h
  ⟨n, hn ▸ ⟨hi, hP st r hm hi⟩⟩

theorem Lands.full (h : Lands M Macro Inv X s s' m) (hx : X s.g) : ∃ n, Inv (advance M n s') ∧ X (advance M n s').g :=
  have ⟨_, _, _, ⟨n, hn⟩, hi, hx'⟩ := h
  ⟨n, hn ▸ ⟨hi, hx' hx⟩⟩

theorem Lands.next_of_turn (h : Lands M Macro Inv X s s' m) (hturn : ∀ s, Inv s → EnvTurn s) {c : Sys St Loc α β} {n : Nat}
    (hn : advance M n s' = c) (ht : EnvTurn c) : ∃ st r, Macro s m st r ∧ c = s.next M.shape st m r :=
  have ⟨st, r, hmac, ⟨n', hn'⟩, hi', _⟩ := h
  ⟨st, r, hmac, by rw [← hn, ← hn']; exact advance_confluent M s' n n' (hn ▸ ht) (hn' ▸ hturn _ hi')⟩

theorem Lands.map {Macro' : Sys St Loc α β → Move α → St → Option (Out β × Loc) → Prop} {Inv' : Sys St Loc α β → Prop}
    (h : Lands M Macro Inv X s s' m)
    (hle : ∀ st r, Macro s m st r → Inv (s.next M.shape st m r) → Macro' s m st r ∧ Inv' (s.next M.shape st m r)) :
    Lands M Macro' Inv' X s s' m :=
  have ⟨st, r, hm, hn, hi, hx⟩ := h
  ⟨st, r, (hle st r hm hi).1, hn, (hle st r hm hi).2, hx⟩

theorem Lands.mono {Inv' : Sys St Loc α β → Prop} (hle : ∀ t, Inv t → Inv' t) (h : Lands M Macro Inv X s s' m) :
    Lands M Macro Inv' X s s' m :=
  h.map fun _ _ hm hi => ⟨hm, hle _ hi⟩

theorem Lands.inv_at_turn {R : Restr St Loc α β} (hinit : Inv (Sys.init M)) (hturn : ∀ s, Inv s → EnvTurn s)
    (hmacro : ∀ {s s' m}, Inv s → EnvStep M m s s' → Lands M Macro Inv X s s' m)
    {s : Sys St Loc α β} (hs : SReachR M R s) (ht : EnvTurn s) : Inv s :=
  inv_at_turnR M R Inv hinit hturn (fun _ _ _ hi he _ => (hmacro hi he).inv) hs ht

theorem Lands.basicSafe (hinit : Inv (Sys.init M)) (hturn : ∀ s, Inv s → EnvTurn s ∧ BasicSafe s)
    (hmacro : ∀ {s s' m}, Inv s → EnvStep M m s s' → Lands M Macro Inv X s s' m) : ∀ s, SReach M s → BasicSafe s :=
  basicSafe_of_macro_inv M Inv hinit hturn fun _ _ _ hi he => (hmacro hi he).inv

/-- One induction for a layer `P` over a `macro_step` of the form `Lands`; the step `hP` is handed the reachability of `s` and of
`s.next`. -/
theorem Lands.at_turn (R : Restr St Loc α β) (P : Sys St Loc α β → Prop) (hinit : Inv (Sys.init M)) (h0 : P (Sys.init M))
    (hturn : ∀ s, Inv s → EnvTurn s) (hmacro : ∀ {s s' m}, Inv s → EnvStep M m s s' → Lands M Macro Inv X s s' m)
    (hP : ∀ s m st r, SReachR M R s → Inv s → P s → R s m → Macro s m st r → Inv (s.next M.shape st m r) →
      SReachR M R (s.next M.shape st m r) → P (s.next M.shape st m r))
    {s : Sys St Loc α β} (hs : SReachR M R s) (ht : EnvTurn s) : Inv s ∧ P s :=
  layer_at_turn M R Inv P hinit h0 hturn
    (fun s _ m hr hi hp he hR =>
      have ⟨st, r, hm, ⟨n, hn⟩, hi', _⟩ := hmacro hi he
      ⟨n, hn ▸ ⟨hi', hP s m st r hr hi hp hR hm hi' (hn ▸ (hr.step (.env he hR)).advance n)⟩⟩) hs ht

theorem safe_of_layer (P : Sys St Loc α β → Prop) (hinit : Inv (Sys.init M)) (h0 : P (Sys.init M))
    (hturn : ∀ s, Inv s → EnvTurn s ∧ BasicSafe s) (hclean : ∀ s, P s → s.g.xviols = [])
    (hstep : ∀ s s' m, Inv s → P s → EnvStep M m s s' → ∃ n, Inv (advance M n s') ∧ P (advance M n s')) :
    ∀ s, SReach M s → Safe s :=
  safe_of_macro_inv M (fun s => Inv s ∧ P s) ⟨hinit, h0⟩
    (fun s h => ⟨(hturn s h.1).1, by rw [Safe, G.viols, hclean _ h.2, (hturn s h.1).2.1]; exact ⟨rfl, (hturn s h.1).2.2⟩⟩)
    (fun s s' m h he => hstep s s' m h.1 h.2 he)

theorem Lands.safe (hinit : Inv (Sys.init M)) (hx0 : X {}) (hturn : ∀ s, Inv s → EnvTurn s ∧ BasicSafe s)
    (hclean : ∀ g, X g → g.xviols = [])
    (hmacro : ∀ {s s' m}, Inv s → EnvStep M m s s' → Lands M Macro Inv X s s' m) : ∀ s, SReach M s → Safe s :=
  safe_of_layer (fun s => X s.g) hinit hx0 hturn (fun s => hclean s.g) fun _ _ _ hi hx he => (hmacro hi he).full hx

theorem Lands.full_at_turn {R : Restr St Loc α β} (hinit : Inv (Sys.init M)) (hx0 : X {}) (hturn : ∀ s, Inv s → EnvTurn s)
    (hmacro : ∀ {s s' m}, Inv s → EnvStep M m s s' → Lands M Macro Inv X s s' m)
    {s : Sys St Loc α β} (hs : SReachR M R s) (ht : EnvTurn s) : Inv s ∧ X s.g :=
  layer_at_turn M R Inv (fun s => X s.g) hinit hx0 hturn (fun _ _ _ _ hi hx he _ => (hmacro hi he).full hx) hs ht

theorem Lands.turn_cases {R : Restr St Loc α β} (hinit : Inv (Sys.init M)) (hturn : ∀ s, Inv s → EnvTurn s)
    (hmacro : ∀ {s s' m}, Inv s → EnvStep M m s s' → Lands M Macro Inv X s s' m)
    {c : Sys St Loc α β} (hc : SReachR M R c) (ht : EnvTurn c) :
    c = Sys.init M ∨ ∃ s m st r, SReachR M R s ∧ Inv s ∧ R s m ∧ Macro s m st r ∧ c = s.next M.shape st m r := by
  refine (reach_on_run c hc).imp_right fun ⟨s, m, s1, n, hs, he, hR, hn⟩ => ?_
  have hi : Inv s := Lands.inv_at_turn hinit hturn hmacro hs (envTurn_of_envStep he)
  obtain ⟨st, r, hmac, h⟩ := (hmacro hi he).next_of_turn hturn hn ht
  exact ⟨s, m, st, r, hs, hi, hR, hmac, h⟩

/-- A handler that is about to make the call `o` ends a macro step: the configuration after the call is `s.next`.  This is how the
facts about what an operator sends, and when, are read off its macro steps. -/
theorem Lands.call_cases {R : Restr St Loc α β} (hinit : Inv (Sys.init M)) (hturn : ∀ s, Inv s → EnvTurn s)
    (hmacro : ∀ {s s' m}, Inv s → EnvStep M m s s' → Lands M Macro Inv X s s' m)
    {st st' : St} {l l' : Loc} {stk : List (Frame Loc β)} {g : G} {tr : List (Ev α β)} {o : Out β}
    (hc : SReachR M R ⟨st, .run l :: stk, g, tr, none⟩) (hst : M.step st l = .call o st' l') :
    ∃ s m, SReachR M R s ∧ Inv s ∧ R s m ∧ Macro s m st' (some (o, l')) ∧
      s.next M.shape st' m (some (o, l')) = ⟨st', .wait o l' :: stk, g.onOut M.shape o, .out o :: tr, none⟩ := by
  rcases Lands.turn_cases hinit hturn hmacro (hc.step (.op (opStep_of_oStep (.call hst)))) ⟨rfl, rfl⟩ with
    h | ⟨s, m, st1, r, hs, hi, hR, hmac, h⟩
  · cases h
  · obtain ⟨rfl, rfl⟩ := Sys.next_eq_call h.symm
    exact ⟨s, m, hs, hi, hR, hmac, h.symm⟩

end Lands

/-- the datum that the call ending a macro step delivers to sink `k` -/
def dataOut (k : Nat) : Option (Out β × Loc) → List β
  | some (.down k' (.data b), _) => if k' = k then [b] else []
  | _ => []

/-- the datum that a move of the environment brings from upstream `j` -/
def dataIn (j : Nat) : Move α → List α
  | .call (.srcDown j' (.data a)) => if j' = j then [a] else []
  | _ => []

theorem Sys.next_recvData (sh : Shape) (s : Sys St Loc α β) (st : St) (m : Move α) (r : Option (Out β × Loc)) (k : Nat) :
    recvData k (s.next sh st m r).tr = recvData k s.tr ++ dataOut k r := by
  rcases r with _ | ⟨o, l⟩
  · cases m <;> exact (List.append_nil _).symm
  · cases o with
    | down k' d =>
      cases d with
      | data b =>
        have e : recvData k (s.next sh st m (some (.down k' (.data b), l))).tr =
            if k' = k then recvData k s.tr ++ [b] else recvData k s.tr := by cases m <;> rfl
        rw [e]; by_cases hk : k' = k <;> simp [dataOut, hk]
      | _ => cases m <;> exact (List.append_nil _).symm
    | _ => cases m <;> exact (List.append_nil _).symm

theorem Sys.next_sentData (sh : Shape) (s : Sys St Loc α β) (st : St) (m : Move α) (r : Option (Out β × Loc)) (j : Nat) :
    sentData j (s.next sh st m r).tr = sentData j s.tr ++ dataIn j m := by
  cases m with
  | ret => rcases r with _ | ⟨o, l⟩ <;> exact (List.append_nil _).symm
  | call i =>
    cases i with
    | srcDown j' d =>
      cases d with
      | data a =>
        have e : sentData j (s.next sh st (.call (.srcDown j' (.data a))) r).tr =
            if j' = j then sentData j s.tr ++ [a] else sentData j s.tr := by rcases r with _ | ⟨o, l⟩ <;> rfl
        rw [e]; by_cases hj : j' = j <;> simp [dataIn, hj]
      | _ => rcases r with _ | ⟨o, l⟩ <;> exact (List.append_nil _).symm
    | _ => rcases r with _ | ⟨o, l⟩ <;> exact (List.append_nil _).symm

theorem dataIn_nil {i : In α} (h : ∀ j a, i ≠ .srcDown j (.data a)) (j : Nat) : dataIn j (.call i) = [] := by
  cases i with
  | srcDown j' d =>
    cases d with
    | data a => exact absurd rfl (h j' a)
    | _ => rfl
  | _ => rfl

end Run

section Compose
variable {S1 L1 S2 L2 α β γ : Type} {M1 : Machine S1 L1 α β} {M2 : Machine S2 L2 β γ}
  {s1 s1' : S1} {s2 s2' : S2} {l1 l1' : L1} {l2 l2' : L2} {rest : List (CFr L1 L2)}

theorem compose_lo_tau (h : M1.step s1 l1 = .tau s1' l1') :
    (compose M1 M2).step (s1, s2) (.lo l1 :: rest) = .tau (s1', s2) (.lo l1' :: rest) := by unfold compose; simp only [h]

theorem compose_lo_panic {m : String} (h : M1.step s1 l1 = .panic m) :
    (compose M1 M2).step (s1, s2) (.lo l1 :: rest) = .panic m := by unfold compose; simp only [h]

theorem compose_lo_subSrc {i : Nat} (h : M1.step s1 l1 = .call (.subSrc i) s1' l1') :
    (compose M1 M2).step (s1, s2) (.lo l1 :: rest) = .call (.subSrc i) (s1', s2) (.lo l1' :: rest) := by
  unfold compose; simp only [h]

theorem compose_lo_srcUp {i : Nat} {u : Up} (h : M1.step s1 l1 = .call (.srcUp i u) s1' l1') :
    (compose M1 M2).step (s1, s2) (.lo l1 :: rest) = .call (.srcUp i u) (s1', s2) (.lo l1' :: rest) := by
  unfold compose; simp only [h]

theorem compose_lo_greet (h : M1.step s1 l1 = .call (.greet 0) s1' l1') :
    (compose M1 M2).step (s1, s2) (.lo l1 :: rest) = .tau (s1', s2) (.hi (M2.enter (.srcGreet 0)) :: .lo l1' :: rest) := by
  unfold compose; simp only [h]

theorem compose_lo_down {d : Down β} (h : M1.step s1 l1 = .call (.down 0 d) s1' l1') :
    (compose M1 M2).step (s1, s2) (.lo l1 :: rest) = .tau (s1', s2) (.hi (M2.enter (.srcDown 0 d)) :: .lo l1' :: rest) := by
  unfold compose; simp only [h]

theorem compose_hi_tau (h : M2.step s2 l2 = .tau s2' l2') :
    (compose M1 M2).step (s1, s2) (.hi l2 :: rest) = .tau (s1, s2') (.hi l2' :: rest) := by unfold compose; simp only [h]

theorem compose_hi_panic {m : String} (h : M2.step s2 l2 = .panic m) :
    (compose M1 M2).step (s1, s2) (.hi l2 :: rest) = .panic m := by unfold compose; simp only [h]

theorem compose_hi_greet {k : Nat} (h : M2.step s2 l2 = .call (.greet k) s2' l2') :
    (compose M1 M2).step (s1, s2) (.hi l2 :: rest) = .call (.greet k) (s1, s2') (.hi l2' :: rest) := by
  unfold compose; simp only [h]

theorem compose_hi_down {k : Nat} {d : Down γ} (h : M2.step s2 l2 = .call (.down k d) s2' l2') :
    (compose M1 M2).step (s1, s2) (.hi l2 :: rest) = .call (.down k d) (s1, s2') (.hi l2' :: rest) := by
  unfold compose; simp only [h]

theorem compose_hi_subSrc (h : M2.step s2 l2 = .call (.subSrc 0) s2' l2') :
    (compose M1 M2).step (s1, s2) (.hi l2 :: rest) = .tau (s1, s2') (.lo (M1.enter (.subscribe 0)) :: .hi l2' :: rest) := by
  unfold compose; simp only [h]

theorem compose_hi_srcUp {u : Up} (h : M2.step s2 l2 = .call (.srcUp 0 u) s2' l2') :
    (compose M1 M2).step (s1, s2) (.hi l2 :: rest) = .tau (s1, s2') (.lo (M1.enter (.sinkUp 0 u)) :: .hi l2' :: rest) := by
  unfold compose; simp only [h]

theorem compose_hi_app {b : γ} (h : M2.step s2 l2 = .call (.app b) s2' l2') :
    (compose M1 M2).step (s1, s2) (.hi l2 :: rest) = .call (.app b) (s1, s2') (.hi l2' :: rest) := by
  unfold compose; simp only [h]

theorem compose_lo_ret {f : CFr L1 L2} (h : M1.step s1 l1 = .ret) :
    (compose M1 M2).step (s1, s2) (.lo l1 :: f :: rest) = .tau (s1, s2) (f :: rest) := by
  unfold compose; simp only [h, List.isEmpty_cons, Bool.false_eq_true, if_false]

theorem compose_hi_ret {f : CFr L1 L2} (h : M2.step s2 l2 = .ret) :
    (compose M1 M2).step (s1, s2) (.hi l2 :: f :: rest) = .tau (s1, s2) (f :: rest) := by
  unfold compose; simp only [h, List.isEmpty_cons, Bool.false_eq_true, if_false]

theorem compose_lo_ret_last (h : M1.step s1 l1 = .ret) : (compose M1 M2).step (s1, s2) [.lo l1] = .ret := by
  unfold compose; simp only [h, List.isEmpty_nil, if_true]

theorem compose_hi_ret_last (h : M2.step s2 l2 = .ret) : (compose M1 M2).step (s1, s2) [.hi l2] = .ret := by
  unfold compose; simp only [h, List.isEmpty_nil, if_true]

end Compose

end Cb
