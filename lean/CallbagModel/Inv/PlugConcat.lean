import CallbagModel.Inv.PlugSafe
import CallbagModel.Inv.ConcatK
/-!
# What `concat!` of closed sources computes

`HeadOkT`, `StageT`: heads and stages in the strengthened sense needed here.  `HeadOk` of `ComposeComplete.lean` is NOT enough, for two
reasons (both would make the statements below false or unprovable):
* its `done` clause speaks about the head's top level only, but the second member starts delivering INSIDE the first member's
  `Terminate` call (the first member's stack is not empty then): `DoneTurn` states completeness at every environment turn;
* it allows a head to end with `Error` after delivering everything; `concat!` then ends with that error and never starts the second
  member: `NoErr` (no `Error` is ever delivered) excludes this; stages pass errors but never create them (`ErrPass`).

The `concat` machine with some of its slots plugged by closed sources (namespace `ConcatN`).  `View js s sC`: `s` is a configuration of
the machine with the slots in `js` plugged, `sC` the configuration of `Concat.machine β n` inside it (same sink-side events; the
source-side events of `s` are those of `sC` outside `js`).  `View.plug` plugs one more slot `k ∉ js` with `A` (by `plug_inv_tr`): the
view extends to `k :: js`, and `Ifc k sA sC` (`Inv/ComposeSafe.lean`) says that `sC`'s trace and phase at slot `k` are what `A` did at
its sink.  What is known of the plugged members is kept as what `sC` says at their slots (`Mem` here, for what is delivered;
`Inv/PlugCost.lean` and `Inv/JoinDemand.lean` for cost and demand); no member configuration is kept, so the members may have different
types.
-/
namespace Cb
namespace PlugConcat
open ComposeSafe ComposeFun ComposeComplete

section Strong
variable {St Loc S1 L1 S2 L2 α β γ : Type}

def DoneTurn (M : Machine St Loc α β) (ys : List β) : Prop :=
  ∀ s, SReach M s → EnvTurn s → s.g.ph.sinkPh 0 = .doneBySrc → recvData 0 s.tr = ys

def NoErr (M : Machine St Loc α β) : Prop := ∀ s, SReach M s → ¬ ErrOut s.tr

def ErrPass (M : Machine St Loc α β) : Prop := ∀ s, SReach M s → ErrOut s.tr → ErrIn s.tr

/-- the terminal is delivered only when the upstream has ended or the output is final, at EVERY environment turn -/
def FinTurn (M : Machine St Loc α β) (F : List α → List β) : Prop :=
  ∀ s, SReach M s → EnvTurn s → s.g.ph.sinkPh 0 = .doneBySrc →
    s.g.ph.srcPh 0 = .ended ∨ ∀ ys, sentData 0 s.tr <+: ys → F ys = F (sentData 0 s.tr)

structure HeadOkT (M : Machine St Loc α β) (ys : List β) : Prop where
  head : HeadOk M ys
  doneT : DoneTurn M ys
  noErr : NoErr M

structure StageT (M : Machine St Loc α β) (F : List α → List β) : Prop where
  stage : DemandStage M F
  finT : FinTurn M F
  errPass : ErrPass M

theorem HeadOkT.compose {M1 : Machine S1 L1 α β} {M2 : Machine S2 L2 β γ} {ys : List β} {F : List β → List γ}
    (h : HeadOkT M1 ys) (d : StageT M2 F) : HeadOkT (Cb.compose M1 M2) (F ys) := by
  have H : Hyp M1 M2 := hyp_of_roles h.head.up d.stage.mono.stage.pipe.downSide
  refine ⟨h.head.compose d.stage, ?_, ?_⟩
  · intro s hs ht hd
    obtain ⟨s1, s2, hr1, hr2, hp⟩ := compose_proj H s hs
    obtain ⟨ht1, ht2⟩ := hp.turn ht
    exact hp.done (d.stage.mono.stage.io s2 hr2 ht2) (h.head.spec s1 hr1 ht1) (d.finT s2 hr2 ht2) (h.doneT s1 hr1 ht1) hd
  · intro s hs ⟨k, e, hk⟩
    obtain ⟨s1, s2, hr1, hr2, hm, htr⟩ := compose_inv_tr H s hs
    rw [htr.sink] at hk
    obtain ⟨i, e', hi⟩ := d.errPass s2 hr2 ⟨k, e, hk⟩
    rw [← htr.ifc] at hi
    exact h.noErr s1 hr1 ⟨i, e', mem_dualEvs_down hi⟩

theorem noErr_of_syntactic {M : Machine St Loc α β} (h : ∀ st l k e st' l', M.step st l ≠ .call (.down k (.err e)) st' l') :
    NoErr M := fun s hs =>
  reach_calls M (fun _ => True) (fun tr => ¬ ErrOut tr) (fun _ _ _ => trivial) (fun ⟨_, _, hk⟩ => nomatch hk)
    (fun _ _ hev hn ho => (errOut_cons ho).elim hn fun ⟨_, _, he⟩ => hev _ he)
    (fun _ _ _ _ _ _ _ _ _ hst _ hn ho => (errOut_cons ho).elim hn fun ⟨_, _, he⟩ => by cases he; exact h _ _ _ _ _ _ hst)
    s hs trivial

end Strong

section Inst
variable {St Loc α β : Type}

/-- The pattern shared by relays and `take`: `P` marks the handler of an upstream `Error`. -/
theorem errPass_of {M : Machine St Loc α β} (P : Loc → Prop)
    (htau : ∀ st l st' l', M.step st l = .tau st' l' → P l' → P l)
    (hcall : ∀ st l o st' l', M.step st l = .call o st' l' → ¬ P l' ∧ ∀ k e, o = .down k (.err e) → P l)
    (honly : ∀ i, P (M.enter i) → ∃ j e, i = .srcDown j (.err e)) : ErrPass M := by
  have keep : ∀ {tr : List (Ev α β)} (ev : Ev α β), (∀ k e, ev ≠ .out (.down k (.err e))) → (ErrOut tr → ErrIn tr) →
      ErrOut (ev :: tr) → ErrIn (ev :: tr) := fun ev hev h ho =>
    (errOut_cons ho).elim (fun ho => errIn_cons _ (h ho)) (fun ⟨k, e, he⟩ => absurd he (hev k e))
  -- while the handler runs an `Error` has been received, and no continuation is the handler
  suffices key : ∀ s, SReach M s → (ErrOut s.tr → ErrIn s.tr) ∧ (∀ l r, s.stack = .run l :: r → P l → ErrIn s.tr) ∧
      (∀ o l, Frame.wait o l ∈ s.stack → ¬ P l) from fun s hs => (key s hs).1
  apply reach_ind
  · exact ⟨(fun ⟨_, _, hk⟩ => nomatch hk), (fun _ _ h => nomatch h), (fun _ _ h => nomatch h)⟩
  · intro a b ha ⟨h1, h2, h3⟩ hop
    cases hop with
    | @tau st l stk g tr s' l' hst =>
      exact ⟨h1, fun l0 r heq hp => by cases heq; exact h2 l stk rfl (htau _ _ _ _ hst hp),
        fun o l0 hm => h3 o l0 (by simpa using hm)⟩
    | @call st l stk g tr o s' l' hst =>
      have hP := hcall _ _ _ _ _ hst
      refine ⟨fun ho => ?_, (fun _ _ heq => nomatch heq), fun o' l0 hm => ?_⟩
      · rcases errOut_cons ho with ho | ⟨k, e, he⟩
        · exact errIn_cons _ (h1 ho)
        · exact errIn_cons _ (h2 l stk rfl (hP.2 k e (Ev.out.inj he)))
      · rcases List.mem_cons.1 hm with he | hm
        · cases he; exact hP.1
        · exact h3 o' l0 (List.mem_cons_of_mem _ hm)
    | @ret _ _ stk _ _ _ =>
      refine ⟨keep _ (fun _ _ h => nomatch h) h1, fun l0 r heq => ?_, fun o l0 hm => h3 o l0 (List.mem_cons_of_mem _ hm)⟩
      obtain ⟨o, l1, he⟩ := pop_turn _ ha (Frame.run l0) ((show stk = _ from heq) ▸ List.mem_cons_self)
      cases he
    | @panic _ _ stk _ _ _ _ =>
      refine ⟨keep _ (fun _ _ h => nomatch h) h1, fun l0 r heq => ?_, fun o l0 hm => h3 o l0 (List.mem_cons_of_mem _ hm)⟩
      obtain ⟨o, l1, he⟩ := pop_turn _ ha (Frame.run l0) ((show stk = _ from heq) ▸ List.mem_cons_self)
      cases he
  · intro a b m _ ⟨h1, h2, h3⟩ henv
    cases henv with
    | call i _ _ =>
      refine ⟨keep _ (fun _ _ h => nomatch h) h1, fun l0 r heq hp => ?_, fun o l0 hm => h3 o l0 (by simpa using hm)⟩
      cases heq
      obtain ⟨j, e, rfl⟩ := honly i hp
      exact errIn_srcDown j e
    | @ret st stk g tr o l _ =>
      refine ⟨keep _ (fun _ _ h => nomatch h) h1, fun l0 r heq hp => ?_,
        fun o' l0 hm => h3 o' l0 (List.mem_cons_of_mem _ (by simpa using hm))⟩
      cases heq
      exact absurd hp (h3 o l List.mem_cons_self)

macro "stp" h:ident "[" ts:Lean.Parser.Tactic.simpLemma,* "]" : tactic =>
  `(tactic| first
      | (simp [$ts,*] at $h:ident; done)
      | (simp [$ts,*] at $h:ident; split at $h:ident <;> simp at $h:ident; done)
      | (simp [$ts,*] at $h:ident; split at $h:ident <;> (try split at $h:ident) <;> simp at $h:ident; done))

theorem Relay.errPass {σ α β : Type} (k : Relay.Kind σ α β) : ErrPass (Relay.machine k) := by
  apply errPass_of (fun l => ∃ e, l = Relay.Loc.fwd (.err e))
  · rintro st l st' l' hst ⟨e, rfl⟩
    cases Relay.Edge.of hst
  · intro st l o st' l' hst
    cases Relay.Edge.of hst <;> refine ⟨(fun ⟨_, h⟩ => nomatch h), fun k e h => ?_⟩ <;> cases h <;> exact ⟨_, rfl⟩
  · rintro i ⟨e, he⟩
    cases i with
    | srcDown j d => cases d <;> cases he; exact ⟨j, _, rfl⟩
    | sinkUp k' u => cases he
    | _ => cases he

theorem Take.errPass {α : Type} (max : Nat) : ErrPass (Take.machine α max) := by
  apply errPass_of (fun l => ∃ e, l = Take.Loc.fwd (.err e))
  · rintro st l st' l' hst ⟨e, rfl⟩
    cases Take.Edge.of hst
  · intro st l o st' l' hst
    cases Take.Edge.of hst <;> refine ⟨(fun ⟨_, h⟩ => nomatch h), fun k e h => ?_⟩ <;> cases h <;> exact ⟨_, rfl⟩
  · rintro i ⟨e, he⟩
    cases i with
    | srcDown j d => cases d <;> cases he; exact ⟨j, _, rfl⟩
    | sinkUp k' u => cases u <;> cases he
    | _ => cases he

theorem Relay.finTurn {σ α β : Type} (k : Relay.Kind σ α β) (hk : k.slotted = false → ∀ s a, (k.xfer s a).2 ≠ none) :
    FinTurn (Relay.machine k) (xferOut k.xfer k.seed) :=
  fun _ hs ht hd => .inl (Relay.ended_of_doneBySrc k hk hs ht hd)

theorem Take.finTurn {α : Type} (max : Nat) : FinTurn (Take.machine α max) (List.take max) :=
  Take.final_of_doneBySrc max

theorem FinTurn.congr {St Loc α β : Type} {M : Machine St Loc α β} {F G : List α → List β} (h : FinTurn M F)
    (hFG : ∀ l, F l = G l) : FinTurn M G := by
  intro s hs ht hd
  rcases h s hs ht hd with h1 | h1
  · exact .inl h1
  · exact .inr (fun ys hys => by rw [← hFG, ← hFG]; exact h1 ys hys)

theorem StageT.congr {St Loc α β : Type} {M : Machine St Loc α β} {F G : List α → List β} (h : StageT M F)
    (hFG : ∀ l, F l = G l) : StageT M G := ⟨h.stage.congr hFG, h.finT.congr hFG, h.errPass⟩

theorem Relay.stageT {σ α β : Type} (k : Relay.Kind σ α β) (hk : k.slotted = false → ∀ s a, (k.xfer s a).2 ≠ none) :
    StageT (Relay.machine k) (xferOut k.xfer k.seed) := ⟨Relay.demandStage k hk, Relay.finTurn k hk, Relay.errPass k⟩

theorem Take.stageT {α : Type} (max : Nat) (hmax : 0 < max) : StageT (Take.machine α max) (List.take max) :=
  ⟨Take.demandStage max hmax, Take.finTurn max, Take.errPass max⟩

theorem FromIter.headOkT {ι α α' : Type} (next : ι → Option (α × ι)) (it0 : ι) (xs : List α) (hx : Closed.Unfolds next it0 xs) :
    HeadOkT (FromIter.machine α' next it0) xs := by
  refine ⟨FromIter.headOk next it0 xs hx, ?_, ?_⟩
  · exact fun _ hs => FromIter.recv_all next it0 hx hs
  · exact noErr_of_syntactic (fun _ _ _ _ _ _ h => nomatch FromIter.Edge.of h)

end Inst

end PlugConcat

namespace ConcatN
open ComposeFun ComposeComplete PlugSafe PlugConcat PlugConcat.CK

section Partial
open ComposeFull
variable {St Loc SA LA αA β : Type}

abbrev CSys (β : Type) := Sys Concat.St (Concat.Loc β) β β

structure View (js : List Nat) (s : Sys St Loc β β) (sC : CSys β) : Prop where
  sink : sinkEvs s.tr = sinkEvs sC.tr
  src : srcEvs s.tr = srcOut js (srcEvs sC.tr)
  sinkPh : ∀ j, s.g.ph.sinkPh j = sC.g.ph.sinkPh j
  srcPh : ∀ i, i ∉ js → s.g.ph.srcPh i = sC.g.ph.srcPh i
  turn : EnvTurn s → EnvTurn sC
  top : s.stack = [] → sC.stack = []

theorem View.refl (sC : CSys β) : View [] sC sC := ⟨rfl, (srcOut_nil _).symm, fun _ => rfl, fun _ _ => rfl, id, id⟩

theorem View.plug {A : Machine SA LA αA β} {M : Machine St Loc β β} (H : HypP A M) {k : Nat} {js : List Nat} (hk : k ∉ js) :
    ∀ s, SReach (Cb.plug k A M) s → ∃ sA sM, SReach A sA ∧ SReach M sM ∧ s.st = (sA.st, sM.st) ∧
      (EnvTurn s → EnvTurn sA ∧ EnvTurn sM) ∧ (s.stack = [] → sA.stack = [] ∧ sM.stack = []) ∧
      ∀ sC : CSys β, View js sM sC → View (k :: js) s sC ∧ Ifc k sA sC := by
  intro s hs
  obtain ⟨sA, sM, hrA, hrM, hm, ht⟩ := plug_inv_tr H k s hs
  refine ⟨sA, sM, hrA, hrM, hm.st, matchP_turns hm, matchP_top hm, fun sC hv => ⟨⟨ht.sink.trans hv.sink, ?_,
    fun j => (hm.gh.sink j).trans (hv.sinkPh j), fun i hi => ?_, fun h => hv.turn (matchP_turns hm h).2,
    fun h => hv.top (matchP_top hm h).2⟩, ?_, (hv.srcPh k hk).symm.trans hm.gh.ifc⟩⟩
  · rw [ht.src, hv.src, srcNe_srcOut]
  · exact (hm.gh.src i (fun h => hi (h ▸ List.mem_cons_self))).trans (hv.srcPh i (fun h => hi (List.mem_cons_of_mem _ h)))
  · rw [← srcEq_srcOut hk, ← hv.src, ht.ifc]

theorem View.recv {n : Nat} (hn : 0 < n) {js : List Nat} {s : Sys St Loc β β} {sC : CSys β} (hv : View js s sC)
    (hrC : SReach (Concat.machine β n) sC) (ht : EnvTurn s) :
    recvData 0 s.tr = catN (fun j => sentData j sC.tr) n := by
  rw [recvData_eq, hv.sink, ← recvData_eq]
  exact KD_of_turn n hn hrC (hv.turn ht)

theorem View.all_ended {n : Nat} (hn : 0 < n) {js : List Nat} {s : Sys St Loc β β} {sC : CSys β} (hv : View js s sC)
    (hrC : SReach (Concat.machine β n) sC) (hpC : sC.panicked = none)
    (hne : ∀ i, i < n → ∀ e, SrcEv.down i (Down.err e) ∉ srcEvs sC.tr) (hd : s.g.ph.sinkPh 0 = .doneBySrc) :
    ∀ i, i < n → sC.g.ph.srcPh i = .ended := by
  intro i hi
  refine (K1_reach n hn sC hrC hpC).s1 i ?_
  rcases (K2_reach n hn sC hrC hpC).tout (hv.sinkPh 0 ▸ hd) with h | ⟨j, e, hlt, he⟩
  · omega
  · exact absurd he (hne j hlt e)

/-- what `concat` sees of the plugged members -/
structure Mem (js : List Nat) (ys : Nat → List β) (s : Sys St Loc β β) (sC : CSys β) : Prop where
  pre : EnvTurn s → ∀ i ∈ js, sentData i sC.tr <+: ys i
  full : EnvTurn s → ∀ i ∈ js, sC.g.ph.srcPh i = .ended → sentData i sC.tr = ys i
  served : s.stack = [] → ∀ i ∈ js, sC.g.ph.srcPh i = .live → lastPullSrc i (srcEvs sC.tr) = false
  noErr : ∀ i ∈ js, ∀ e, SrcEv.down i (Down.err e) ∉ srcEvs sC.tr

/-- the n-ary `concat` machine with the slots in `js` plugged, slot `i` by a closed head of `ys i` -/
structure PartC (n : Nat) (js : List Nat) (ys : Nat → List β) (M : Machine St Loc β β) : Prop where
  up : UpSide M
  slots : OnlySlots (fun i => i < n ∧ i ∉ js) M
  proj : ∀ s, SReach M s → ∃ sC : CSys β, SReach (Concat.machine β n) sC ∧ sC.panicked = none ∧ View js s sC ∧ Mem js ys s sC

theorem PartC.base (n : Nat) (hn : 0 < n) (ys : Nat → List β) : PartC n [] ys (Concat.machine β n) := by
  refine ⟨Concat.upSide n hn, fun s hs i hi => Concat.onlySlots n hn s hs i (fun h => hi ⟨h, List.not_mem_nil⟩), fun s hs => ?_⟩
  exact ⟨s, hs, (Concat.concat_basicSafe n hn s hs).2, .refl s,
    (fun _ _ hi => nomatch hi), (fun _ _ hi => nomatch hi), (fun _ _ hi => nomatch hi), (fun _ hi => nomatch hi)⟩

theorem PartC.plug {A : Machine SA LA αA β} {M : Machine St Loc β β} {n k : Nat} {js : List Nat} {ys : Nat → List β}
    (hM : PartC n js ys M) (hk : k ∉ js) (hA : HeadOkT A (ys k)) (NA : NoUpstream A) : PartC n (k :: js) ys (Cb.plug k A M) := by
  have H : HypP A M := hypP_of hA.head.up NA hM.up.safe
  refine ⟨UpSide.plug H k hM.up, fun s hs i hi => ?_, fun s hs => ?_⟩
  · exact OnlySlots.plug H k hM.slots s hs i (fun h => hi ⟨h.1.1, fun hm => (List.mem_cons.1 hm).elim h.2 h.1.2⟩)
  · obtain ⟨sA, sM, hrA, hrM, _, hturn, htop, hview⟩ := View.plug H hk s hs
    obtain ⟨sC, hrC, hpC, hv, hmem⟩ := hM.proj sM hrM
    obtain ⟨hv', hifc⟩ := hview sC hv
    -- at slot `k` the head `A` answers, at the others the members plugged before
    refine ⟨sC, hrC, hpC, hv', fun h i hm => ?_, fun h i hm he => ?_, fun h i hm hl => ?_, fun i hm e => ?_⟩
    · rcases List.mem_cons.1 hm with rfl | hm
      · rw [hifc.sent]; exact hA.head.spec sA hrA (hturn h).1
      · exact hmem.pre (hturn h).2 i hm
    · rcases List.mem_cons.1 hm with rfl | hm
      · rw [hifc.sent]; exact hA.doneT sA hrA (hturn h).1 (hifc.ended he)
      · exact hmem.full (hturn h).2 i hm he
    · rcases List.mem_cons.1 hm with rfl | hm
      · rw [hifc.lastPull]; exact hA.head.served sA hrA (htop h).1 (hifc.live hl)
      · exact hmem.served (htop h).2 i hm hl
    · rcases List.mem_cons.1 hm with rfl | hm
      · exact hifc.noErr (hA.noErr sA hrA) e
      · exact hmem.noErr i hm e

/-- **every slot plugged**: a closed head of `ys 0 ++ … ++ ys (n-1)` -/
theorem PartC.head {M : Machine St Loc β β} {n : Nat} (hn : 0 < n) {js : List Nat} {ys : Nat → List β} (hM : PartC n js ys M)
    (hall : ∀ i, i < n → i ∈ js) : HeadOkT M (catN ys n) ∧ NoUpstream M := by
  have NQ : NoUpstream M := hM.slots.noUpstream (fun i h => h.2 (hall i h.1))
  have data : ∀ s, SReach M s → EnvTurn s → recvData 0 s.tr <+: catN ys n ∧
      (s.g.ph.sinkPh 0 = .doneBySrc → recvData 0 s.tr = catN ys n) := by
    intro s hs ht
    obtain ⟨sC, hrC, hpC, hv, hmem⟩ := hM.proj s hs
    have hk1 := K1_reach n hn sC hrC hpC
    rw [hv.recv hn hrC ht]
    refine ⟨?_, fun hdone => ?_⟩
    · exact catN_prefix (i0 := sC.st.i) (fun j h1 h2 => hmem.full ht j (hall j h2) (hk1.s1 j h1)) (fun h => hmem.pre ht _ (hall _ h))
        (fun j h1 _ => sentData_of_idle hrC (hk1.s2 j h1))
    · exact catN_congr fun j hj => hmem.full ht j (hall j hj)
        (hv.all_ended hn hrC hpC (fun i hi => hmem.noErr i (hall i hi)) hdone j hj)
  refine ⟨⟨⟨hM.up, fun s hs ht => (data s hs ht).1, fun s hs hstk hd => ?_, ?_⟩, fun s hs ht hd => (data s hs ht).2 hd, ?_⟩, NQ⟩
  · exact (data s hs (envTurn_of_top (hM.up.safe s hs).2 hstk)).2 hd
  · intro s hs hstk hl
    obtain ⟨sC, hrC, hpC, hv, hmem⟩ := hM.proj s hs
    have hkC := hv.top hstk
    cases hap : aP s.tr with
    | false => rfl
    | true =>
      exfalso
      have hapC : aP sC.tr = true := by simpa [aP, hv.sink] using hap
      have hlC : sC.g.ph.sinkPh 0 = .live := by rw [← hv.sinkPh 0]; exact hl
      have hrC' : SReach (Concat.machine β n) ⟨sC.st, [], sC.g, sC.tr, none⟩ := by
        have := hrC; rw [← hkC, ← hpC]; exact this
      obtain ⟨_, hm⟩ := cinv (c := Ctx.top) n hn hrC' rfl
      obtain ⟨_, hcur, hlt⟩ := sinkLive_cur hm hlC (fun j l r h => by cases h)
      have hk3 := (K3_reach n hn sC hrC hpC).dq
      rw [hkC] at hk3
      have hq : lastPullSrc sC.st.i (srcEvs sC.tr) = true := hk3 hapC
      rw [hmem.served hstk _ (hall _ hlt) hcur] at hq
      cases hq
  · intro s hs ⟨k, e, hk'⟩
    obtain ⟨sC, hrC, hpC, hv, hmem⟩ := hM.proj s hs
    rw [hv.sink] at hk'
    obtain ⟨i, e', hlt, hi⟩ := (K2_reach n hn sC hrC hpC).ei ⟨k, e, hk'⟩
    exact hmem.noErr i (hall i hlt) e' hi

end Partial
end ConcatN

namespace PlugConcat

section Main
open ComposeFull
variable {SA LA SB LB αA αB β : Type} {A : Machine SA LA αA β} {B : Machine SB LB αB β}

/-- **`concat!(A, B)` of two closed heads** delivers `ysA ++ ysB` -/
theorem concat2_headOkT {ysA ysB : List β} (hA : HeadOkT A ysA) (NA : NoUpstream A) (hB : HeadOkT B ysB) (NB : NoUpstream B) :
    HeadOkT (plug 0 A (plug 1 B (Concat.machine β 2))) (ysA ++ ysB) ∧
      NoUpstream (plug 0 A (plug 1 B (Concat.machine β 2))) := by
  have h2 : (0 : Nat) < 2 := by decide
  let ys : Nat → List β := fun | 0 => ysA | _ => ysB
  have h1 : ConcatN.PartC 2 [1] ys (plug 1 B (Concat.machine β 2)) := (ConcatN.PartC.base 2 h2 ys).plug List.not_mem_nil hB NB
  have h0 : ConcatN.PartC 2 [0, 1] ys (plug 0 A (plug 1 B (Concat.machine β 2))) := h1.plug (by simp) hA NA
  -- `catN ys 2` unfolds to `([] ++ ysA) ++ ysB`
  exact h0.head h2 (fun i hi => by simp; omega)

end Main

end PlugConcat
end Cb

#print axioms Cb.PlugConcat.concat2_headOkT
#print axioms Cb.PlugConcat.HeadOkT.compose
#print axioms Cb.ConcatN.PartC.plug
#print axioms Cb.ConcatN.PartC.head
