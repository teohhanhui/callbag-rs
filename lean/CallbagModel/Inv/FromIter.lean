import CallbagModel.Inv.Ghost2
import CallbagModel.Inv.Runs
import CallbagModel.Inv.Views
import CallbagModel.Ops.FromIter
/-!
# from_iter: the phase-level safety invariant

`completed = true ↔ sink is doneBySelf`, `resDone = true ↔ sink is doneBySrc`,
`inLoop = true ↔` exactly one loop frame (`wait (down 0 (data _)) w0` / `wait (down 0 term) lend`) is on top of the
stack; everything below it is a tail frame `wait _ done`.  Nested pulls (from inside a data handler) only set `gotPull`;
the waiting loop frame re-reads `gotPull` and `completed` when it resumes.

At the end, the demand flag of `from_iter` at a turn (`Dm`), a layer over `macro_step`: it delivers only to a sink with an unserved
`Pull` (`down_pulled`).
-/
namespace Cb.FromIter
open ComposeComplete

variable {ι α α' : Type}

def Tail (stk : List (Frame Loc α)) : Prop := ∀ f ∈ stk, ∃ o, f = Frame.wait o Loc.done

inductive Mode (st : St ι α) (g : Ph) (stk : List (Frame Loc α)) : Prop where
  | idle : g.sinkPh 0 = .idle → stk = [] → st.inLoop = false → st.gotPull = false → st.completed = false →
      st.resDone = false → st.res = none → Mode st g stk
  | live0 : g.sinkPh 0 = .live → st.completed = false → st.resDone = false → st.res = none → st.inLoop = false →
      Tail stk → Mode st g stk
  | live1 : g.sinkPh 0 = .live → st.completed = false → st.resDone = false → st.res = none → st.inLoop = true →
      (∃ a rest, stk = .wait (.down 0 (.data a)) .w0 :: rest ∧ Tail rest) → Mode st g stk
  | self0 : g.sinkPh 0 = .doneBySelf → st.completed = true → st.resDone = false → st.inLoop = false →
      Tail stk → Mode st g stk
  | self1 : g.sinkPh 0 = .doneBySelf → st.completed = true → st.resDone = false → st.inLoop = true →
      (∃ a rest, stk = .wait (.down 0 (.data a)) .w0 :: rest ∧ Tail rest) → Mode st g stk
  | src0 : g.sinkPh 0 = .doneBySrc → st.completed = false → st.resDone = true → st.inLoop = false →
      Tail stk → Mode st g stk
  | src1 : g.sinkPh 0 = .doneBySrc → st.completed = false → st.resDone = true → st.inLoop = true →
      (∃ rest, stk = .wait (.down 0 .term) .lend :: rest ∧ Tail rest) → Mode st g stk

def Inv (s : Sys (St ι α) Loc α' α) : Prop :=
  s.panicked = none ∧ s.g.ph.viols = [] ∧
  (∀ i, s.g.ph.srcPh i = .idle) ∧ (∀ k, k ≠ 0 → s.g.ph.sinkPh k = .idle) ∧
  Mode s.st s.g.ph s.stack

theorem cons_done {o : Out α} {stk : List (Frame Loc α)} (h : Tail stk) : Tail (.wait o .done :: stk) :=
  List.forall_mem_cons.2 ⟨⟨o, rfl⟩, h⟩

theorem tail_of_cons {f : Frame Loc α} {stk : List (Frame Loc α)} (h : Tail (f :: stk)) : Tail stk :=
  (List.forall_mem_cons.1 h).2

theorem tail_head {o : Out α} {l : Loc} {stk : List (Frame Loc α)} (h : Tail (.wait o l :: stk)) : l = .done := by
  obtain ⟨_, he⟩ := h _ List.mem_cons_self
  cases he; rfl

theorem inv_turn (s : Sys (St ι α) Loc α' α) (h : Inv s) : EnvTurn s ∧ BasicSafe s := by
  obtain ⟨hp, hb, _, _, hm⟩ := h
  refine ⟨⟨hp, ?_⟩, hb, hp⟩
  cases hm with
  | idle _ h => simp [h, ctxOf]
  | live0 _ _ _ _ _ h => exact ctx_isSome_of_waits (fun _ h => nomatch h) h
  | live1 _ _ _ _ _ h => obtain ⟨_, _, h, _⟩ := h; simp [h, ctxOf]
  | self0 _ _ _ _ h => exact ctx_isSome_of_waits (fun _ h => nomatch h) h
  | self1 _ _ _ _ h => obtain ⟨_, _, h, _⟩ := h; simp [h, ctxOf]
  | src0 _ _ _ _ h => exact ctx_isSome_of_waits (fun _ h => nomatch h) h
  | src1 _ _ _ _ h => obtain ⟨_, h, _⟩ := h; simp [h, ctxOf]

theorem Mode.top {st : St ι α} {g : Ph} {o : Out α} {l : Loc} {stk : List (Frame Loc α)} (hm : Mode st g (.wait o l :: stk)) :
    l = .done ∨ l = .w0 ∨ l = .lend := by
  cases hm with
  | idle _ h => cases h
  | live0 _ _ _ _ _ h | self0 _ _ _ _ h | src0 _ _ _ _ h => exact .inl (tail_head h)
  | live1 _ _ _ _ _ h | self1 _ _ _ _ h => obtain ⟨_, _, h, _⟩ := h; cases h; exact .inr (.inl rfl)
  | src1 _ _ _ _ h => obtain ⟨_, h, _⟩ := h; cases h; exact .inr (.inr rfl)

theorem Mode.completed_of_self {st : St ι α} {g : Ph} {stk : List (Frame Loc α)} (hm : Mode st g stk)
    (h : g.sinkPh 0 = .doneBySelf) : st.completed = true := by
  cases hm with
  | self0 _ hc | self1 _ hc => exact hc
  | idle h1 | live0 h1 | live1 h1 | src0 h1 | src1 h1 => exact nomatch h1.symm.trans h

theorem Mode.live {st : St ι α} {g : Ph} {stk : List (Frame Loc α)}
    (hm : Mode st g stk) (hl : g.sinkPh 0 = .live) : st.completed = false ∧ st.resDone = false ∧
      (st.inLoop = false ∧ Tail stk ∨ ∃ a rest, stk = .wait (.down 0 (.data a)) .w0 :: rest ∧ Tail rest) := by
  cases hm with
  | live0 _ h2 h3 _ h5 h6 => exact ⟨h2, h3, .inl ⟨h5, h6⟩⟩
  | live1 _ h2 h3 _ _ h6 => exact ⟨h2, h3, .inr h6⟩
  | idle h1 | self0 h1 | self1 h1 | src0 h1 | src1 h1 => exact nomatch h1.symm.trans hl

theorem Mode.doneBySrc {st : St ι α} {g : Ph} {stk : List (Frame Loc α)}
    (hm : Mode st g stk) (hd : g.sinkPh 0 = .doneBySrc) : st.resDone = true := by
  cases hm with
  | src0 _ _ h | src1 _ _ h => exact h
  | idle h | live0 h | live1 h | self0 h | self1 h => exact nomatch h.symm.trans hd

variable {next : ι → Option (α × ι)} {it0 : ι}

section step
variable {it it' : ι} {a : α} {r : Option α} {c : Nat} {il gp cp rd : Bool}

theorem step_w3_some (hn : next it = some (a, it')) :
    (machine α' next it0).step ⟨it, r, c, il, gp, cp, rd⟩ .w3 = .tau ⟨it', some a, c + 1, il, gp, cp, false⟩ .w4 := by
  simp only [machine, step, hn]

theorem step_w3_none (hn : next it = none) :
    (machine α' next it0).step ⟨it, r, c, il, gp, cp, rd⟩ .w3 = .tau ⟨it, none, c + 1, il, gp, cp, true⟩ .w4 := by
  simp only [machine, step, hn]

theorem step_w4_some :
    (machine α' next it0).step ⟨it, some a, c, il, gp, cp, false⟩ .w4 = .call (.down 0 (.data a)) ⟨it, none, c, il, gp, cp, false⟩ .w0 :=
  rfl

theorem step_w4_none :
    (machine α' next it0).step ⟨it, r, c, il, gp, cp, true⟩ .w4 = .call (.down 0 .term) ⟨it, r, c, il, gp, cp, true⟩ .lend :=
  rfl

end step

section run
variable {st : St ι α}

theorem run_sub0 : Runs (machine α' next it0) st .sub0 st (some (.greet 0, .done)) := .call rfl

theorem run_done : Runs (machine α' next it0) st .done st none := .ret rfl

theorem run_t0_quiet (hc : st.completed = false) (hl : st.inLoop = true) :
    Runs (machine α' next it0) st (.t0 .pull) { st with gotPull := true } none :=
  .tau (if_neg (Bool.eq_false_iff.1 hc)) (.tau rfl (.ret (if_neg (by simp [hl]))))

theorem run_t0_stop {u : Up} (hu : u ≠ .pull) (hc : st.completed = false) :
    Runs (machine α' next it0) st (.t0 u) { st with completed := true } none := by
  cases u with
  | pull => exact absurd rfl hu
  | term | err e => exact .tau (if_neg (Bool.eq_false_iff.1 hc)) (.tau rfl (.ret rfl))

theorem run_t0_loop (hc : st.completed = false) (hl : st.inLoop = false) (hr : st.resDone = false) {st' : St ι α}
    {r : Option (Out α × Loc)} (h : Runs (machine α' next it0) { st with gotPull := true, inLoop := true } .w0 st' r) :
    Runs (machine α' next it0) st (.t0 .pull) st' r :=
  .tau (if_neg (Bool.eq_false_iff.1 hc)) (.tau rfl (.tau (if_pos (by simp [hl])) (.tau (if_pos (by simp [hr])) (.tau rfl h))))

theorem run_w0_data {a : α} {it' : ι} (hp : st.gotPull = true) (hc : st.completed = false)
    (hn : next st.it = some (a, it')) :
    Runs (machine α' next it0) st .w0
      { st with gotPull := false, it := it', resDone := false, nexts := st.nexts + 1, res := none }
      (some (.down 0 (.data a), .w0)) :=
  .tau (if_pos hp) (.tau (if_pos (by simp [hc])) (.tau rfl (.tau (step_w3_some hn) (.call rfl))))

theorem run_w0_end (hp : st.gotPull = true) (hc : st.completed = false) (hn : next st.it = none) :
    Runs (machine α' next it0) st .w0 { st with gotPull := false, resDone := true, nexts := st.nexts + 1, res := none }
      (some (.down 0 .term, .lend)) :=
  .tau (if_pos hp) (.tau (if_pos (by simp [hc])) (.tau rfl (.tau (step_w3_none hn) (.call rfl))))

theorem run_t0_data {a : α} {it' : ι} (hc : st.completed = false) (hl : st.inLoop = false) (hr : st.resDone = false)
    (hn : next st.it = some (a, it')) :
    Runs (machine α' next it0) st (.t0 .pull)
      { st with inLoop := true, gotPull := false, it := it', resDone := false, nexts := st.nexts + 1, res := none }
      (some (.down 0 (.data a), .w0)) :=
  run_t0_loop hc hl hr (run_w0_data rfl hc hn)

theorem run_t0_end (hc : st.completed = false) (hl : st.inLoop = false) (hr : st.resDone = false) (hn : next st.it = none) :
    Runs (machine α' next it0) st (.t0 .pull)
      { st with inLoop := true, gotPull := false, resDone := true, nexts := st.nexts + 1, res := none }
      (some (.down 0 .term, .lend)) :=
  run_t0_loop hc hl hr (run_w0_end rfl hc hn)

theorem run_w0_exit (hp : st.gotPull = false) : Runs (machine α' next it0) st .w0 { st with inLoop := false } none :=
  .tau (if_neg (Bool.eq_false_iff.1 hp)) (.tau rfl (.ret rfl))

theorem run_w0_over (hp : st.gotPull = true) (hc : st.completed = true) :
    Runs (machine α' next it0) st .w0 { st with inLoop := false } none :=
  .tau (if_pos hp) (.tau (if_neg (by simp [hc])) (.tau rfl (.ret rfl)))

theorem run_lend : Runs (machine α' next it0) st .lend { st with inLoop := false } none := .tau rfl (.ret rfl)

end run

inductive Macro (next : ι → Option (α × ι)) (s : Sys (St ι α) Loc α' α) : Move α' → St ι α → Option (Out α × Loc) → Prop
  | sub : s.stack = [] → s.st.inLoop = false → Macro next s (.call (.subscribe 0)) s.st (some (.greet 0, .done))
  | pullData {a : α} {it' : ι} : s.g.ph.sinkPh 0 = .live → s.st.resDone = false → s.st.inLoop = false →
      next s.st.it = some (a, it') →
      Macro next s (.call (.sinkUp 0 .pull))
        { s.st with inLoop := true, gotPull := false, it := it', resDone := false, nexts := s.st.nexts + 1, res := none }
        (some (.down 0 (.data a), .w0))
  | pullEnd : s.st.resDone = false → s.st.inLoop = false → next s.st.it = none →
      Macro next s (.call (.sinkUp 0 .pull))
        { s.st with inLoop := true, gotPull := false, resDone := true, nexts := s.st.nexts + 1, res := none }
        (some (.down 0 .term, .lend))
  /-- a Pull that only sets `gotPull`: the loop is running further down the stack -/
  | quietPull : s.g.ph.sinkPh 0 = .live → s.st.resDone = false → s.st.inLoop = true →
      Macro next s (.call (.sinkUp 0 .pull)) { s.st with gotPull := true } none
  | quietEnd (u : Up) : u ≠ .pull → Macro next s (.call (.sinkUp 0 u)) { s.st with completed := true } none
  /-- the greeting returns -/
  | ret {o : Out α} {l : Loc} {rest : List (Frame Loc α)} : s.stack = .wait o l :: rest → s.st.inLoop = false →
      Macro next s .ret s.st none
  /-- a delivery returns and the loop is left: no Pull is pending, or the sink has disposed, or it was the end -/
  | exitLoop {o : Out α} {l : Loc} {rest : List (Frame Loc α)} : s.stack = .wait o l :: rest → s.st.inLoop = true →
      s.st.gotPull = false ∨ s.g.ph.sinkPh 0 = .doneBySelf ∨ s.st.resDone = true →
      Macro next s .ret { s.st with inLoop := false } none
  /-- the delivery returns, a Pull is owed, the next item is delivered -/
  | retData {o : Out α} {l : Loc} {rest : List (Frame Loc α)} {a : α} {it' : ι} : s.stack = .wait o l :: rest →
      s.g.ph.sinkPh 0 = .live → s.st.resDone = false → s.st.inLoop = true → s.st.gotPull = true →
      next s.st.it = some (a, it') →
      Macro next s .ret { s.st with gotPull := false, it := it', resDone := false, nexts := s.st.nexts + 1, res := none }
        (some (.down 0 (.data a), .w0))
  /-- the delivery returns, a Pull is owed, the iterator is exhausted -/
  | retEnd {o : Out α} {l : Loc} {rest : List (Frame Loc α)} : s.stack = .wait o l :: rest →
      s.st.resDone = false → s.st.inLoop = true → s.st.gotPull = true → next s.st.it = none →
      Macro next s .ret { s.st with gotPull := false, resDone := true, nexts := s.st.nexts + 1, res := none }
        (some (.down 0 .term, .lend))

/-! The second ghost layer: `from_iter` has no upstream, nothing is ever pending and no upstream is ever live, so the layer is
`Quiet` throughout, and the checks made when a handler returns pass. -/

theorem noOrphan_of_idle {ph : Ph} (hsrc : ∀ i, ph.srcPh i = .idle) : NoOrphan ph :=
  noOrphan_of_noLive fun i => by rw [hsrc i]; nofun

theorem quiet_sinkUp_ret {g : G} (hx : Quiet g) (hsrc : ∀ i, g.ph.srcPh i = .idle) (h h' k : Nat) (u : Up) :
    Quiet ((g.onIn h (.sinkUp k u : In α')).onRetO h') :=
  (hx.onIn h).onRetO (noOrphan_of_idle fun i => by rw [onIn_ph]; cases u <;> exact hsrc i) h'

/-- the configuration comes as an equation for the reason given at `Take.lands` -/
theorem lands {st' : St ι α} {stk' : List (Frame Loc α)} {g g' : G} {tr' : List (Ev α' α)} {t : Sys (St ι α) Loc α' α} (ph : Ph)
    (ht : t = ⟨st', stk', g', tr', none⟩) (hph : g'.ph = ph) (hv : ph.viols = []) (hsrc : ∀ i, ph.srcPh i = .idle)
    (hoths : ∀ k, k ≠ 0 → ph.sinkPh k = .idle) (hm : Mode st' ph stk') (h2 : Quiet g → Quiet g') : Inv t ∧ (Quiet g → Quiet t.g) := by
  subst ht hph
  exact ⟨⟨rfl, hv, hsrc, hoths, hm⟩, h2⟩

theorem macro_step {s s' : Sys (St ι α) Loc α' α} {m : Move α'} (h : Inv s) (hs : EnvStep (machine α' next it0) m s s') :
    Lands (machine α' next it0) (Macro next) Inv Quiet s s' m := by
  obtain ⟨_, hb, hsrc, hoths, hm⟩ := h
  cases hs with
  | @call st stk g tr c i hc hl =>
    dsimp only at hb hsrc hoths hm ⊢
    cases i with
    | subscribe k =>
      simp only [legalIn, Bool.and_eq_true, beq_iff_eq, machine, Bool.or_false] at hl
      obtain ⟨⟨_, hidle⟩, rfl⟩ := hl
      cases hm with
      | idle h1 h2 h3 h4 h5 h6 h7 =>
        subst h2
        exact ⟨_, _, .sub rfl h3, run_sub0 _ _ _, lands ((g.ph.setSink 0 .subscribed).setSink 0 .live) rfl
          (by rw [onOut_ph, onIn_ph]; exact Ph.onOut_greet (g := g.ph.setSink 0 .subscribed) (by simp))
          hb hsrc (othersIdle_setSink (othersIdle_setSink hoths _) _)
          (.live0 (by simp) h5 h6 h7 h3 (cons_done fun _ hf => nomatch hf)) id⟩
      | live0 h1 | live1 h1 | self0 h1 | self1 h1 | src0 h1 | src1 h1 => rw [h1] at hidle; cases hidle
    | sinkUp k u =>
      simp only [legalIn, Bool.and_eq_true, beq_iff_eq, Bool.or_eq_true] at hl
      obtain ⟨hlive, _⟩ := hl
      cases sink_eq_zero hoths (by rw [hlive]; nofun)
      cases hm with
      | live0 h1 h2 h3 h4 h5 h6 =>
        cases u with
        | pull =>
          cases hn : next st.it with
          | none =>
            exact ⟨_, _, .pullEnd h3 h5 hn, run_t0_end h2 h5 h3 hn _ _ _, lands (g.ph.setSink 0 .doneBySrc) rfl
              (by rw [onOut_ph, onIn_ph]; exact Ph.onOut_final h1 rfl) hb hsrc (othersIdle_setSink hoths _)
              (.src1 (by simp) h2 rfl rfl ⟨stk, rfl, h6⟩) (fun hx => (hx.onIn _).onOut_down _ _ _)⟩
          | some p =>
            obtain ⟨a, it'⟩ := p
            exact ⟨_, _, .pullData h1 h3 h5 hn, run_t0_data h2 h5 h3 hn _ _ _, lands g.ph rfl
              (by rw [onOut_ph, onIn_ph]; exact Ph.onOut_data h1 a) hb hsrc hoths
              (.live1 h1 h2 rfl rfl rfl ⟨a, stk, rfl, h6⟩) (fun hx => (hx.onIn _).onOut_down _ _ _)⟩
        | term | err e =>
          exact ⟨_, _, .quietEnd _ nofun, run_t0_stop (by nofun) h2 _ _ _, lands (g.ph.setSink 0 .doneBySelf) rfl
            ((onRetO_ph ..).trans (onIn_ph ..)) hb hsrc (othersIdle_setSink hoths _) (.self0 (by simp) rfl h3 h5 h6)
            (fun hx => quiet_sinkUp_ret hx hsrc _ _ _ _)⟩
      | live1 h1 h2 h3 h4 h5 h6 =>
        cases u with
        | pull =>
          exact ⟨_, _, .quietPull h1 h3 h5, run_t0_quiet h2 h5 _ _ _, lands g.ph rfl ((onRetO_ph ..).trans (onIn_ph ..))
            hb hsrc hoths (.live1 h1 h2 h3 h4 h5 h6) (fun hx => quiet_sinkUp_ret hx hsrc _ _ _ _)⟩
        | term | err e =>
          exact ⟨_, _, .quietEnd _ nofun, run_t0_stop (by nofun) h2 _ _ _, lands (g.ph.setSink 0 .doneBySelf) rfl
            ((onRetO_ph ..).trans (onIn_ph ..)) hb hsrc (othersIdle_setSink hoths _) (.self1 (by simp) rfl h3 h5 h6)
            (fun hx => quiet_sinkUp_ret hx hsrc _ _ _ _)⟩
      | idle h1 | self0 h1 | self1 h1 | src0 h1 | src1 h1 => rw [h1] at hlive; cases hlive
    | srcGreet i =>
      simp only [legalIn, Bool.and_eq_true, beq_iff_eq, Bool.or_eq_true] at hl
      simp [hsrc i] at hl
    | srcDown i d =>
      simp only [legalIn, Bool.and_eq_true, beq_iff_eq, Bool.or_eq_true] at hl
      simp [hsrc i] at hl
  | @ret st stk g tr o l hl =>
    dsimp only at hb hsrc hoths hm ⊢
    cases hm with
    | idle _ h => simp at h
    | live0 h1 h2 h3 h4 h5 h6 =>
      cases tail_head h6
      exact ⟨_, _, .ret rfl h5, run_done _ _ _, lands g.ph rfl (onRetO_ph ..) hb hsrc hoths
        (.live0 h1 h2 h3 h4 h5 (tail_of_cons h6)) (fun hx => hx.onRetO (noOrphan_of_idle hsrc) _)⟩
    | self0 h1 h2 h3 h4 h6 =>
      cases tail_head h6
      exact ⟨_, _, .ret rfl h4, run_done _ _ _, lands g.ph rfl (onRetO_ph ..) hb hsrc hoths
        (.self0 h1 h2 h3 h4 (tail_of_cons h6)) (fun hx => hx.onRetO (noOrphan_of_idle hsrc) _)⟩
    | src0 h1 h2 h3 h4 h6 =>
      cases tail_head h6
      exact ⟨_, _, .ret rfl h4, run_done _ _ _, lands g.ph rfl (onRetO_ph ..) hb hsrc hoths
        (.src0 h1 h2 h3 h4 (tail_of_cons h6)) (fun hx => hx.onRetO (noOrphan_of_idle hsrc) _)⟩
    | live1 h1 h2 h3 h4 h5 h6 =>
      obtain ⟨a, rest, he, hrest⟩ := h6
      cases he
      cases hgp : st.gotPull with
      | false =>
        exact ⟨_, _, .exitLoop rfl h5 (.inl hgp), run_w0_exit hgp _ _ _, lands g.ph rfl (onRetO_ph ..) hb hsrc hoths
          (.live0 h1 h2 h3 h4 rfl hrest) (fun hx => hx.onRetO (noOrphan_of_idle hsrc) _)⟩
      | true =>
        cases hn : next st.it with
        | none =>
          exact ⟨_, _, .retEnd rfl h3 h5 hgp hn, run_w0_end hgp h2 hn _ _ _, lands (g.ph.setSink 0 .doneBySrc) rfl
            (by rw [onOut_ph]; exact Ph.onOut_final h1 rfl) hb hsrc (othersIdle_setSink hoths _)
            (.src1 (by simp) h2 rfl h5 ⟨stk, rfl, hrest⟩) (fun hx => hx.onOut_down _ _ _)⟩
        | some p =>
          obtain ⟨b, it'⟩ := p
          exact ⟨_, _, .retData rfl h1 h3 h5 hgp hn, run_w0_data hgp h2 hn _ _ _, lands g.ph rfl
            (by rw [onOut_ph]; exact Ph.onOut_data h1 b) hb hsrc hoths
            (.live1 h1 h2 rfl rfl h5 ⟨b, stk, rfl, hrest⟩) (fun hx => hx.onOut_down _ _ _)⟩
    | self1 h1 h2 h3 h4 h6 =>
      obtain ⟨a, rest, he, hrest⟩ := h6
      cases he
      cases hgp : st.gotPull with
      | false =>
        exact ⟨_, _, .exitLoop rfl h4 (.inr (.inl h1)), run_w0_exit hgp _ _ _, lands g.ph rfl (onRetO_ph ..) hb hsrc hoths
          (.self0 h1 h2 h3 rfl hrest) (fun hx => hx.onRetO (noOrphan_of_idle hsrc) _)⟩
      | true =>
        exact ⟨_, _, .exitLoop rfl h4 (.inr (.inl h1)), run_w0_over hgp h2 _ _ _, lands g.ph rfl (onRetO_ph ..) hb hsrc hoths
          (.self0 h1 h2 h3 rfl hrest) (fun hx => hx.onRetO (noOrphan_of_idle hsrc) _)⟩
    | src1 h1 h2 h3 h4 h6 =>
      obtain ⟨rest, he, hrest⟩ := h6
      cases he
      exact ⟨_, _, .exitLoop rfl h4 (.inr (.inr h3)), run_lend _ _ _, lands g.ph rfl (onRetO_ph ..) hb hsrc hoths
        (.src0 h1 h2 h3 rfl hrest) (fun hx => hx.onRetO (noOrphan_of_idle hsrc) _)⟩

theorem inv_init (next : ι → Option (α × ι)) (it0 : ι) : Inv (Sys.init (machine α' next it0)) :=
  ⟨rfl, rfl, fun _ => by simp [Sys.init], fun _ _ => by simp [Sys.init],
    Mode.idle (by simp [Sys.init]) rfl rfl rfl rfl rfl rfl⟩

theorem inv_of_turn (next : ι → Option (α × ι)) (it0 : ι) {s : Sys (St ι α) Loc α' α}
    (hs : SReach (machine α' next it0) s) (ht : EnvTurn s) : Inv s :=
  Lands.inv_at_turn (inv_init next it0) (fun s hi => (inv_turn s hi).1) macro_step hs ht

/-- from_iter: under every conformant environment (a sink that may Pull / Terminate / Error from inside its greeting,
from inside any data handler, or at top level), the source never violates the sink-side protocol and never panics. -/
theorem fromIter_basicSafe {ι α α' : Type} (next : ι → Option (α × ι)) (it0 : ι) :
    ∀ s, SReach (machine α' next it0) s → BasicSafe s :=
  Lands.basicSafe (inv_init next it0) inv_turn macro_step

/-- The demand flag of `from_iter` at a turn; `aP` (`Inv/Views.lean`): the sink has an unserved `Pull`. -/
structure Dm (s : Sys (St ι α) Loc α' α) : Prop where
  /-- an unserved `Pull` has been noted, and the loop that will serve it is running further down the stack -/
  fwd : aP s.tr = true → s.st.completed = true ∨ (s.st.gotPull = true ∧ s.st.inLoop = true)
  got : s.st.gotPull = true → aP s.tr = true
  fin : s.st.resDone = true → aP s.tr = false

theorem Dm.macro {s : Sys (St ι α) Loc α' α} {m : Move α'} {st : St ι α} {r : Option (Out α × Loc)}
    (h : Dm s) (hi : Inv s) (hm : Macro next s m st r) : Dm (s.next (machine α' next it0).shape st m r) := by
  cases hm with
  | sub _ _ | ret _ _ => exact ⟨h.fwd, h.got, h.fin⟩
  | pullData _ _ _ _ | pullEnd _ _ _ | retData _ _ _ _ _ _ | retEnd _ _ _ _ _ => exact ⟨nofun, nofun, fun _ => rfl⟩
  | quietPull _ hr hl => exact ⟨fun _ => .inr ⟨rfl, hl⟩, fun _ => rfl, fun hr' => nomatch hr.symm.trans hr'⟩
  | quietEnd u hu =>
    cases u with
    | pull => exact absurd rfl hu
    | term | err e => exact ⟨fun _ => .inl rfl, h.got, h.fin⟩
  | exitLoop _ _ hx =>
    refine ⟨fun ha => .inl ?_, h.got, h.fin⟩
    rcases hx with hg | hself | hr
    · exact (h.fwd ha).elim id fun hgl => nomatch hg.symm.trans hgl.1
    · exact hi.2.2.2.2.completed_of_self hself
    · exact nomatch (h.fin hr).symm.trans ha

theorem dm_of_turn {s : Sys (St ι α) Loc α' α} (hs : SReach (machine α' next it0) s) (ht : EnvTurn s) : Dm s :=
  (Lands.at_turn anyEnv Dm (inv_init next it0) ⟨nofun, nofun, fun _ => rfl⟩ (fun s h => (inv_turn s h).1) macro_step
    (fun _ _ _ _ _ hi h _ hm _ _ => h.macro hi hm) hs ht).2

/-- `from_iter` delivers, data or the terminal, only to a sink with an unserved `Pull` -/
theorem down_pulled {st st' : St ι α} {l l' : Loc} {stk : List (Frame Loc α)} {g : G} {tr : List (Ev α' α)} {d : Down α}
    (hc : SReach (machine α' next it0) ⟨st, .run l :: stk, g, tr, none⟩)
    (hst : (machine α' next it0).step st l = .call (.down 0 d) st' l') : aP tr = true := by
  obtain ⟨s, m, hs, hi, -, hmac, heq⟩ := Lands.call_cases (inv_init next it0) (fun s h => (inv_turn s h).1) macro_step hc hst
  cases hmac with
  | pullData _ _ _ _ | pullEnd _ _ _ =>
    obtain rfl : .inp (.sinkUp 0 .pull) :: s.tr = tr := (List.cons.inj (congrArg Sys.tr heq)).2
    rfl
  | retData _ _ _ _ hg _ | retEnd _ _ _ hg _ =>
    obtain rfl : .retE :: s.tr = tr := (List.cons.inj (congrArg Sys.tr heq)).2
    exact (dm_of_turn hs (inv_turn s hi).1).got hg

end Cb.FromIter

#print axioms Cb.FromIter.fromIter_basicSafe
