import CallbagModel.Ops.Interval
/-!
# interval: counting, independence, silence after disposal, spawn failure, greeting  (C16, C01)

Everything is proved for ALL event sequences.  The state is a finite map and an event concerns one subscription (`idx e`), on
which `step` is `lstep` and the identity on all others: the `j`-part of `run s es` is the trajectory `lrun j (getSub s j) es` of
subscription `j` alone (`proj`).  `LStep j b b' o` lists the transitions `lstep` can make; every fact about a single step is proved
by cases on it, and a predicate that every `LStep` preserves holds along `lrun` (`lrun_inv`).
-/
namespace Cb.Interval

theorem getSub_nil (j : Nat) : getSub [] j = {} := rfl

theorem getSub_setSub : ∀ (s : State) (j : Nat) (x : Sub) (j' : Nat),
    getSub (setSub s j x) j' = if j' = j then x else getSub s j'
  | [], 0, _, 0 => rfl
  | [], 0, _, _ + 1 => rfl
  | [], _ + 1, _, 0 => rfl
  | [], j + 1, x, j' + 1 => by simp only [Nat.add_right_cancel_iff]; exact getSub_setSub [] j x j'
  | _ :: _, 0, _, 0 => rfl
  | _ :: _, 0, _, _ + 1 => rfl
  | _ :: _, _ + 1, _, 0 => rfl
  | _ :: r, j + 1, x, j' + 1 => by simp only [Nat.add_right_cancel_iff]; exact getSub_setSub r j x j'

theorem run_nil (s : State) : run s [] = (s, []) := rfl

theorem run_cons (s : State) (e : Ev) (es : List Ev) :
    run s (e :: es) = ((run (step s e).1 es).1, (step s e).2 ++ (run (step s e).1 es).2) := rfl

theorem run_append (s : State) (es es' : List Ev) :
    run s (es ++ es') = ((run (run s es).1 es').1, (run s es).2 ++ (run (run s es).1 es').2) := by
  induction es generalizing s with
  | nil => simp [run_nil]
  | cons e es ih => simp [run_cons, ih, List.append_assoc]

theorem dataOf_append (j : Nat) (a b : List Obs) : dataOf j (a ++ b) = dataOf j a ++ dataOf j b := by
  induction a with
  | nil => simp [dataOf]
  | cons o a ih =>
    cases o with
    | greet j' => simpa [dataOf] using ih
    | error j' r => simpa [dataOf] using ih
    | data j' v => by_cases h : j' = j <;> simp [dataOf, h, ih]

def obsOf (j : Nat) : List Obs → List Obs :=
  List.filter (fun o => match o with | .greet j' => j' == j | .data j' _ => j' == j | .error j' _ => j' == j)

theorem obsOf_append (j : Nat) (a b : List Obs) : obsOf j (a ++ b) = obsOf j a ++ obsOf j b := by
  simp [obsOf]

theorem dataOf_obsOf (j : Nat) (a : List Obs) : dataOf j (obsOf j a) = dataOf j a := by
  induction a with
  | nil => simp [obsOf, dataOf]
  | cons o a ih =>
    cases o with
    | greet j' => by_cases h : j' = j <;> simpa [obsOf, dataOf, List.filter_cons, h] using ih
    | error j' r => by_cases h : j' = j <;> simpa [obsOf, dataOf, List.filter_cons, h] using ih
    | data j' v => by_cases h : j' = j <;> simpa [obsOf, dataOf, List.filter_cons, h] using ih

theorem dataOf_map_data (j : Nat) (vs : List Nat) : dataOf j (vs.map (Obs.data j)) = vs := by
  induction vs with
  | nil => simp [dataOf]
  | cons v vs ih => simp [dataOf, ih]

/-- the subscription an event concerns -/
def idx : Ev → Nat
  | .subscribe j _ => j | .expire j => j | .bump j => j | .deliver j => j | .dispose j => j

def about (j : Nat) : Ev → Bool
  | .subscribe j' _ => j' == j | .expire j' => j' == j | .bump j' => j' == j | .deliver j' => j' == j | .dispose j' => j' == j

theorem about_eq (j : Nat) (e : Ev) : about j e = (idx e == j) := by cases e <;> rfl

def lstep (b : Sub) : Ev → Sub × List Obs
  | .subscribe j r =>
    if b.pc ≠ .none then (b, []) else
    match r with
    | .ok => ({ pc := .sleeping, i := 0, cleared := false }, [.greet j])
    | r => ({ pc := .failed }, [.error j r])
  | .expire _ =>
    if b.pc = .sleeping then ({ b with pc := if b.cleared then .exited else .checked }, []) else (b, [])
  | .bump _ =>
    if b.pc = .checked then ({ b with pc := .emitting b.i, i := b.i + 1 }, []) else (b, [])
  | .deliver j =>
    match b.pc with
    | .emitting v => ({ b with pc := .sleeping }, [.data j v])
    | _ => (b, [])
  | .dispose _ =>
    if b.pc = .none ∨ b.pc = .failed then (b, []) else ({ b with cleared := true }, [])

/-- the transitions of subscription `j` and what its sink observes at each; `idle`: the event is not enabled -/
inductive LStep (j : Nat) (b : Sub) : Sub → List Obs → Prop
  | idle : LStep j b b []
  | greet : b.pc = .none → LStep j b { pc := .sleeping, i := 0, cleared := false } [.greet j]
  | refuse {r : SpawnRes} : b.pc = .none → r ≠ .ok → LStep j b { pc := .failed } [.error j r]
  | expire : b.pc = .sleeping → LStep j b { b with pc := if b.cleared then .exited else .checked } []
  | bump : b.pc = .checked → LStep j b { b with pc := .emitting b.i, i := b.i + 1 } []
  | deliver {v : Nat} : b.pc = .emitting v → LStep j b { b with pc := .sleeping } [.data j v]
  | dispose : b.pc ≠ .none → b.pc ≠ .failed → LStep j b { b with cleared := true } []

theorem lstep_spec (b : Sub) (e : Ev) : LStep (idx e) b (lstep b e).1 (lstep b e).2 := by
  cases e with
  | subscribe j r =>
    simp only [lstep, idx]
    split
    · exact .idle
    · next h =>
      split
      · exact .greet (Decidable.not_not.1 h)
      · next hr => exact .refuse (Decidable.not_not.1 h) (fun h' => hr h')
  | expire j =>
    simp only [lstep, idx]
    split
    · next h => exact .expire h
    · exact .idle
  | bump j =>
    simp only [lstep, idx]
    split
    · next h => exact .bump h
    · exact .idle
  | deliver j =>
    simp only [lstep, idx]
    split
    · next h => exact .deliver h
    · exact .idle
  | dispose j =>
    simp only [lstep, idx]
    split
    · exact .idle
    · next h => exact .dispose (fun h' => h (.inl h')) (fun h' => h (.inr h'))

theorem LStep.obsOf_self {j : Nat} {b b' : Sub} {o : List Obs} (h : LStep j b b' o) : obsOf j o = o := by
  cases h <;> simp [obsOf]

theorem LStep.obsOf_other {j j' : Nat} {b b' : Sub} {o : List Obs} (h : LStep j b b' o) (hj : j ≠ j') : obsOf j' o = [] := by
  cases h <;> simp [obsOf, hj]

theorem step_lstep (s : State) (e : Ev) :
    (step s e = (s, []) ∧ lstep (getSub s (idx e)) e = (getSub s (idx e), [])) ∨
    step s e = (setSub s (idx e) (lstep (getSub s (idx e)) e).1, (lstep (getSub s (idx e)) e).2) := by
  cases e with
  | subscribe j r =>
    by_cases h : (getSub s j).pc = .none
    · cases r <;> exact .inr (by simp [step, lstep, idx, h])
    · exact .inl (by simp [step, lstep, idx, h])
  | expire j =>
    by_cases h : (getSub s j).pc = .sleeping
    · exact .inr (by simp [step, lstep, idx, h]; rfl)
    · exact .inl (by simp [step, lstep, idx, h])
  | bump j =>
    by_cases h : (getSub s j).pc = .checked
    · exact .inr (by simp [step, lstep, idx, h])
    · exact .inl (by simp [step, lstep, idx, h])
  | deliver j =>
    cases h : (getSub s j).pc with
    | emitting v => exact .inr (by simp [step, lstep, idx, h])
    | _ => exact .inl (by simp [step, lstep, idx, h])
  | dispose j =>
    by_cases h : (getSub s j).pc = .none ∨ (getSub s j).pc = .failed
    · exact .inl (by simp [step, lstep, idx, h])
    · exact .inr (by simp [step, lstep, idx, h])

theorem step_snd (s : State) (e : Ev) : (step s e).2 = (lstep (getSub s (idx e)) e).2 := by
  rcases step_lstep s e with ⟨h1, h2⟩ | h
  · rw [h1, h2]
  · rw [h]

theorem step_fst (s : State) (e : Ev) (j : Nat) :
    getSub (step s e).1 j = if j = idx e then (lstep (getSub s (idx e)) e).1 else getSub s j := by
  rcases step_lstep s e with ⟨h1, h2⟩ | h
  · rw [h1, h2]
    split
    · next h => rw [h]
    · rfl
  · rw [h]; exact getSub_setSub s _ _ j

def lrun (j : Nat) : Sub → List Ev → Sub × List Obs
  | b, [] => (b, [])
  | b, e :: es =>
    if idx e = j then ((lrun j (lstep b e).1 es).1, (lstep b e).2 ++ (lrun j (lstep b e).1 es).2) else lrun j b es

theorem lrun_cons_self (j : Nat) (b : Sub) (e : Ev) (es : List Ev) (h : idx e = j) :
    lrun j b (e :: es) = ((lrun j (lstep b e).1 es).1, (lstep b e).2 ++ (lrun j (lstep b e).1 es).2) :=
  if_pos h

theorem lrun_cons_other (j : Nat) (b : Sub) (e : Ev) (es : List Ev) (h : idx e ≠ j) :
    lrun j b (e :: es) = lrun j b es :=
  if_neg h

theorem proj (j : Nat) (es : List Ev) (s : State) :
    getSub (run s es).1 j = (lrun j (getSub s j) es).1 ∧ obsOf j (run s es).2 = (lrun j (getSub s j) es).2 := by
  induction es generalizing s with
  | nil => simp [run_nil, lrun, obsOf]
  | cons e es ih =>
    have ⟨ih1, ih2⟩ := ih (step s e).1
    rw [run_cons]
    by_cases h : idx e = j
    · subst h
      have hs : getSub (step s e).1 (idx e) = (lstep (getSub s (idx e)) e).1 := by rw [step_fst, if_pos rfl]
      have ho : obsOf (idx e) (step s e).2 = (lstep (getSub s (idx e)) e).2 := by
        rw [step_snd]; exact (lstep_spec _ e).obsOf_self
      rw [lrun_cons_self _ _ e es rfl]
      simp only [obsOf_append, ih1, ih2, hs, ho, and_self]
    · have hs : getSub (step s e).1 j = getSub s j := by
        rw [step_fst]; exact if_neg (fun h' => h h'.symm)
      have ho : obsOf j (step s e).2 = [] := by rw [step_snd]; exact (lstep_spec _ e).obsOf_other h
      rw [lrun_cons_other j _ e es h]
      simp only [obsOf_append, ih1, ih2, hs, ho, List.nil_append, and_self]

theorem proj_data (j : Nat) (es : List Ev) (s : State) :
    dataOf j (run s es).2 = dataOf j (lrun j (getSub s j) es).2 := by
  rw [← (proj j es s).2, dataOf_obsOf]

theorem lrun_filter (j : Nat) (es : List Ev) (b : Sub) : lrun j b (es.filter (about j)) = lrun j b es := by
  induction es generalizing b with
  | nil => rfl
  | cons e es ih =>
    by_cases h : idx e = j
    · have : about j e = true := by simp [about_eq, h]
      rw [List.filter_cons_of_pos this, lrun_cons_self j b e _ h, lrun_cons_self j b e _ h, ih]
    · have : ¬ about j e = true := by simp [about_eq, h]
      rw [List.filter_cons_of_neg this, lrun_cons_other j b e _ h, ih]

theorem lrun_inv (j : Nat) (P : Sub → List Obs → Prop)
    (hstep : ∀ b o b' o', LStep j b b' o' → P b o → P b' (o ++ o'))
    (es : List Ev) (b : Sub) (o : List Obs) (h : P b o) : P (lrun j b es).1 (o ++ (lrun j b es).2) := by
  induction es generalizing b o with
  | nil => rw [lrun, List.append_nil]; exact h
  | cons e es ih =>
    by_cases he : idx e = j
    · rw [lrun_cons_self j b e es he, ← List.append_assoc]
      exact ih _ _ (hstep b o _ _ (he ▸ lstep_spec b e) h)
    · rw [lrun_cons_other j b e es he]; exact ih b o h

/-- `o` = everything sink `j` has observed so far -/
def Inv (j : Nat) (b : Sub) (o : List Obs) : Prop :=
  match b.pc with
  | .none => o = [] ∧ b.i = 0 ∧ b.cleared = false
  | .failed => (∃ r, r ≠ SpawnRes.ok ∧ o = [.error j r]) ∧ b.i = 0
  | .emitting v => v + 1 = b.i ∧ o = .greet j :: (List.range v).map (Obs.data j)
  | _ => o = .greet j :: (List.range b.i).map (Obs.data j)

theorem inv_init (j : Nat) : Inv j {} [] := ⟨rfl, rfl, rfl⟩

theorem LStep.inv {j : Nat} {b b' : Sub} {o o' : List Obs} (hs : LStep j b b' o') (h : Inv j b o) : Inv j b' (o ++ o') := by
  rcases b with ⟨pc, i, c⟩
  cases hs with
  | idle => rw [List.append_nil]; exact h
  | greet hpc => cases hpc; rw [h.1]; rfl
  | refuse hpc hr => cases hpc; rw [h.1]; exact ⟨⟨_, hr, rfl⟩, rfl⟩
  | expire hpc => cases hpc; rw [List.append_nil]; cases c <;> exact h
  | bump hpc => cases hpc; exact ⟨rfl, by rw [List.append_nil]; exact h⟩
  | deliver hpc =>
    cases hpc
    obtain ⟨rfl, rfl⟩ := h
    simp [Inv, List.range_succ]
  | dispose h1 h2 =>
    rw [List.append_nil]
    cases pc with
    | none => exact absurd rfl h1
    | failed => exact absurd rfl h2
    | _ => exact h

theorem inv_lrun (j : Nat) (es : List Ev) : Inv j (lrun j {} es).1 (lrun j {} es).2 :=
  lrun_inv j (Inv j) (fun _ _ _ _ hs h => hs.inv h) es {} [] (inv_init j)

theorem inv_run (j : Nat) (es : List Ev) : Inv j (getSub (run [] es).1 j) (obsOf j (run [] es).2) := by
  have ⟨h1, h2⟩ := proj j es []
  rw [h1, h2, getSub_nil]; exact inv_lrun j es

theorem inv_data (j : Nat) (b : Sub) (o : List Obs) (h : Inv j b o) :
    dataOf j o = List.range (b.i - match b.pc with | .emitting _ => 1 | _ => 0) ∧
    (match b.pc with | .emitting _ => 1 | _ => 0) ≤ b.i := by
  rcases b with ⟨pc, i, c⟩
  cases pc with
  | none => obtain ⟨rfl, rfl, _⟩ := h; exact ⟨rfl, Nat.zero_le _⟩
  | failed => obtain ⟨⟨r, _, rfl⟩, rfl⟩ := h; exact ⟨rfl, Nat.zero_le _⟩
  | emitting v => obtain ⟨rfl, rfl⟩ := h; exact ⟨dataOf_map_data j _, Nat.le_add_left 1 v⟩
  | sleeping | checked | exited => cases h; exact ⟨dataOf_map_data j _, Nat.zero_le _⟩

/-- C16 (counting): every subscription receives 0, 1, 2, …, k-1 — exactly the numbers below the count of its completed
emissions -/
theorem data_is_range (es : List Ev) (j : Nat) :
    ∃ k, dataOf j (run [] es).2 = List.range k := by
  have h := (inv_data j _ _ (inv_run j es)).1
  rw [dataOf_obsOf] at h
  exact ⟨_, h⟩

/-- … one number per processed expiry: the count of data received equals the task's counter, minus one if an emission is in
flight -/
theorem data_count (es : List Ev) (j : Nat) :
    (dataOf j (run [] es).2).length + (match (getSub (run [] es).1 j).pc with | .emitting _ => 1 | _ => 0)
      = (getSub (run [] es).1 j).i := by
  have ⟨h, hle⟩ := inv_data j _ _ (inv_run j es)
  rw [dataOf_obsOf] at h
  rw [h, List.length_range]
  omega

/-- C16 (independence): what subscription `j` receives depends only on the events that concern `j` -/
theorem independent (es : List Ev) (j : Nat) :
    dataOf j (run [] es).2 = dataOf j (run [] (es.filter (about j))).2 := by
  rw [proj_data, proj_data, lrun_filter]

/-- the same for everything sink `j` observes (greeting, data, error) and for its sub-state -/
theorem independent_obs (es : List Ev) (j : Nat) :
    obsOf j (run [] es).2 = obsOf j (run [] (es.filter (about j))).2 ∧
    getSub (run [] es).1 j = getSub (run [] (es.filter (about j))).1 j := by
  rw [(proj j es []).1, (proj j es []).2, (proj j _ []).1, (proj j _ []).2, lrun_filter]
  exact ⟨rfl, rfl⟩

theorem LStep.absorbed {j : Nat} {b b' : Sub} {o : List Obs} (hs : LStep j b b' o) (h : b.pc = .exited ∨ b.pc = .failed) :
    o = [] ∧ b'.pc = b.pc := by
  cases hs with
  | idle => exact ⟨rfl, rfl⟩
  | dispose => exact ⟨rfl, rfl⟩
  | greet hpc | refuse hpc | expire hpc | bump hpc | deliver hpc => rw [hpc] at h; rcases h with h | h <;> cases h

theorem lrun_absorbed (j : Nat) (es : List Ev) (b : Sub) (h : b.pc = .exited ∨ b.pc = .failed) :
    (lrun j b es).2 = [] ∧ (lrun j b es).1.pc = b.pc := by
  refine lrun_inv j (fun b' o => o = [] ∧ b'.pc = b.pc) (fun b₁ o b' o' hs h₁ => ?_) es b [] ⟨rfl, rfl⟩
  obtain ⟨h2, h3⟩ := hs.absorbed (h₁.2 ▸ h)
  exact ⟨by rw [h₁.1, h2]; rfl, h3.trans h₁.2⟩

/-- C16 (silence): once a tick has observed the disposal (the task exited), nothing is ever delivered to that subscription
again (in fact the sink observes nothing at all: `silent_after_exit_obs`) -/
theorem silent_after_exit (s : State) (es : List Ev) (j : Nat) (h : (getSub s j).pc = .exited) :
    dataOf j (run s es).2 = [] ∧ (getSub (run s es).1 j).pc = .exited := by
  have ⟨h1, h2⟩ := lrun_absorbed j es _ (.inl h)
  rw [proj_data, (proj j es s).1, h1]
  exact ⟨rfl, h2.trans h⟩

theorem silent_after_exit_obs (s : State) (es : List Ev) (j : Nat) (h : (getSub s j).pc = .exited) :
    obsOf j (run s es).2 = [] := by
  rw [(proj j es s).2]; exact (lrun_absorbed j es _ (.inl h)).1

/-- how many more emissions can arrive once `interval_cleared` is set -/
def bd : PC → Nat
  | .checked => 1 | .emitting _ => 1 | _ => 0

theorem LStep.cleared {j : Nat} {b b' : Sub} {o : List Obs} (hs : LStep j b b' o) (h : b.cleared = true) (hn : b.pc ≠ .none) :
    b'.cleared = true ∧ b'.pc ≠ .none ∧ bd b'.pc + (dataOf j o).length ≤ bd b.pc := by
  cases hs with
  | idle => exact ⟨h, hn, Nat.le_refl _⟩
  | greet hpc => exact absurd hpc hn
  | refuse hpc => exact absurd hpc hn
  | expire hpc => simp [h, hpc, bd, dataOf]
  | bump hpc => simp [h, hpc, bd, dataOf]
  | deliver hpc => simp [h, hpc, bd, dataOf]
  | dispose => exact ⟨rfl, hn, Nat.le_refl _⟩

theorem lrun_cleared (j : Nat) (es : List Ev) (b : Sub) (h : b.cleared = true) (hn : b.pc ≠ .none) :
    (dataOf j (lrun j b es).2).length ≤ bd b.pc := by
  have := lrun_inv j (fun b' o => b'.cleared = true ∧ b'.pc ≠ .none ∧ bd b'.pc + (dataOf j o).length ≤ bd b.pc)
    (fun b₁ o b' o' hs ⟨h1, h2, h3⟩ => by
      obtain ⟨h1', h2', h3'⟩ := hs.cleared h1 h2
      rw [dataOf_append, List.length_append]
      exact ⟨h1', h2', by omega⟩)
    es b [] ⟨h, hn, Nat.le_refl _⟩
  exact Nat.le_trans (Nat.le_add_left _ _) this.2.2

/-- … and from the moment the disposal is requested, at most the one emission already past its check can still arrive.

ADJUSTED: the hypothesis `hn : (getSub s j).pc ≠ .none` is added.  Without it the statement is false for arbitrary (unreachable)
`s`: see `at_most_one_after_dispose_needs_subscribed`.  For reachable states the hypothesis is implied by `cleared = true`:
`at_most_one_after_dispose_reachable`. -/
theorem at_most_one_after_dispose (s : State) (es : List Ev) (j : Nat) (h : (getSub s j).cleared = true)
    (hn : (getSub s j).pc ≠ .none) :
    (dataOf j (run s es).2).length ≤ (match (getSub s j).pc with | .checked => 1 | .emitting _ => 1 | _ => 0) := by
  rw [proj_data]
  exact lrun_cleared j es _ h hn

/-- the version for reachable states, with exactly the originally requested hypothesis -/
theorem at_most_one_after_dispose_reachable (es0 es : List Ev) (j : Nat)
    (h : (getSub (run [] es0).1 j).cleared = true) :
    (dataOf j (run (run [] es0).1 es).2).length ≤
      (match (getSub (run [] es0).1 j).pc with | .checked => 1 | .emitting _ => 1 | _ => 0) := by
  refine at_most_one_after_dispose _ es j h ?_
  intro hpc
  have hi := inv_run j es0
  unfold Inv at hi
  rw [hpc] at hi
  rw [hi.2.2] at h
  cases h

/-- the statement as originally written (no `pc ≠ .none`) fails on an unreachable state: flag set but not subscribed; the
subscription then resets the flag -/
theorem at_most_one_after_dispose_needs_subscribed :
    ¬ ∀ (s : State) (es : List Ev) (j : Nat), (getSub s j).cleared = true →
      (dataOf j (run s es).2).length ≤ (match (getSub s j).pc with | .checked => 1 | .emitting _ => 1 | _ => 0) := by
  intro h
  have := h [{ pc := .none, i := 0, cleared := true }] [.subscribe 0 .ok, .expire 0, .bump 0, .deliver 0] 0 rfl
  revert this
  decide

/-- C16 (spawn failure): a subscription whose task cannot be spawned receives exactly one Error and nothing else, ever -/
theorem spawn_failure (s : State) (es : List Ev) (j : Nat) (r : SpawnRes) (hr : r ≠ .ok) (h : (getSub s j).pc = .none) :
    obsOf j (run s (.subscribe j r :: es)).2 = [.error j r] := by
  rw [(proj j _ s).2, lrun_cons_self j _ _ es rfl]
  have hs : lstep (getSub s j) (.subscribe j r) = ({ pc := .failed }, [.error j r]) := by
    cases r <;> simp_all [lstep]
  rw [hs]
  simp [(lrun_absorbed j es { pc := .failed } (.inr rfl)).1]

/-- C01 for interval: a subscription is greeted at most once, and before any of its data -/
theorem greet_first (es : List Ev) (j : Nat) :
    obsOf j (run [] es).2 = [] ∨ (∃ r, r ≠ SpawnRes.ok ∧ obsOf j (run [] es).2 = [.error j r]) ∨
    (∃ vs : List Nat, obsOf j (run [] es).2 = .greet j :: vs.map (Obs.data j)) := by
  have hi := inv_run j es
  generalize getSub (run [] es).1 j = b at hi
  generalize obsOf j (run [] es).2 = o at hi
  rcases b with ⟨pc, i, c⟩
  cases pc
  case none => exact .inl hi.1
  case failed => exact .inr (.inl hi.1)
  case emitting v => exact .inr (.inr ⟨_, hi.2⟩)
  all_goals exact .inr (.inr ⟨_, hi⟩)

end Cb.Interval

#print axioms Cb.Interval.data_is_range
#print axioms Cb.Interval.data_count
#print axioms Cb.Interval.independent
#print axioms Cb.Interval.independent_obs
#print axioms Cb.Interval.silent_after_exit
#print axioms Cb.Interval.silent_after_exit_obs
#print axioms Cb.Interval.at_most_one_after_dispose
#print axioms Cb.Interval.at_most_one_after_dispose_reachable
#print axioms Cb.Interval.at_most_one_after_dispose_needs_subscribed
#print axioms Cb.Interval.spawn_failure
#print axioms Cb.Interval.greet_first
