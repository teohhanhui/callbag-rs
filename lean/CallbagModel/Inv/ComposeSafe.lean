import CallbagModel.Inv.WireSafe
import CallbagModel.Inv.Views
/-!
# Assume–guarantee: a pipeline of two safe operators is safe

`compose M₁ M₂` is `pipe!(source, op₁, op₂)` as one machine.

The invariant (`ComposeFun.compose_inv_tr`), at EVERY small-step reachable configuration of the pipeline, is a PROJECTION onto
reachable configurations of the components, each with its own ghost and its own trace (`Match`); the three traces agree side view by
side view (`TrRel`; the side views are those of `Inv/Views.lean`).  `compose M₁ M₂` is `wire` for the table `Wc`
(`Inv/Wire.lean`), and the projection is that of `Inv/WireSafe.lean`, where every micro-step is matched, read in the vocabulary of
the pipeline: `Rel`, `GhostRel`, `TrRel` are what `RelW`, `GW`, `TrW` say for `Wc`, and `Hyp` gives `HypW`.

Two things stand here because every layer above reads them off the projection: `ConcatN.Ifc k s₁ s₂`, what a machine sees of a
component at one of its wires (for `compose`: `Match.ifc`; for `plug` and `flatPlug` in their own files), and the listing of a
composite's steps with the routes resolved (`ComposeTerm.CTau`, `CCall`, `compose_step_inv`, `plug_step_inv`).

The side conditions (`Pipeable`) are themselves preserved by `compose`, so the theorem iterates to pipelines of any length and
bracketing: `Pipeable.compose` in `Inv/ComposeInst.lean`, where they are split by the role of the component and proved of the operators.

Why `hopen` cannot be dropped: let `M₂`, on `Terminate` from its sink, first `Pull` its upstream and only then `Terminate` it (no
phase-level violation), and let `M₁` subscribe to a further upstream when pulled (no violation: its sink `M₂` is live).  The
pipeline then subscribes upstream after its only sink has gone: `subAfterOver`.  Neither component can see this.
-/
namespace Cb
namespace ComposeSafe

section Proj
variable {S1 L1 S2 L2 α β γ : Type}

/-- `RelW` of `Inv/WireSafe.lean` with the routes of `Wc` resolved.  An internal call puts a frame of the other component on top
(`intLo`, `intSub`, `intUp`); an external call can only be re-entered by the component that made it (`extSub`, `extUp`, `extHi`):
that is what the conformance of the composite's environment gives.  `M₂` subscribes to `M₁` when `M₁` has never run (`intSub`:
`k1 = []`). -/
inductive Rel : Side → List (CFr L1 L2) → List (Frame (List (CFr L1 L2)) γ) → List (Frame L1 β) → List (Frame L2 γ) → Prop where
  | nil {sd} : Rel sd [] [] [] []
  | extSub {i l cfs stk k1 k2} : Rel .lo cfs stk k1 k2 →
      Rel .lo [] (.wait (.subSrc i) (.lo l :: cfs) :: stk) (.wait (.subSrc i) l :: k1) k2
  | extUp {i u l cfs stk k1 k2} : Rel .lo cfs stk k1 k2 →
      Rel .lo [] (.wait (.srcUp i u) (.lo l :: cfs) :: stk) (.wait (.srcUp i u) l :: k1) k2
  | extHi {o l cfs stk k1 k2} : SinkSide o → Rel .hi cfs stk k1 k2 →
      Rel .hi [] (.wait o (.hi l :: cfs) :: stk) k1 (.wait o l :: k2)
  | intLo {o l cfs stk k1 k2} : Internal1 o → Rel .lo cfs stk k1 k2 →
      Rel .hi (.lo l :: cfs) stk (.wait o l :: k1) k2
  | intSub {l cfs stk k2} : Rel .hi cfs stk [] k2 →
      Rel .lo (.hi l :: cfs) stk [] (.wait (.subSrc 0) l :: k2)
  | intUp {u l cfs stk k1 k2} : Rel .hi cfs stk k1 k2 →
      Rel .lo (.hi l :: cfs) stk k1 (.wait (.srcUp 0 u) l :: k2)

inductive SM : List (Frame (List (CFr L1 L2)) γ) → List (Frame L1 β) → List (Frame L2 γ) → Prop where
  | turn {sd stk k1 k2} : Rel sd [] stk k1 k2 → SM stk k1 k2
  | runLo {l cfs stk k1 k2} : Rel .lo cfs stk k1 k2 → SM (.run (.lo l :: cfs) :: stk) (.run l :: k1) k2
  | runHi {l cfs stk k1 k2} : Rel .hi cfs stk k1 k2 → SM (.run (.hi l :: cfs) :: stk) k1 (.run l :: k2)

theorem Rel.turns {sd cfs} {stk : List (Frame (List (CFr L1 L2)) γ)} {k1 : List (Frame L1 β)} {k2 : List (Frame L2 γ)}
    (h : Rel sd cfs stk k1 k2) : (ctxOf k1).isSome = true ∧ (ctxOf k2).isSome = true := by
  induction h with
  | nil => simp [ctxOf]
  | extSub _ ih => exact ⟨by simp [ctxOf], ih.2⟩
  | extUp _ ih => exact ⟨by simp [ctxOf], ih.2⟩
  | extHi _ _ ih => exact ⟨ih.1, by simp [ctxOf]⟩
  | intLo _ _ ih => exact ⟨by simp [ctxOf], ih.2⟩
  | intSub _ ih => exact ⟨by simp [ctxOf], by simp [ctxOf]⟩
  | intUp _ ih => exact ⟨ih.1, by simp [ctxOf]⟩

/-- the three ghosts: `g` of the composite (external boundary), `g1` of `M₁`, `g2` of `M₂` -/
structure GhostRel (g g1 g2 : Ph) : Prop where
  v : g.viols = []
  sink : ∀ k, g.sinkPh k = g2.sinkPh k
  src : ∀ i, g.srcPh i = g1.srcPh i
  ifc : g2.srcPh 0 = toSrc (g1.sinkPh 0)
  sink1 : ∀ k, g1.sinkPh (k + 1) = .idle
  src2 : ∀ i, g2.srcPh (i + 1) = .idle

/-- a sink that `M₁` sees open can only be `M₂`, whose upstream is then subscribed or live; if that keeps one of `M₂`'s sinks open, it is
a sink of the pipeline -/
theorem GhostRel.anySinkOpen {g g1 g2 : Ph} (h : GhostRel g g1 g2) (h1 : g1.anySinkOpen = true)
    (h2 : g2.srcPh 0 = .subscribed ∨ g2.srcPh 0 = .live → g2.anySinkOpen = true) : g.anySinkOpen = true :=
  anySinkOpen_of_sink h.sink (h2 (slot_open_of h.sink1 h.ifc h1))

theorem GhostRel.ifc_live {g g1 g2 : Ph} (h : GhostRel g g1 g2) (hl : g2.srcPh 0 = .live) : g1.sinkPh 0 = .live :=
  toSrc_live.1 (h.ifc ▸ hl)

theorem GhostRel.ifc_ended {g g1 g2 : Ph} (h : GhostRel g g1 g2) (he : g2.srcPh 0 = .ended) : g1.sinkPh 0 = .doneBySrc :=
  toSrc_ended.1 (h.ifc ▸ he)

structure Match (s : Sys (S1 × S2) (List (CFr L1 L2)) α γ) (s1 : Sys S1 L1 α β) (s2 : Sys S2 L2 β γ) : Prop where
  st : s.st = (s1.st, s2.st)
  p : s.panicked = none
  p1 : s1.panicked = none
  p2 : s2.panicked = none
  gh : GhostRel s.g.ph s1.g.ph s2.g.ph
  stk : SM s.stack s1.stack s2.stack

/-- a component waiting on an internal call is, from its own point of view, waiting on its environment -/
theorem Match.turns {s : Sys (S1 × S2) (List (CFr L1 L2)) α γ} {s1 : Sys S1 L1 α β} {s2 : Sys S2 L2 β γ}
    (hm : Match s s1 s2) (ht : EnvTurn s) : EnvTurn s1 ∧ EnvTurn s2 := by
  obtain ⟨st, stk, g, tr, p⟩ := s
  obtain ⟨st1, k1, g1, tr1, p1⟩ := s1
  obtain ⟨st2, k2, g2, tr2, p2⟩ := s2
  obtain ⟨_, _, hp1, hp2, _, hsm⟩ := hm
  cases hsm with
  | turn hrel => exact ⟨⟨hp1, hrel.turns.1⟩, ⟨hp2, hrel.turns.2⟩⟩
  | runLo hrel => cases ht.2
  | runHi hrel => cases ht.2

theorem Match.stack_nil {s : Sys (S1 × S2) (List (CFr L1 L2)) α γ} {s1 : Sys S1 L1 α β} {s2 : Sys S2 L2 β γ}
    (hm : Match s s1 s2) (h : s.stack = []) : s1.stack = [] ∧ s2.stack = [] := by
  obtain ⟨st, stk, g, tr, p⟩ := s
  obtain ⟨st1, k1, g1, tr1, p1⟩ := s1
  obtain ⟨st2, k2, g2, tr2, p2⟩ := s2
  obtain ⟨_, _, _, _, _, hsm⟩ := hm
  subst h
  cases hsm with
  | turn hrel => cases hrel; exact ⟨rfl, rfl⟩

structure Hyp (M1 : Machine S1 L1 α β) (M2 : Machine S2 L2 β γ) : Prop where
  lg2 : M2.shape.lateGreet = false
  app1 : ∀ st l b st' l', M1.step st l ≠ .call (.app b) st' l'
  sub2 : ∀ st l i st' l', M2.step st l ≠ .call (.subSrc (i + 1)) st' l'
  sync : ∀ s, SReach M1 s → s.stack = [] → s.g.ph.sinkPh 0 ≠ .subscribed
  open2 : ∀ s, SReach M2 s → EnvTurn s → (s.g.ph.srcPh 0 = .subscribed ∨ s.g.ph.srcPh 0 = .live) → s.g.ph.anySinkOpen = true
  safe1 : ∀ s, SReach M1 s → BasicSafe s
  safe2 : ∀ s, SReach M2 s → BasicSafe s

end Proj
end ComposeSafe

namespace ComposeFun
variable {α β γ : Type}

/-- the three traces: `tr` of the pipeline, `tr1` of `M₁`, `tr2` of `M₂` -/
structure TrRel (tr : List (Ev α γ)) (tr1 : List (Ev α β)) (tr2 : List (Ev β γ)) : Prop where
  sink : sinkEvs tr = sinkEvs tr2
  src : srcEvs tr = srcEvs tr1
  ifc : dualEvs (sinkEvs tr1) = srcEvs tr2

theorem TrRel.append {tr : List (Ev α γ)} {tr1 : List (Ev α β)} {tr2 : List (Ev β γ)} (h : TrRel tr tr1 tr2)
    (e : List (Ev α γ)) (e1 : List (Ev α β)) (e2 : List (Ev β γ)) (he : TrRel e e1 e2) :
    TrRel (e ++ tr) (e1 ++ tr1) (e2 ++ tr2) :=
  ⟨by rw [sinkEvs_append, sinkEvs_append, he.sink, h.sink], by rw [srcEvs_append, srcEvs_append, he.src, h.src],
    by rw [sinkEvs_append, dualEvs_append, srcEvs_append, he.ifc, h.ifc]⟩

section Flags
open ComposeComplete (lastPull lastPullSrc)
variable {tr : List (Ev α γ)} {tr1 : List (Ev α β)} {tr2 : List (Ev β γ)} (h : TrRel tr tr1 tr2)
include h

theorem TrRel.aP : ComposeComplete.aP tr = ComposeComplete.aP tr2 := congrArg (lastPull 0) h.sink

theorem TrRel.bP : ComposeComplete.bP tr = ComposeComplete.bP tr1 := congrArg (lastPullSrc 0) h.src

theorem TrRel.ifcP : ComposeComplete.bP tr2 = ComposeComplete.aP tr1 := by
  rw [ComposeComplete.bP, ← PlugConcat.lastPullSrc_srcEq, ← h.ifc, PlugSafe.srcEq_zero_dualEvs, ← PlugConcat.lastPull_dualJ]; rfl

end Flags

end ComposeFun

namespace ConcatN
open ComposeSafe ComposeFun ComposeComplete PlugSafe PlugConcat

section Ifc
variable {SA LA αA β : Type}

/-- upstream slot `k` of a machine, in the configuration `sC`, wired to sink 0 of another, in the configuration `sA`: what `sC` has seen at
`k` is what `sA` has done at its sink.  `sC` is the stage of a pipeline and `k = 0` (`Match.ifc`), or a join with a closed source plugged
into slot `k`: `concat` (`View.plug` of `Inv/PlugConcat.lean`) or `flatten` (`ProjF.ifcO`, `ProjF.ifcI` of `Inv/FlatPlugFun.lean`).  The
guards of `sA`'s sink side cross it once each: `Ifc.pOk`, `Ifc.eOk`, `Ifc.endLen`, `Ifc.demOk`, next to the guards. -/
structure Ifc {S L γ : Type} (k : Nat) (sA : Sys SA LA αA β) (sC : Sys S L β γ) : Prop where
  evs : srcEq k (srcEvs sC.tr) = dualJ k (sinkEvs sA.tr)
  ph : sC.g.ph.srcPh k = toSrc (sA.g.ph.sinkPh 0)

variable {S L γ : Type} {k : Nat} {sA : Sys SA LA αA β} {sC : Sys S L β γ} (h : Ifc k sA sC)
include h

theorem Ifc.sent : sentData k sC.tr = recvData 0 sA.tr := by
  rw [sentData_eq, ← sentS_srcEq, h.evs, recvData_eq, recvS_dualJ k]

theorem Ifc.noErr (hA : ¬ ErrOut sA.tr) (e : Nat) : SrcEv.down k (Down.err e) ∉ srcEvs sC.tr :=
  fun he => hA ⟨0, e, mem_dualJ_down (h.evs ▸ mem_srcEq_down he)⟩

theorem Ifc.lastPull : lastPullSrc k (srcEvs sC.tr) = aP sA.tr := by
  rw [← lastPullSrc_srcEq, h.evs, ← lastPull_dualJ]; rfl

theorem Ifc.ended (he : sC.g.ph.srcPh k = .ended) : sA.g.ph.sinkPh 0 = .doneBySrc := toSrc_ended.1 (h.ph ▸ he)

theorem Ifc.live (hl : sC.g.ph.srcPh k = .live) : sA.g.ph.sinkPh 0 = .live := toSrc_live.1 (h.ph ▸ hl)

end Ifc
end ConcatN

namespace ComposeSafe

theorem Match.ifc {S1 L1 S2 L2 α β γ : Type} {s : Sys (S1 × S2) (List (CFr L1 L2)) α γ} {s1 : Sys S1 L1 α β} {s2 : Sys S2 L2 β γ}
    (hm : Match s s1 s2) (ht : ComposeFun.TrRel s.tr s1.tr s2.tr) : ConcatN.Ifc 0 s1 s2 :=
  ⟨by rw [← ht.ifc, PlugSafe.srcEq_zero_dualEvs], hm.gh.ifc⟩

end ComposeSafe

namespace Wire
open ComposeSafe ComposeFun

section Compose
variable {S1 L1 S2 L2 α β γ : Type}

theorem RelW.toRel {sd : Side} {cfs : List (CFr L1 L2)} {stk : List (Frame (List (CFr L1 L2)) γ)}
    {k1 : List (Frame L1 β)} {k2 : List (Frame L2 γ)} (h : RelW (Wc (α := α)) sd cfs stk k1 k2) : Rel sd cfs stk k1 k2 := by
  induction h with
  | nil => exact .nil
  | ext1 hw _ ih =>
    obtain ⟨i, i', hi, ⟨rfl, rfl⟩ | ⟨u, rfl, rfl⟩⟩ := out1_ext hw <;> cases hi
    · exact .extSub ih
    · exact .extUp ih
  | ext2 hw _ ih =>
    rcases out2_ext hw with ⟨rfl, ho⟩ | ⟨i, i', _, hi, _⟩
    · exact .extHi ho ih
    · cases hi
  | int1 hw _ ih => exact .intLo (internal1_of_int hw) ih
  | int2 hw hk _ ih =>
    rcases out2_int hw with ⟨rfl, _⟩ | ⟨u, rfl, _⟩
    · cases hk rfl; exact .intSub ih
    · exact .intUp ih

theorem GW.toGhostRel {g g1 g2 : Ph} (h : GW (Wc (α := α) (β := β)) g g1 g2) : GhostRel g g1 g2 :=
  ⟨h.v, h.sink, fun i => h.src1 i i rfl, h.ifc, h.sink1, fun i => h.dead2 (i + 1) (Nat.succ_ne_zero i) rfl⟩

theorem MatchW.toMatch {s : Sys (S1 × S2) (List (CFr L1 L2)) α γ} {s1 : Sys S1 L1 α β} {s2 : Sys S2 L2 β γ}
    (h : MatchW Wc s s1 s2) : Match s s1 s2 := by
  obtain ⟨st, stk, g, tr, p⟩ := s
  obtain ⟨st1, k1, g1, tr1, p1⟩ := s1
  obtain ⟨st2, k2, g2, tr2, p2⟩ := s2
  obtain ⟨h1, h2, h3, h4, h5, h6, _, _⟩ := h
  refine ⟨h1, h2, h3, h4, h5.toGhostRel, ?_⟩
  cases h6 with
  | turn hr => exact .turn hr.toRel
  | runLo hr => exact .runLo hr.toRel
  | runHi hr => exact .runHi hr.toRel

theorem Blk.toTrRel {e : List (Ev α γ)} {e1 : List (Ev α β)} {e2 : List (Ev β γ)} (h : Blk Wc e e1 e2) : TrRel e e1 e2 := by
  cases h with
  | int1 hw => rcases out1_int hw with ⟨rfl, rfl⟩ | ⟨d, rfl, rfl⟩ <;> exact ⟨rfl, rfl, rfl⟩
  | ext1 hw => obtain ⟨i, i', hi, ⟨rfl, rfl⟩ | ⟨u, rfl, rfl⟩⟩ := out1_ext hw <;> cases hi <;> exact ⟨rfl, rfl, rfl⟩
  | int2 hw => rcases out2_int hw with ⟨rfl, rfl⟩ | ⟨u, rfl, rfl⟩ <;> exact ⟨rfl, rfl, rfl⟩
  | @ext2 o o' hw =>
    rcases out2_ext hw with ⟨rfl, ho⟩ | ⟨i, i', _, hi, _⟩
    · cases o' <;> first | exact ⟨rfl, rfl, rfl⟩ | cases ho
    · cases hi
  | @in1 i i1 h => cases i <;> cases h <;> exact ⟨rfl, rfl, rfl⟩
  | @in2 i i2 h => cases i <;> cases h <;> exact ⟨rfl, rfl, rfl⟩
  | _ => exact ⟨rfl, rfl, rfl⟩

theorem TrW.toTrRel {t : List (Ev α γ)} {t1 : List (Ev α β)} {t2 : List (Ev β γ)} (h : TrW Wc t t1 t2) : TrRel t t1 t2 := by
  induction h with
  | nil => exact ⟨rfl, rfl, rfl⟩
  | step hb _ ih => exact ih.append _ _ _ hb.toTrRel

theorem hypW_of_hyp {M1 : Machine S1 L1 α β} {M2 : Machine S2 L2 β γ} (H : Hyp M1 M2) :
    HypW Wc (compose M1 M2).shape M1 M2 where
  ok := wc_ok
  shp := ⟨id, fun _ _ _ h => h, fun _ _ _ h => nomatch h⟩
  noApp1 := H.app1
  sub1 _ _ _ _ _ _ _ _ _ _ _ := rfl
  sub2 _ _ i _ _ h := by cases i with | zero => exact .inl rfl | succ i => exact absurd h (H.sub2 _ _ _ _ _)
  sync := .inr H.sync
  opn _ _ _ := .inl (.of_turns H.open2)
  safe1 := H.safe1
  safe2 := H.safe2

end Compose
end Wire

namespace ComposeFun
open ComposeSafe
variable {S1 L1 S2 L2 α β γ : Type} {M1 : Machine S1 L1 α β} {M2 : Machine S2 L2 β γ}

/-- THE INVARIANT: every reachable configuration of the pipeline projects onto reachable configurations of its components, and the
three boundary traces agree side by side -/
theorem compose_inv_tr (H : Hyp M1 M2) :
    ∀ s, SReach (compose M1 M2) s →
      ∃ s1 s2, SReach M1 s1 ∧ SReach M2 s2 ∧ Match s s1 s2 ∧ TrRel s.tr s1.tr s2.tr := by
  intro s hs
  rw [Wire.compose_eq_wire] at hs
  obtain ⟨s1, s2, h1, h2, hm⟩ := Wire.wire_inv (Wire.hypW_of_hyp H) s hs
  exact ⟨s1, s2, h1, h2, hm.toMatch, hm.tr.toTrRel⟩

end ComposeFun

namespace ComposeSafe
variable {S1 L1 S2 L2 α β γ : Type} {M1 : Machine S1 L1 α β} {M2 : Machine S2 L2 β γ}

theorem compose_inv (H : Hyp M1 M2) :
    ∀ s, SReach (compose M1 M2) s → ∃ s1 s2, SReach M1 s1 ∧ SReach M2 s2 ∧ Match s s1 s2 := by
  intro s hs
  obtain ⟨s1, s2, hr1, hr2, hm, _⟩ := ComposeFun.compose_inv_tr H s hs
  exact ⟨s1, s2, hr1, hr2, hm⟩

end ComposeSafe

open ComposeSafe in
/-- **Assume–guarantee for pipelines.**  If `M₁` and `M₂` are each phase-level safe against EVERY conformant environment, then so is
`pipe!(·, M₁, M₂)`, provided

* `hlg2`   `M₂` expects its upstream to greet inside the subscribing call (no late greeting), and
  `hsync`  `M₁` does greet its sink inside the subscribing call;
* `hopen`  whenever `M₂` has given up control while its upstream is subscribed or live, one of its own sinks is still open
  (otherwise an upstream subscription made by `M₁` at that moment would be a `subAfterOver` of the pipeline that neither component
  can see: `M₁` sees its sink `M₂` open, and `M₂` made no call);
* `happ`, `hsub`  (syntactic) `M₁` never applies a user closure and `M₂` has a single upstream: the panic branches of `compose`
  are dead code.  (`M₁` calling a sink other than 0, or `M₂` messaging an upstream other than 0, is already excluded by `h1`, `h2`.) -/
theorem compose_basicSafe {S1 L1 S2 L2 α β γ : Type} (M1 : Machine S1 L1 α β) (M2 : Machine S2 L2 β γ)
    (hlg2 : M2.shape.lateGreet = false)
    (happ : ∀ st l b st' l', M1.step st l ≠ .call (.app b) st' l')
    (hsub : ∀ st l i st' l', M2.step st l ≠ .call (.subSrc (i + 1)) st' l')
    (hsync : ∀ s, SReach M1 s → s.stack = [] → s.g.ph.sinkPh 0 ≠ .subscribed)
    (hopen : ∀ s, SReach M2 s → EnvTurn s → (s.g.ph.srcPh 0 = .subscribed ∨ s.g.ph.srcPh 0 = .live) →
      s.g.ph.anySinkOpen = true)
    (h1 : ∀ s, SReach M1 s → BasicSafe s) (h2 : ∀ s, SReach M2 s → BasicSafe s) :
    ∀ s, SReach (compose M1 M2) s → BasicSafe s := by
  intro s hs
  obtain ⟨s1, s2, _, _, hm⟩ := compose_inv ⟨hlg2, happ, hsub, hsync, hopen, h1, h2⟩ s hs
  exact ⟨hm.gh.v, hm.p⟩

/-- everything the assume–guarantee theorem asks of a component, in either role -/
structure Pipeable {St Loc α β : Type} (M : Machine St Loc α β) : Prop where
  lg : M.shape.lateGreet = false
  noApp : ∀ st l b st' l', M.step st l ≠ .call (.app b) st' l'
  oneSrc : ∀ st l i st' l', M.step st l ≠ .call (.subSrc (i + 1)) st' l'
  sync : ∀ s, SReach M s → s.stack = [] → s.g.ph.sinkPh 0 ≠ .subscribed
  opn : ∀ s, SReach M s → EnvTurn s → (s.g.ph.srcPh 0 = .subscribed ∨ s.g.ph.srcPh 0 = .live) → s.g.ph.anySinkOpen = true
  safe : ∀ s, SReach M s → BasicSafe s

namespace ComposeTerm
section Steps
variable {S1 L1 S2 L2 α β γ : Type} {M1 : Machine S1 L1 α β} {M2 : Machine S2 L2 β γ}

/-- the internal steps of `plug j M₁ M₂`, and of `compose M₁ M₂` (`j = 0`) -/
inductive CTau (j : Nat) (M1 : Machine S1 L1 α β) (M2 : Machine S2 L2 β γ) (st : S1 × S2) :
    List (CFr L1 L2) → S1 × S2 → List (CFr L1 L2) → Prop
  | lo {l rest s1 l'} : M1.step st.1 l = .tau s1 l' → CTau j M1 M2 st (.lo l :: rest) (s1, st.2) (.lo l' :: rest)
  | hi {l rest s2 l'} : M2.step st.2 l = .tau s2 l' → CTau j M1 M2 st (.hi l :: rest) (st.1, s2) (.hi l' :: rest)
  | pop {e e' rest} : CTau j M1 M2 st (e :: e' :: rest) st (e' :: rest)
  | greet {l rest s1 l'} : M1.step st.1 l = .call (.greet 0) s1 l' →
      CTau j M1 M2 st (.lo l :: rest) (s1, st.2) (.hi (M2.enter (.srcGreet j)) :: .lo l' :: rest)
  | down {l rest d s1 l'} : M1.step st.1 l = .call (.down 0 d) s1 l' →
      CTau j M1 M2 st (.lo l :: rest) (s1, st.2) (.hi (M2.enter (.srcDown j d)) :: .lo l' :: rest)
  | sub {l rest s2 l'} : M2.step st.2 l = .call (.subSrc j) s2 l' →
      CTau j M1 M2 st (.hi l :: rest) (st.1, s2) (.lo (M1.enter (.subscribe 0)) :: .hi l' :: rest)
  | up {l rest u s2 l'} : M2.step st.2 l = .call (.srcUp j u) s2 l' →
      CTau j M1 M2 st (.hi l :: rest) (st.1, s2) (.lo (M1.enter (.sinkUp 0 u)) :: .hi l' :: rest)

inductive CCall (M1 : Machine S1 L1 α β) (M2 : Machine S2 L2 β γ) (st : S1 × S2) :
    List (CFr L1 L2) → Out γ → S1 × S2 → List (CFr L1 L2) → Prop
  | sub {l rest i s1 l'} : M1.step st.1 l = .call (.subSrc i) s1 l' → CCall M1 M2 st (.lo l :: rest) (.subSrc i) (s1, st.2) (.lo l' :: rest)
  | up {l rest i u s1 l'} : M1.step st.1 l = .call (.srcUp i u) s1 l' →
      CCall M1 M2 st (.lo l :: rest) (.srcUp i u) (s1, st.2) (.lo l' :: rest)
  | greet {l rest k s2 l'} : M2.step st.2 l = .call (.greet k) s2 l' → CCall M1 M2 st (.hi l :: rest) (.greet k) (st.1, s2) (.hi l' :: rest)
  | down {l rest k d s2 l'} : M2.step st.2 l = .call (.down k d) s2 l' →
      CCall M1 M2 st (.hi l :: rest) (.down k d) (st.1, s2) (.hi l' :: rest)
  | app {l rest b s2 l'} : M2.step st.2 l = .call (.app b) s2 l' → CCall M1 M2 st (.hi l :: rest) (.app b) (st.1, s2) (.hi l' :: rest)

/-- the silent steps of the wiring (`Inv/Wire.lean`) with the routes resolved: what the table routes inside are the calls across the
boundary between sink 0 of `M₁` and upstream `W.j` of `M₂` -/
theorem CTau.of_wire {ι : Type} {W : Wire.Wiring ι α β} {st s' : S1 × S2} {cfs cfs' : List (CFr L1 L2)}
    (h : Wire.Tau W M1 M2 st cfs s' cfs') : CTau W.j M1 M2 st cfs s' cfs' := by
  cases h with
  | lo h => exact .lo h
  | hi h => exact .hi h
  | loRet | hiRet => exact .pop
  | loInt h hw =>
    rcases Wire.out1_int hw with ⟨rfl, rfl⟩ | ⟨d, rfl, rfl⟩
    · exact .greet h
    · exact .down h
  | hiInt h hw =>
    rcases Wire.out2_int hw with ⟨rfl, rfl⟩ | ⟨u, rfl, rfl⟩
    · exact .sub h
    · exact .up h

theorem CCall.of_wire {st s' : S1 × S2} {cfs cfs' : List (CFr L1 L2)} {o : Out γ}
    (h : Wire.Call Wire.Wc M1 M2 st cfs o s' cfs') : CCall M1 M2 st cfs o s' cfs' := by
  cases h with
  | lo h hw =>
    obtain ⟨i, i', hi, ⟨rfl, rfl⟩ | ⟨u, rfl, rfl⟩⟩ := Wire.out1_ext hw <;> cases hi
    · exact .sub h
    · exact .up h
  | hi h hw =>
    rcases Wire.out2_ext hw with ⟨rfl, ho⟩ | ⟨i, i', _, hi, _⟩
    · cases o with
      | greet k => exact .greet h
      | down k d => exact .down h
      | app b => exact .app h
      | _ => exact ho.elim
    · cases hi

theorem compose_step_inv (st : S1 × S2) (cfs : List (CFr L1 L2)) :
    ((Cb.compose M1 M2).step st cfs).Sat (CTau 0 M1 M2 st cfs) (CCall M1 M2 st cfs) := by
  rw [Wire.compose_eq_wire]
  exact .of (fun e => .of_wire (Wire.Edge.of e)) fun e => .of_wire (Wire.Edge.of e)

theorem plug_step_inv (j : Nat) (st : S1 × S2) (cfs : List (CFr L1 L2)) :
    ((Cb.plug j M1 M2).step st cfs).Sat (CTau j M1 M2 st cfs) (fun o s' cfs' =>
      ∃ l rest s2 l', cfs = .hi l :: rest ∧ M2.step st.2 l = .call o s2 l' ∧ s' = (st.1, s2) ∧ cfs' = .hi l' :: rest) := by
  rw [Wire.plug_eq_wire]
  refine .of (fun e => .of_wire (Wire.Edge.of e)) fun e => ?_
  -- the table of `plug` routes outside the calls of `M₂` only, and leaves them as they are
  cases Wire.Edge.of e with
  | lo h hw => obtain ⟨_, _, hi, _⟩ := Wire.out1_ext hw; cases hi
  | hi h hw =>
    rcases Wire.out2_ext hw with ⟨rfl, _⟩ | ⟨_, _, _, hi, ho⟩
    · exact ⟨_, _, _, _, rfl, h, rfl, rfl⟩
    · cases hi
      obtain ⟨rfl, rfl⟩ | ⟨_, rfl, rfl⟩ := ho <;> exact ⟨_, _, _, _, rfl, h, rfl, rfl⟩

end Steps
end ComposeTerm

namespace ComposeSafe
variable {S1 L1 S2 L2 α β γ : Type} {M1 : Machine S1 L1 α β} {M2 : Machine S2 L2 β γ}

theorem compose_noApp (h : ∀ st l b st' l', M2.step st l ≠ .call (.app b) st' l') :
    ∀ st l b st' l', (compose M1 M2).step st l ≠ .call (.app b) st' l' := by
  intro st l b st' l' hc
  cases (ComposeTerm.compose_step_inv st l).call hc with
  | app h2 => exact h _ _ _ _ _ h2

theorem compose_oneSrc (h : ∀ st l i st' l', M1.step st l ≠ .call (.subSrc (i + 1)) st' l') :
    ∀ st l i st' l', (compose M1 M2).step st l ≠ .call (.subSrc (i + 1)) st' l' := by
  intro st l i st' l' hc
  cases (ComposeTerm.compose_step_inv st l).call hc with
  | sub h1 => exact h _ _ _ _ _ h1

end ComposeSafe

end Cb

#print axioms Cb.compose_basicSafe
