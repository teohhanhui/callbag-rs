import CallbagModel.Inv.Ghost2
import CallbagModel.Inv.Relay
/-!
# map / filter / scan / skip: the FULL safety invariant (both ghost layers: C01–C05, C17)

The second layer is `XOkRelay`: its clause `sinkErr = none` unless the sink has disposed is needed where the sink's
`Terminate` is forwarded upstream.
-/
namespace Cb.RelayFull
open Cb.Relay

/-- The generic relay: under every conformant environment it never violates any clause of C01–C05 and never panics,
provided a kind that drops items (and therefore re-pulls through the slot) is a slotted kind. -/
theorem relay_safe {σ α β : Type} (k : Kind σ α β) (hk : k.slotted = false → ∀ s a, (k.xfer s a).2 ≠ none) :
    ∀ s, SReach (machine k) s → Safe s :=
  Lands.safe (inv_init k) XOkRelay.init (inv_turn k) (fun _ h => h.1.clean) (macro_step k hk)

theorem map_safe {α β : Type} (f : α → β) : ∀ s, SReach (machine (map f)) s → Safe s :=
  relay_safe (map f) (map_ok f)

theorem filter_safe {α : Type} (p : α → Bool) : ∀ s, SReach (machine (filter p)) s → Safe s :=
  relay_safe (filter p) (filter_ok p)

theorem scan_safe {α β : Type} (r : β → α → β) (seed : β) : ∀ s, SReach (machine (scan r seed)) s → Safe s :=
  relay_safe (scan r seed) (scan_ok r seed)

theorem skip_safe {α : Type} (n : Nat) : ∀ s, SReach (machine (skip (α := α) n)) s → Safe s :=
  relay_safe (skip n) (skip_ok n)

end Cb.RelayFull

#print axioms Cb.RelayFull.relay_safe
#print axioms Cb.RelayFull.map_safe
#print axioms Cb.RelayFull.filter_safe
#print axioms Cb.RelayFull.scan_safe
#print axioms Cb.RelayFull.skip_safe
