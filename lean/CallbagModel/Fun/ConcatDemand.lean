import CallbagModel.Fun.Concat
import CallbagModel.Fun.Demand
/-!
# concat: demand conservation (C14) holds on every trace of the model, under the pullable discipline

Counting, with `P = pullsIn 0 tr`, `D = |recvData 0 tr|`, current member `c = st.i`, `U = pullsOut c tr`, `A = answersOf c tr`:

* while member `c` has not greeted: `U = A = 0`, and the sink's demand is carried by the pending greeting — `P = 0` for the
  first member (the sink has not even been greeted), `P = D + 1` for a later one: the end of member `c - 1` was its answer to
  a Pull (the discipline: `A < U` before), the sink cannot be owed more than one (the discipline: `P ≤ prompts ≤ 1 + D`);
* once it has greeted: `P + A = U + D` — the Pull re-issued at the greeting of a later member (`gotPull`, which is `0 < P`)
  is exactly the one the sink is owed;
* members after `c` have never been pulled and have never answered.

`D ≤ P` follows: a datum of member `c` needs `A < U`.  The invariant of `Fun/Concat.lean` is reused as it is (it gives
`subscriptions tr = [0, …, c]` and `gotPull ↔ 0 < P`).
-/
namespace Cb.ConcatDemand
open Cb.Concat Cb.ConcatFun

variable {α : Type}

/-- the demand accounting while the output is open; `i` is the current member -/
def Z (i : Nat) (tr : List (Ev α α)) : Prop :=
  (srcGreeted i tr = false → pullsOut i tr = 0 ∧ answersOf i tr = 0 ∧ (i = 0 → pullsIn 0 tr = 0) ∧
      (i ≠ 0 → pullsIn 0 tr = (recvData 0 tr).length + 1)) ∧
  (srcGreeted i tr = true → pullsIn 0 tr + answersOf i tr = pullsOut i tr + (recvData 0 tr).length)

structure Y (i : Nat) (tr : List (Ev α α)) : Prop where
  le : (recvData 0 tr).length ≤ pullsIn 0 tr
  fut : ∀ j, i < j → pullsOut j tr = 0 ∧ answersOf j tr = 0
  acc : sinkDisposed 0 tr = true ∨ finalsTo 0 tr = 1 ∨ Z i tr

variable {i : Nat} {tr : List (Ev α α)}

theorem Y.z (h : Y i tr) (nd : sinkDisposed 0 tr = false) (nf : finalsTo 0 tr = 0) : Z i tr := by
  rcases h.acc with h | h | h
  · rw [nd] at h; cases h
  · omega
  · exact h

theorem Y.init : Y 0 ([] : List (Ev α α)) :=
  ⟨by simp [recvData], fun j _ => by simp [pullsOut, answersOf],
    .inr (.inr ⟨fun _ => by simp [pullsOut, answersOf, pullsIn], fun h => by simp [srcGreeted] at h⟩)⟩

theorem Y.carried {j : Nat} (hj : j ≠ 0) (h : Y j tr) (nd : sinkDisposed 0 tr = false) (nf : finalsTo 0 tr = 0)
    (hg : srcGreeted j tr = false) : pullsIn 0 tr = (recvData 0 tr).length + 1 :=
  ((h.z nd nf).1 hg).2.2.2 hj

/-- The clause `fut` of `Y`, at every reachable turn: it is not carried from turn to turn. -/
theorem fut_of_reach (n : Nat) (hn : 0 < n) {s : Sys St (Loc α) α α} (hs : SReachR (machine α n) pullable s) (ht : EnvTurn s) :
    ∀ j, s.st.i < j → pullsOut j s.tr = 0 ∧ answersOf j s.tr = 0 := by
  intro j hj
  obtain ⟨hI, hF⟩ := t_at_turn n hn hs.weaken ht
  have hidle : s.g.ph.srcPh j = .idle := Decidable.not_not.1 fun hne => by
    have hm := mem_subscriptions_of_phase hs hne
    rcases hF with ⟨_, htr, _⟩ | ⟨_, hT⟩
    · rw [htr] at hm; cases hm
    · rw [hT.subs, List.mem_range] at hm; omega
  have h0 := pullsOut_of_ungreeted hs hI.2.1 (srcGreeted_eq_false hs (.inl hidle))
  exact ⟨h0, by have := answers_le_pulls hs j; omega⟩

def YC (s : Sys St (Loc α) α α) : Prop :=
  (∀ j, s.st.i < j → pullsOut j s.tr = 0 ∧ answersOf j s.tr = 0) → Y s.st.i s.tr

theorem Y.macro {n : Nat} (hn : 0 < n) {s : Sys St (Loc α) α α} {m : Move α} {st' : St} {r : Option (Out α × Loc α)}
    (hr : SReachR (machine α n) pullable s) (hI : Concat.Inv n s) (hY : Y s.st.i s.tr) (hR : pullable s m)
    (hM : Macro n s m st' r) : YC (s.next (machine α n).shape st' m r) := by
  have hF := (t_at_turn n hn hr.weaken (inv_turn n s hI).1).2
  have hv := hI.2.1
  have hgr := srcGreeted_iff hr
  have hq : pullsIn 0 s.tr ≤ 1 + (recvData 0 s.tr).length :=
    Nat.le_trans (pulls_le_prompts hr 0) (promptsTo_le hr hv 0)
  have hopen : (s.g.ph.sinkPh 0 = .subscribed ∨ s.g.ph.sinkPh 0 = .live) →
      sinkDisposed 0 s.tr = false ∧ finalsTo 0 s.tr = 0 := fun hph =>
    ⟨sinkDisposed_eq_false hr (by rcases hph with h | h <;> simp [h]),
      finalsTo_eq_zero hr hv (by rcases hph with h | h <;> simp [h])⟩
  have hng : ∀ j, s.g.ph.srcPh j = .subscribed ∨ s.g.ph.srcPh j = .idle → srcGreeted j s.tr = false :=
    fun j hj => srcGreeted_eq_false hr hj.symm
  have hT : s.g.ph.sinkPh 0 ≠ .idle → T n s.st.i s.st.gotPull s.tr := fun h => (hF.resolve_left fun hh => h hh.1).2
  have hle := hY.le
  cases hM <;> dsimp only [Sys.next, Sys.ends, YC] <;> intro hfut
  case sub h0 hi =>
    obtain ⟨_, htr, _⟩ := hF.resolve_right fun hh => hh.1 h0
    rw [htr, hi] at hfut ⊢
    exact ⟨(Y.init (α := α)).le, hfut, (Y.init (α := α)).acc⟩
  case pull h0 h1 =>
    obtain ⟨nd, nf⟩ := hopen (.inr h0)
    have hg := (hgr _).2 (.inl h1)
    have hz := (hY.z nd nf).2 hg
    refine ⟨?_, hfut, .inr (.inr ⟨fun hg' => ?_, fun _ => ?_⟩)⟩
    · simp only [recvData, pullsIn, ↓reduceIte]; omega
    · simp [srcGreeted, hg] at hg'
    · simp only [recvData, pullsIn, pullsOut, answersOf, ↓reduceIte]; omega
  case stop u hu _ =>
    cases u with
    | pull => exact absurd rfl hu
    | term | err e => exact ⟨hle, hfut, .inl rfl⟩
  case greet0 hi h0 h1 =>
    obtain ⟨nd, nf⟩ := hopen (.inl h0)
    rw [hi] at hY
    obtain ⟨z1, z2, z3, _⟩ := (hY.z nd nf).1 (hng 0 (.inl h1))
    have z3 := z3 rfl
    refine ⟨hle, hfut, .inr (.inr ⟨fun hg' => ?_, fun _ => ?_⟩)⟩
    · rw [hi] at hg'; simp [srcGreeted] at hg'
    · rw [hi]; simp only [recvData, pullsIn, pullsOut, answersOf]; omega
  case greetIdle hi hp h0 h1 =>
    -- impossible: the pending greeting carries a Pull of the sink, which `gotPull` remembers
    obtain ⟨nd, nf⟩ := hopen (.inr h0)
    have hcar := hY.carried hi nd nf (hng _ (.inl h1))
    have := (hT (by simp [h0])).pull
    rw [hp] at this; simp at this; omega
  case greetPull hi _ h0 h1 =>
    obtain ⟨nd, nf⟩ := hopen (.inr h0)
    obtain ⟨z1, z2, _, z4⟩ := (hY.z nd nf).1 (hng _ (.inl h1))
    have z4 := z4 hi
    refine ⟨hle, hfut, .inr (.inr ⟨fun hg' => by simp [srcGreeted] at hg', fun _ => ?_⟩)⟩
    simp only [recvData, pullsIn, pullsOut, answersOf, ↓reduceIte]; omega
  case data a h0 h1 =>
    obtain ⟨nd, nf⟩ := hopen (.inr h0)
    have hg := (hgr _).2 (.inl h1)
    have hz := (hY.z nd nf).2 hg
    have hp : answersOf s.st.i s.tr < pullsOut s.st.i s.tr := by simpa [pullable, pullableB] using hR
    refine ⟨?_, hfut, .inr (.inr ⟨fun hg' => ?_, fun _ => ?_⟩)⟩
    · simp only [recvData, pullsIn, ↓reduceIte, List.length_append, List.length_singleton]; omega
    · simp [srcGreeted, hg] at hg'
    · simp only [recvData, pullsIn, pullsOut, answersOf, ↓reduceIte, List.length_append, List.length_singleton]; omega
  case err e h0 => exact ⟨hle, hfut, .inr (.inl (by simp [finalsTo, (hopen (.inr h0)).2]))⟩
  case last _ h0 => exact ⟨hle, hfut, .inr (.inl (by simp [finalsTo, (hopen (.inr h0)).2]))⟩
  case next _ h0 h1 h2 =>
    -- the member's end is its answer to the Pull the sink is owed; the next member is subscribed, and the sink's demand is
    -- now carried by its pending greeting
    obtain ⟨nd, nf⟩ := hopen (.inr h0)
    have hz := (hY.z nd nf).2 ((hgr _).2 (.inl h1))
    have hp : answersOf s.st.i s.tr < pullsOut s.st.i s.tr := by simpa [pullable, pullableB] using hR
    have hg' := hng _ (.inr h2)
    obtain ⟨f1, f2⟩ := hY.fut (s.st.i + 1) (by omega)
    refine ⟨hle, hfut, .inr (.inr ⟨fun _ => ?_, fun hc => ?_⟩)⟩
    · refine ⟨by simpa [pullsOut] using f1, by simpa [answersOf] using f2, (fun h0 => (Nat.succ_ne_zero _ h0).elim), fun _ => ?_⟩
      simp only [recvData, pullsIn]; omega
    · simp [srcGreeted, hg'] at hc
  case ret =>
    exact ⟨hle, hfut, hY.acc⟩

theorem dinv_of_reach (n : Nat) (hn : 0 < n) {s : Sys St (Loc α) α α} (hs : SReachR (machine α n) pullable s) (ht : EnvTurn s) :
    Concat.Inv n s ∧ Y s.st.i s.tr :=
  (Lands.at_turn pullable YC (inv_init n) (fun _ => Y.init) (fun s h => (inv_turn n s h).1)
    (macro_inv hn)
    (fun s _ _ _ hr hi hY hR hM _ _ => (hY (fut_of_reach n hn hr (inv_turn n s hi).1)).macro hn hr hi hR hM) hs ht).imp_right
    fun h => h (fut_of_reach n hn hs ht)

/-- **C14** for `concat` (model side): under the pullable discipline, at every reachable configuration where the environment
has control, the sink has never received more Data than it sent Pulls, and a Pull that has not been answered is moot (the sink
disposed), or owed by the current member (live, fewer answers than Pulls), or carried by the pending greeting of the member
just subscribed (at which the operator re-issues it). -/
theorem concat_demand {α : Type} (n : Nat) (hn : 0 < n) :
    ∀ s, SReachR (Concat.machine α n) pullable s → EnvTurn s → demandOk s.tr = true := by
  intro s hs ht
  obtain ⟨_, hY⟩ := dinv_of_reach n hn hs ht
  obtain ⟨⟨hp, hv, hoths, hm⟩, hF⟩ := t_at_turn n hn hs.weaken ht
  have hdisp := sinkDisposed_iff hs 0
  have hfin := finalsTo_iff hs hv 0
  unfold demandOk
  simp only [Bool.and_eq_true, decide_eq_true_eq]
  refine ⟨hY.le, ?_⟩
  split
  · rename_i hc
    simp only [beq_iff_eq] at hc
    obtain ⟨hlt, hf⟩ := hc
    have hT : T n s.st.i s.st.gotPull s.tr := by
      rcases hF with ⟨_, htr, _⟩ | ⟨_, hT⟩
      · rw [htr] at hlt; simp [pullsIn] at hlt
      · exact hT
    have hmem : s.st.i < n → s.st.i ∈ subscriptions s.tr := by
      intro hi
      rw [hT.subs, List.mem_range]
      omega
    have hopen : (s.g.ph.sinkPh 0 = .subscribed ∨ s.g.ph.sinkPh 0 = .live) → Z s.st.i s.tr := fun hph =>
      hY.z (sinkDisposed_eq_false hs (by rcases hph with h | h <;> simp [h])) hf
    cases hm with
    | idle h1 h2 h3 h4 =>
      rcases hF with ⟨_, htr, _⟩ | ⟨hne, _⟩
      · rw [htr] at hlt; simp [pullsIn] at hlt
      · exact absurd h1 hne
    | waiting h1 h2 h3 h4 h5 h6 h7 =>
      have hg : srcGreeted s.st.i s.tr = false := srcGreeted_eq_false hs (.inr h2)
      have hpend : pendingTr s.st.i s.tr = true := by simp [pendingTr, hmem h1, hg]
      have hany : (subscriptions s.tr).any (fun i => (liveTr i s.tr && decide (answersOf i s.tr < pullsOut i s.tr))
          || pendingTr i s.tr) = true :=
        List.any_eq_true.2 ⟨s.st.i, hmem h1, by simp [hpend]⟩
      simp [hany]
    | live h1 h2 h3 h4 h5 h6 h7 =>
      have hg : srcGreeted s.st.i s.tr = true := (srcGreeted_iff hs s.st.i).2 (.inl h4)
      have hz := (hopen (.inr h3)).2 hg
      have hlive : liveTr s.st.i s.tr = true := ((TG.of_reach hs).ph.live_iff hv _).2 h4
      have hany : (subscriptions s.tr).any (fun i => (liveTr i s.tr && decide (answersOf i s.tr < pullsOut i s.tr))
          || pendingTr i s.tr) = true :=
        List.any_eq_true.2 ⟨s.st.i, hmem h1, by
          simp only [hlive, Bool.true_and, Bool.or_eq_true, decide_eq_true_eq]; left; omega⟩
      simp [hany]
    | over h1 h2 h3 =>
      rcases h1 with h1 | h1
      · simp [hdisp.2 h1]
      · have := hfin.1.2 h1; omega
  · rfl

end Cb.ConcatDemand

#print axioms Cb.ConcatDemand.concat_demand
