import CallbagModel.Inv.Take
import CallbagModel.Fun.Relay
/-!
# take(max): the functional specification `takeOk` (C07) holds on every trace of the model

`T` links the counter to the trace (`taken = min max (number of data received)`) and carries the first four clauses of
`takeOk`; for `takeSelfCompletion`, which looks two events ahead, it also remembers that a `Terminate` sent upstream that is
the newest event either relays the sink's `Terminate` or is take's own, in which case the stack top is the continuation `d6`
that completes the sink next.  The last clause is read off the basic `Mode` through the lemmas of `TraceGhost.lean`.
-/
namespace Cb.TakeFun
open Cb.Take Cb.RelayFun

variable {α β : Type}

/-- the operator tells upstream to stop -/
abbrev ST : Ev α β := .out (.srcUp 0 .term)

/-- `takeSelfCompletion` inspects the third event of a window; if that is not a `Terminate` sent upstream nothing is checked -/
theorem tsc_cons (max : Nat) (e : Ev α β) (l : List (Ev α β)) (h : ∀ x1 x2 t, l = x1 :: x2 :: t → x2 ≠ ST) :
    takeSelfCompletion max (e :: l) = takeSelfCompletion max l := by
  match l, h with
  | [], _ => simp [takeSelfCompletion]
  | [_], _ => simp [takeSelfCompletion]
  | [_, _], _ => simp [takeSelfCompletion]
  | x1 :: x2 :: x3 :: t, h =>
    have hne := h x1 x2 _ rfl
    rw [takeSelfCompletion]
    · simp
    all_goals (intro hx; exact absurd hx hne)

theorem tsc_sink (max : Nat) (e3 e2 : Ev α β) (t : List (Ev α β)) :
    takeSelfCompletion max (e3 :: e2 :: ST :: .inp (.sinkUp 0 .term) :: t)
      = takeSelfCompletion max (e2 :: ST :: .inp (.sinkUp 0 .term) :: t) := by
  rw [takeSelfCompletion]; simp

theorem tsc_self (max : Nat) (t : List (Ev α β)) (hlen : (recvData 0 (.retE :: t)).length = max) :
    takeSelfCompletion max (.out (.down 0 .term) :: .retE :: ST :: .retE :: t)
      = takeSelfCompletion max (.retE :: ST :: .retE :: t) := by
  rw [takeSelfCompletion]; simp [hlen]

theorem tsc_cons2 {max : Nat} {tr : List (Ev α β)} (a b : Ev α β)
    (h : takeSelfCompletion max tr = true)
    (h2 : ∀ x1 x2 t, tr = x1 :: x2 :: t → x2 ≠ ST)
    (hH : ∀ x2 t, tr = ST :: x2 :: t → x2 = .inp (.sinkUp 0 .term) ∨
      (x2 = .retE ∧ (recvData 0 (x2 :: t)).length = max ∧ a = .retE ∧ b = .out (.down 0 .term))) :
    takeSelfCompletion max (b :: a :: tr) = true := by
  have h1 : takeSelfCompletion max (a :: tr) = true := by rw [tsc_cons max a tr h2]; exact h
  match tr, h1, hH with
  | [], _, _ => simp [takeSelfCompletion]
  | [_], _, _ => simp [takeSelfCompletion]
  | x1 :: x2 :: t, h1, hH =>
    by_cases hx : x1 = ST
    · subst hx
      rcases hH x2 t rfl with rfl | ⟨rfl, hlen, rfl, rfl⟩
      · rw [tsc_sink]; exact h1
      · rw [tsc_self max t hlen]; exact h1
    · rw [tsc_cons max b _ (by intro y1 y2 t' he; simp at he; rw [← he.2.1]; exact hx)]; exact h1

structure T (max taken : Nat) (stk : List (Frame (Loc α) α)) (tr : List (Ev α α)) : Prop where
  cnt : taken = min max (sentData 0 tr).length
  io : recvData 0 tr = (sentData 0 tr).take max
  c2 : eachPrecededBy (isDataOut 0) (fun e1 _ => isDataIn 0 e1) tr = true
  c3 : eachPrecededBy (isFinalOut 0) takeFinalCause tr = true
  c4 : takeSelfCompletion max tr = true
  h2 : ∀ x1 x2 t, tr = x1 :: x2 :: t → x2 ≠ ST
  h1 : ∀ x2 t, tr = ST :: x2 :: t → x2 = .inp (.sinkUp 0 .term) ∨
        (x2 = .retE ∧ (recvData 0 (x2 :: t)).length = max ∧ ∃ rest, stk = .wait (.srcUp 0 .term) .d6 :: rest)

theorem T.init (max : Nat) : T max 0 ([] : List (Frame (Loc α) α)) ([] : List (Ev α α)) :=
  ⟨(Nat.min_zero max).symm, List.take_nil.symm, rfl, rfl, rfl, fun _ _ _ h => (nomatch h), fun _ _ h => (nomatch h)⟩

section
variable {max taken : Nat} {stk : List (Frame (Loc α) α)} {tr : List (Ev α α)}

theorem T.recvLen (h : T max taken stk tr) :
    (recvData 0 tr).length = taken := by
  rw [h.io, h.cnt, List.length_take]

theorem T.step (h : T max taken stk tr)
    (a b : Ev α α) (taken' : Nat) (stk' : List (Frame (Loc α) α))
    (hcnt : taken' = min max (sentData 0 (b :: a :: tr)).length)
    (hio : recvData 0 (b :: a :: tr) = (sentData 0 (b :: a :: tr)).take max)
    (h2a : isDataOut 0 a = false) (h2b : isDataOut 0 b = true → isDataIn 0 a = true)
    (h3a : isFinalOut 0 a = false) (h3b : isFinalOut 0 b = true → takeFinalCause a b = true)
    (ha : a ≠ ST)
    (hH : ∀ x2 t, tr = ST :: x2 :: t → x2 = .inp (.sinkUp 0 .term) ∨
      (x2 = .retE ∧ (recvData 0 (x2 :: t)).length = max ∧ a = .retE ∧ b = .out (.down 0 .term)))
    (hb : b = ST → a = .inp (.sinkUp 0 .term) ∨
      (a = .retE ∧ (recvData 0 (a :: tr)).length = max ∧ ∃ rest, stk' = .wait (.srcUp 0 .term) .d6 :: rest)) :
    T max taken' stk' (b :: a :: tr) where
  cnt := hcnt
  io := hio
  c2 := eachPrecededBy_step h.c2 h2a h2b
  c3 := eachPrecededBy_step h.c3 h3a h3b
  c4 := tsc_cons2 a b h.c4 h.h2 hH
  h2 := by intro x1 x2 t he; simp at he; rw [← he.2.1]; exact ha
  h1 := by intro x2 t he; simp at he; obtain ⟨rfl, rfl, rfl⟩ := he; exact hb rfl

theorem T.quiet (h : T max taken stk tr)
    (hq : NotStopping stk) (a b : Ev α α) : ∀ x2 t, tr = ST :: x2 :: t → x2 = .inp (.sinkUp 0 .term) ∨
      (x2 = .retE ∧ (recvData 0 (x2 :: t)).length = max ∧ a = .retE ∧ b = .out (.down 0 .term)) := by
  intro x2 t he
  rcases h.h1 x2 t he with h' | ⟨_, _, rest, hr⟩
  · exact Or.inl h'
  · exact absurd hr (hq rest)

theorem T.step0 (h : T max taken stk tr)
    (a b : Ev α α) (stk' : List (Frame (Loc α) α))
    (hia : isDataIn 0 a = false) (hib : isDataIn 0 b = false) (hoa : isDataOut 0 a = false) (hob : isDataOut 0 b = false)
    (h3a : isFinalOut 0 a = false) (h3b : isFinalOut 0 b = true → takeFinalCause a b = true)
    (ha : a ≠ ST)
    (hH : ∀ x2 t, tr = ST :: x2 :: t → x2 = .inp (.sinkUp 0 .term) ∨
      (x2 = .retE ∧ (recvData 0 (x2 :: t)).length = max ∧ a = .retE ∧ b = .out (.down 0 .term)))
    (hb : b = ST → a = .inp (.sinkUp 0 .term) ∨
      (a = .retE ∧ (recvData 0 (a :: tr)).length = max ∧ ∃ rest, stk' = .wait (.srcUp 0 .term) .d6 :: rest)) :
    T max taken stk' (b :: a :: tr) :=
  h.step a b taken stk'
    (by rw [sentData_cons_of_not hib, sentData_cons_of_not hia]; exact h.cnt)
    (by rw [sentData_cons_of_not hib, sentData_cons_of_not hia, recvData_cons_of_not hob, recvData_cons_of_not hoa]; exact h.io)
    hoa (fun h' => by rw [hob] at h'; cases h') h3a h3b ha hH hb

theorem T.neutral2 (h : T max taken stk tr)
    (hq : NotStopping stk) (a b : Ev α α) (stk' : List (Frame (Loc α) α))
    (hna : neutral a = true) (hnb : neutral b = true) (ha : a ≠ ST) (hb : b ≠ ST) :
    T max taken stk' (b :: a :: tr) :=
  h.step0 a b stk' (neutral_iff.1 hna).1 (neutral_iff.1 hnb).1 (neutral_iff.1 hna).2.1 (neutral_iff.1 hnb).2.1
    (neutral_iff.1 hna).2.2.2 (fun h' => by rw [(neutral_iff.1 hnb).2.2.2] at h'; cases h')
    ha (h.quiet hq a b) (fun e => absurd e hb)

theorem T.sinkTerm (h : T max taken stk tr)
    (hq : NotStopping stk) (stk' : List (Frame (Loc α) α)) :
    T max taken stk' (ST :: .inp (.sinkUp 0 .term) :: tr) :=
  h.step0 _ _ stk' rfl rfl rfl rfl rfl nofun nofun (h.quiet hq _ _) (fun _ => Or.inl rfl)

theorem T.dataTake (h : T max taken stk tr)
    (hq : NotStopping stk) (hlt : taken < max) (x : α) (stk' : List (Frame (Loc α) α)) :
    T max (taken + 1) stk' (.out (.down 0 (.data x)) :: .inp (.srcDown 0 (.data x)) :: tr) := by
  have hc := h.cnt
  have hlen : (sentData 0 tr).length < max := by omega
  refine h.step _ _ (taken + 1) stk' ?_ ?_ rfl (fun _ => rfl) rfl nofun nofun (h.quiet hq _ _) nofun
  · rw [sentData_cons_of_not rfl, sentData_data, List.length_append, List.length_singleton]; omega
  · rw [recvData_data, recvData_cons_of_not rfl, sentData_cons_of_not rfl, sentData_data, h.io,
      List.take_of_length_le (Nat.le_of_lt hlen), List.take_of_length_le]
    rw [List.length_append, List.length_singleton]; omega

theorem T.dataDrop (h : T max taken stk tr)
    (hq : NotStopping stk) (hge : ¬ taken < max) (x : α) (stk' : List (Frame (Loc α) α)) :
    T max taken stk' (.retO :: .inp (.srcDown 0 (.data x)) :: tr) := by
  have hc := h.cnt
  have hlen : max ≤ (sentData 0 tr).length := by omega
  refine h.step _ _ taken stk' ?_ ?_ rfl nofun rfl nofun nofun (h.quiet hq _ _) nofun
  · rw [sentData_cons_of_not rfl, sentData_data, List.length_append, List.length_singleton]; omega
  · rw [recvData_cons_of_not rfl, recvData_cons_of_not rfl, sentData_cons_of_not rfl, sentData_data, h.io,
      List.take_append_of_le_length hlen]

theorem T.fwdTerm (h : T max taken stk tr)
    (hq : NotStopping stk) (stk' : List (Frame (Loc α) α)) :
    T max taken stk' (.out (.down 0 .term) :: .inp (.srcDown 0 .term) :: tr) :=
  h.step0 _ _ stk' rfl rfl rfl rfl rfl (fun _ => rfl) nofun (h.quiet hq _ _) nofun

theorem T.fwdErr (h : T max taken stk tr)
    (hq : NotStopping stk) (e : Nat) (stk' : List (Frame (Loc α) α)) :
    T max taken stk' (.out (.down 0 (.err e)) :: .inp (.srcDown 0 (.err e)) :: tr) :=
  h.step0 _ _ stk' rfl rfl rfl rfl rfl (fun _ => by simp [takeFinalCause, finalPasses]) nofun (h.quiet hq _ _) nofun

theorem T.selfTerm (h : T max taken stk tr)
    (hq : NotStopping stk) (htk : taken = max) (rest : List (Frame (Loc α) α)) :
    T max taken (.wait (.srcUp 0 .term) .d6 :: rest) (ST :: .retE :: tr) :=
  h.step0 _ _ _ rfl rfl rfl rfl rfl nofun nofun (h.quiet hq _ _)
    (fun _ => Or.inr ⟨rfl, by rw [recvData_cons_of_not rfl, h.recvLen, htk], rest, rfl⟩)

theorem T.selfDone (h : T max taken stk tr)
    (stk' : List (Frame (Loc α) α)) :
    T max taken stk' (.out (.down 0 .term) :: .retE :: tr) :=
  h.step0 _ _ stk' rfl rfl rfl rfl rfl (fun _ => rfl) nofun
    (fun x2 t he => (h.h1 x2 t he).imp_right fun ⟨h1, h2, _⟩ => ⟨h1, h2, rfl, rfl⟩) nofun

end

theorem T.macro {max : Nat} {s : Sys St (Loc α) α α} {m : Move α} {st : St} {r : Option (Out α × Loc α)}
    (hT : T max s.st.taken s.stack s.tr) (h : Macro max s m st r) :
    T max (s.next (machine α max).shape st m r).st.taken (s.next (machine α max).shape st m r).stack
      (s.next (machine α max).shape st m r).tr := by
  cases h with
  | subscribe hq | pullFwd hq | pullDrop hq | greet hq | ret hq => exact hT.neutral2 hq _ _ _ rfl rfl nofun nofun
  | sinkEnd u hu hq =>
    cases u with
    | pull => exact absurd rfl hu
    | term => exact hT.sinkTerm hq _
    | err e => exact hT.neutral2 hq _ _ _ rfl rfl nofun nofun
  | dataTake a hq _ hlt => exact hT.dataTake hq hlt a _
  | dataDrop a hq hge => exact hT.dataDrop hq hge a _
  | srcEnd d hd hq =>
    cases d with
    | data a => cases hd
    | term => exact hT.fwdTerm hq _
    | err e => exact hT.fwdErr hq e _
  | selfTerm hq htk => exact hT.selfTerm hq htk _
  | selfDone => exact hT.selfDone _

theorem t_at_turn (max : Nat) {s : Sys St (Loc α) α α} (hs : SReach (machine α max) s) (ht : EnvTurn s) :
    Take.Inv max s ∧ T max s.st.taken s.stack s.tr :=
  Lands.at_turn anyEnv (fun t => T max t.st.taken t.stack t.tr) (inv_init max) (T.init max)
    (fun s h => (inv_turn max s h).1) (macro_step max) (fun _ _ _ _ _ _ hT _ hm _ _ => hT.macro hm) hs ht

theorem doneBySrc_cases (max : Nat) {s : Sys St (Loc α) α α} (hs : SReach (machine α max) s) (ht : EnvTurn s)
    (hd : s.g.ph.sinkPh 0 = .doneBySrc) : s.g.ph.srcPh 0 = .ended ∨ max ≤ (sentData 0 s.tr).length := by
  obtain ⟨hi, hT⟩ := t_at_turn max hs ht
  have hc := hT.cnt
  exact (hi.2.2.2.2.2.final hd).imp_right fun h => by omega

/-- once `take` has delivered the terminal, its upstream has ended or its output is final -/
theorem _root_.Cb.Take.final_of_doneBySrc (max : Nat) (s : Sys St (Loc α) α α) (hs : SReach (machine α max) s)
    (ht : EnvTurn s) (hd : s.g.ph.sinkPh 0 = .doneBySrc) :
    s.g.ph.srcPh 0 = .ended ∨ ∀ ys, sentData 0 s.tr <+: ys → List.take max ys = List.take max (sentData 0 s.tr) :=
  (doneBySrc_cases max hs ht hd).imp_right fun h ys ⟨t, hys⟩ => by rw [← hys, List.take_append_of_le_length h]

/-- C07 for take -/
theorem take_spec {α : Type} [DecidableEq α] (max : Nat) :
    ∀ s, SReach (Take.machine α max) s → EnvTurn s → takeOk max s.tr = true := by
  intro s hs ht
  obtain ⟨hinv, hT⟩ := t_at_turn max hs ht
  obtain ⟨hp, hbs, hle, hoth, hoths, hm⟩ := hinv
  have hlast : (if (openCalls s.tr).isEmpty && decide (max > 0) && (recvData 0 s.tr).length == max
      then (finalsTo 0 s.tr == 1 || sinkDisposed 0 s.tr) && upFinals 0 s.tr == 1 else true) = true := by
    split
    · rename_i hc
      simp only [Bool.and_eq_true, decide_eq_true_eq, beq_iff_eq] at hc
      obtain ⟨⟨hopen, hpos⟩, hlen⟩ := hc
      rw [openCalls_eq hs hp] at hopen
      have hstk := framesOf_eq_nil _ hopen
      rw [hT.recvLen] at hlen
      have hdisp : s.g.ph.srcPh 0 = .disposed ∧ (s.g.ph.sinkPh 0 = .doneBySrc ∨ s.g.ph.sinkPh 0 = .doneBySelf) := by
        cases hm with
        | m1 _ _ _ _ h => omega
        | m2 _ _ _ _ _ h => rw [hstk] at h; cases h
        | m3 _ _ _ _ h5 _ => obtain ⟨a, rest, h⟩ := h5 (by omega) hlen; rw [hstk] at h; cases h
        | m4 h1 h2 => exact ⟨h2, Or.inr h1⟩
        | m5 _ _ h => exact absurd ⟨by omega, hlen⟩ h
        | m6 _ _ _ _ h => obtain ⟨rest, h, _⟩ := h; rw [hstk] at h; cases h
        | m7 h1 h2 => exact ⟨h2, Or.inl h1⟩
      have hup := ((upFinals_iff hs hbs 0).1).2 hdisp.1
      rcases hdisp.2 with h | h
      · have := ((finalsTo_iff hs hbs 0).1).2 h
        simp [this, hup]
      · have := (sinkDisposed_iff hs 0).2 h
        simp [this, hup]
    · rfl
  have hio : (recvData 0 s.tr == (sentData 0 s.tr).take max) = true := beq_iff_eq.2 hT.io
  rw [takeOk, hio, hT.c2, hT.c3, hT.c4]
  exact hlast

end Cb.TakeFun

#print axioms Cb.TakeFun.take_spec
