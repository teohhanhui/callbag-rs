import CallbagModel.Fun.Relay
import CallbagModel.Fun.Demand
/-!
# map / filter / scan / skip: demand conservation `demandOk` (C14) under the pullable discipline

`demandOk_of_phases` (`Fun/Demand.lean`) reads C14 off the phases for any machine; `relay_demand` is then a case split on the
mode.  `T` is the counting part, on the trace alone: with `P = pullsIn 0`, `D = |recvData 0|`, `U = pullsOut 0`, `A = answersOf 0`,

* `A ≤ U` (the environment's discipline), `D ≤ P`,
* `P + A = U + D` while upstream has not ended (every sink Pull is forwarded, every dropped item is compensated by a Pull),
* `P = 0` before upstream greets.
-/
namespace Cb.RelayDemand
open Cb.Relay

variable {σ α β : Type}

structure T (tr : List (Ev α β)) : Prop where
  au : answersOf 0 tr ≤ pullsOut 0 tr
  dp : (recvData 0 tr).length ≤ pullsIn 0 tr
  bal : srcEnded 0 tr = false → pullsIn 0 tr + answersOf 0 tr = pullsOut 0 tr + (recvData 0 tr).length
  p0 : srcGreeted 0 tr = false → pullsIn 0 tr = 0

theorem T.init : T ([] : List (Ev α β)) := ⟨Nat.le_refl _, Nat.le_refl _, fun _ => rfl, fun _ => rfl⟩

theorem T.neutral {tr : List (Ev α β)} (h : T tr) (e : Ev α β) (he : inert e = true) : T (e :: tr) := by
  obtain ⟨e1, e2, e3, e4, e5, e6⟩ := inert_cons he tr
  exact ⟨by rw [e2, e3]; exact h.au, by rw [e1, e4]; exact h.dp, by rw [e5, e4, e2, e3, e1]; exact h.bal,
    by rw [e6, e4]; exact h.p0⟩

theorem T.subscribe {tr : List (Ev α β)} (h : T tr) (j : Nat) :
    T (.out (.subSrc 0) :: .inp (.subscribe j) :: tr) :=
  (h.neutral _ rfl).neutral _ rfl

theorem T.greet {tr : List (Ev α β)} (h : T tr) (i : Nat) :
    T (.out (.greet 0) :: .inp (.srcGreet i) :: tr) :=
  T.neutral (tr := .inp (.srcGreet i) :: tr) ⟨h.au, h.dp, h.bal, fun hg => h.p0 (Bool.or_eq_false_iff.1 hg).2⟩ _ rfl

theorem T.sinkUp {tr : List (Ev α β)} (h : T tr) (hg : srcGreeted 0 tr = true) (u : Up) :
    T (.out (.srcUp 0 u) :: .inp (.sinkUp 0 u) :: tr) := by
  cases u with
  | pull =>
    obtain ⟨h1, h2, h3, h4⟩ := h
    constructor <;> simp only [answersOf, pullsOut, pullsIn, recvData, srcEnded, srcGreeted, ↓reduceIte]
    · omega
    · omega
    · intro he; have := h3 he; omega
    · intro hg'; rw [hg] at hg'; cases hg'
  | term => exact (h.neutral _ rfl).neutral _ rfl
  | err e => exact (h.neutral _ rfl).neutral _ rfl

theorem T.dataSome {tr : List (Ev α β)} (h : T tr) (hlt : answersOf 0 tr < pullsOut 0 tr) (he : srcEnded 0 tr = false)
    (a : α) (b : β) : T (.out (.down 0 (.data b)) :: .inp (.srcDown 0 (.data a)) :: tr) := by
  obtain ⟨h1, h2, h3, h4⟩ := h
  have := h3 he
  constructor <;> simp only [answersOf, pullsOut, pullsIn, recvData, srcEnded, srcGreeted, ↓reduceIte, List.length_append,
    List.length_singleton]
  · omega
  · omega
  · omega
  · exact h4

theorem T.dataNone {tr : List (Ev α β)} (h : T tr) (he : srcEnded 0 tr = false) (a : α) :
    T (.out (.srcUp 0 .pull) :: .inp (.srcDown 0 (.data a)) :: tr) := by
  obtain ⟨h1, h2, h3, h4⟩ := h
  have := h3 he
  constructor <;> simp only [answersOf, pullsOut, pullsIn, recvData, srcEnded, srcGreeted, ↓reduceIte]
  · omega
  · exact h2
  · omega
  · exact h4

theorem T.fin {tr : List (Ev α β)} (h : T tr) (hlt : answersOf 0 tr < pullsOut 0 tr) (d : Down α) (d' : Down β)
    (hd : isFinal d = true) (hd' : isFinal d' = true) :
    T (.out (.down 0 d') :: .inp (.srcDown 0 d) :: tr) := by
  have hi : inert (α := α) (.out (.down 0 d')) = true := by
    cases d' with
    | data b => cases hd'
    | term | err e => rfl
  refine T.neutral ?_ _ hi
  have hend : srcEnded 0 (.inp (.srcDown 0 d) :: tr : List (Ev α β)) = true := by
    cases d with
    | data a => cases hd
    | term | err e => rfl
  obtain ⟨h1, h2, h3, h4⟩ := h
  refine ⟨?_, h2, fun he => ?_, h4⟩
  · simp only [answersOf, pullsOut, ↓reduceIte]; omega
  · rw [hend] at he; cases he

theorem T.ret {tr : List (Ev α β)} (h : T tr) : T (.retO :: .retE :: tr) :=
  (h.neutral _ rfl).neutral _ rfl

theorem T.macro {k : Kind σ α β} {s : Sys (St σ) (Loc α β) α β} {m : Move α} {st : St σ} {r : Option (Out β × Loc α β)}
    (hreach : SReachR (machine k) pullable s) (hT : T s.tr) (hR : pullable s m) (h : Macro k s m st r) :
    T (s.next (machine k).shape st m r).tr := by
  cases h with
  | subscribe => exact hT.subscribe 0
  | sinkUp u hl => exact hT.sinkUp (live_tr hreach hl).1 u
  | greet => exact hT.greet 0
  | dataSome a b hl _ => exact hT.dataSome (of_decide_eq_true hR) (live_tr hreach hl).2 a b
  | dataNone a hl _ => exact hT.dataNone (live_tr hreach hl).2 a
  | term _ => exact hT.fin (of_decide_eq_true hR) .term .term rfl rfl
  | err e _ => exact hT.fin (of_decide_eq_true hR) (.err e) (.err e) rfl rfl
  | ret => exact hT.ret

theorem dinv_of_reach (k : Kind σ α β) (hk : k.slotted = false → ∀ s a, (k.xfer s a).2 ≠ none) {s : Sys (St σ) (Loc α β) α β}
    (hs : SReachR (machine k) pullable s) (ht : EnvTurn s) : Relay.Inv k s ∧ T s.tr :=
  Lands.at_turn pullable (fun t => T t.tr) (Relay.inv_init k) T.init (fun s h => (Relay.inv_turn k s h).1)
    (macro_step k hk) (fun _ _ _ _ hr _ hT hR hm _ _ => hT.macro hr hR hm) hs ht

/-- C14 for the generic relay -/
theorem relay_demand {σ α β : Type} (k : Relay.Kind σ α β) (hk : k.slotted = false → ∀ s a, (k.xfer s a).2 ≠ none) :
    ∀ s, SReachR (Relay.machine k) pullable s → EnvTurn s → demandOk s.tr = true := by
  intro s hs ht
  obtain ⟨⟨hp, hv, _, _, hm⟩, hT⟩ := dinv_of_reach k hk hs ht
  refine demandOk_of_phases hs hp hv hT.dp hT.p0 fun hlt => ?_
  cases hm with
  | m1 _ h2 => exact .inl h2
  | m2 _ h2 => exact .inr (.inl h2)
  | m3 _ h2 => exact .inr (.inr (.inr (.inr (.inl ⟨h2, fun he => by have := hT.bal he; omega⟩))))
  | m4 h1 => exact .inr (.inr (.inl h1))
  | m5 h1 => exact .inr (.inr (.inr (.inl h1)))

theorem map_demand {α β : Type} (f : α → β) :
    ∀ s, SReachR (Relay.machine (Relay.map f)) pullable s → EnvTurn s → demandOk s.tr = true :=
  relay_demand (Relay.map f) (map_ok f)

theorem filter_demand {α : Type} (p : α → Bool) :
    ∀ s, SReachR (Relay.machine (Relay.filter p)) pullable s → EnvTurn s → demandOk s.tr = true :=
  relay_demand (Relay.filter p) (filter_ok p)

theorem scan_demand {α β : Type} (r : β → α → β) (seed : β) :
    ∀ s, SReachR (Relay.machine (Relay.scan r seed)) pullable s → EnvTurn s → demandOk s.tr = true :=
  relay_demand (Relay.scan r seed) (scan_ok r seed)

theorem skip_demand {α : Type} (n : Nat) :
    ∀ s, SReachR (Relay.machine (Relay.skip (α := α) n)) pullable s → EnvTurn s → demandOk s.tr = true :=
  relay_demand (Relay.skip n) (skip_ok n)

end Cb.RelayDemand

#print axioms Cb.RelayDemand.relay_demand
#print axioms Cb.RelayDemand.map_demand
#print axioms Cb.RelayDemand.filter_demand
#print axioms Cb.RelayDemand.scan_demand
#print axioms Cb.RelayDemand.skip_demand
