import CallbagModel.Inv.Flatten
import CallbagModel.Inv.TraceGhost
import CallbagModel.Spec
/-!
# flatten: the functional specification `flattenOk` (C11) holds on every trace of the model

Every macro step conses exactly two events on the trace (`Flatten.run_call`, `Flatten.run_ret`): `inp i` (or `retE`) and the
event `evOf (respC st i)` (`evOf (respR st l)`) with which the first segment of the handler (the continuation) ends: a call or
a return.  All adjacency clauses of `flattenOk` therefore only have to be checked for the pair (`inp i`, that event) with
the trace of the environment turn as the past — where the trace-level notions `activeInner`, `outerAlive` are linked to
`st.inner`, `st.outer` through the mode `live` of the basic invariant (`link`) — and are vacuous for the pairs (head of the
old trace, `inp i`/`retE`) and (`retE`, the continuation's event).
-/
namespace Cb.FlattenFun
open Cb.Flatten

variable {α : Type}

abbrev Cfg (α : Type) := Sys St (Loc α) α α

@[simp] theorem ctxOf_wait {Loc β : Type} (o : Out β) (l : Loc) (r : List (Frame Loc β)) :
    ctxOf (.wait o l :: r) = some (.inCall o) := rfl

/-! the clauses of `flattenOk`, named -/

def chk1 (past : List (Ev α α)) (e1 e2 : Ev α α) : Bool :=
  match e1 with
  | .inp (.srcDown 0 (.data _)) =>
      (match activeInner past with
       | some k => (match e2 with | .out (.srcUp k' .term) => k' == k | _ => false)
       | none => (match e2 with | .out (.subSrc j) => j == ((subscriptions past).filter (· ≠ 0)).length + 1 | _ => false))
  | _ => true

def chk2 (_ : List (Ev α α)) (e1 e2 : Ev α α) : Bool :=
  match e1 with
  | .inp (.srcGreet (j+1)) => (match e2 with | .out (.srcUp j' .pull) => j' == j + 1 | _ => false)
  | _ => true

def chk3 (past : List (Ev α α)) (e1 e2 : Ev α α) : Bool :=
  if isDataOut 0 e2 then
    (match e1 with | .inp (.srcDown j (.data _)) => some j == activeInner past && j != 0 | _ => false) else true

def chk5 (past : List (Ev α α)) (e1 e2 : Ev α α) : Bool :=
  if isTermOut 0 e2 then
    (match e1 with
     | .inp (.srcDown 0 .term) => (activeInner past).isNone
     | .inp (.srcDown (j+1) .term) => some (j+1) == activeInner past && !outerAlive past
     | _ => false) else true

def chk6 (past : List (Ev α α)) (e1 e2 : Ev α α) : Bool :=
  match e1 with
  | .inp (.sinkUp 0 .pull) =>
      (match activeInner past with
       | some k => (match e2 with | .out (.srcUp k' .pull) => k' == k | _ => false)
       | none => if outerAlive past then (match e2 with | .out (.srcUp 0 .pull) => true | _ => false)
                 else (match e2 with | .retO => true | _ => false))
  | _ => true

def ChkAll (past : List (Ev α α)) (e1 e2 : Ev α α) : Prop :=
  chk1 past e1 e2 = true ∧ chk2 past e1 e2 = true ∧ chk3 past e1 e2 = true ∧ chk5 past e1 e2 = true ∧ chk6 past e1 e2 = true

def Adj (tr : List (Ev α α)) : Prop :=
  eachAtNext chk1 tr = true ∧ eachAtNext chk2 tr = true ∧ eachAtNext chk3 tr = true ∧ eachAtNext chk5 tr = true ∧
    eachAtNext chk6 tr = true

def DataOk (tr : List (Ev α α)) : Prop := recvData 0 tr = ((arrivals tr).filter (·.1 ≠ 0)).map (·.2)

def HeadOk : List (Ev α α) → Prop
  | .inp _ :: _ => False
  | _ => True

def SubsOk (tr : List (Ev α α)) (n : Nat) : Prop := (subscriptions tr).filter (· ≠ 0) = List.range' 1 (n - 1)

def DeadTr (k : Nat) (tr : List (Ev α α)) : Prop := srcEnded k tr = true ∨ 0 < upFinals k tr

def OldDead (tr : List (Ev α α)) (n : Nat) : Prop := ∀ k, 0 < k → k + 1 < n → DeadTr k tr

structure T (tr : List (Ev α α)) (n : Nat) : Prop where
  head : HeadOk tr
  adj : Adj tr
  data : DataOk tr
  subs : SubsOk tr n
  old : OldDead tr n

theorem chk_head {e0 a : Ev α α} (t : List (Ev α α)) (hh : HeadOk (e0 :: t)) (ha : a = .retE ∨ ∃ i, a = .inp i) :
    ChkAll t e0 a := by
  rcases ha with rfl | ⟨i, rfl⟩ <;> cases e0 <;>
    simp [HeadOk, ChkAll, chk1, chk2, chk3, chk5, chk6, isDataOut, isTermOut] at hh ⊢

theorem Adj.step {tr : List (Ev α α)} {a b : Ev α α} (h : Adj tr) (hh : HeadOk tr) (ha : a = .retE ∨ ∃ i, a = .inp i)
    (hc : ChkAll tr a b) : Adj (b :: a :: tr) := by
  obtain ⟨h1, h2, h3, h5, h6⟩ := h
  obtain ⟨c1, c2, c3, c5, c6⟩ := hc
  have hd : ∀ e0 t, tr = e0 :: t → ChkAll t e0 a := fun e0 t e => chk_head t (e ▸ hh) ha
  exact ⟨eachAtNext_step h1 (fun e0 t e => (hd e0 t e).1) c1,
    eachAtNext_step h2 (fun e0 t e => (hd e0 t e).2.1) c2,
    eachAtNext_step h3 (fun e0 t e => (hd e0 t e).2.2.1) c3,
    eachAtNext_step h5 (fun e0 t e => (hd e0 t e).2.2.2.1) c5,
    eachAtNext_step h6 (fun e0 t e => (hd e0 t e).2.2.2.2) c6⟩

theorem DeadTr.cons {k : Nat} {tr : List (Ev α α)} (h : DeadTr k tr) (e : Ev α α) : DeadTr k (e :: tr) := by
  rcases h with h | h
  · exact Or.inl (srcEnded_mono k e tr h)
  · exact Or.inr (Nat.lt_of_lt_of_le h (upFinals_mono k e tr))

theorem OldDead.step {tr : List (Ev α α)} {n n' : Nat} (h : OldDead tr n) (a b : Ev α α)
    (hn : n' = n ∨ (n' = n + 1 ∧ (1 < n → DeadTr (n - 1) tr))) : OldDead (b :: a :: tr) n' := by
  intro k hk hlt
  rcases hn with rfl | ⟨rfl, hd⟩
  · exact ((h k hk hlt).cons a).cons b
  · by_cases hk' : k + 1 < n
    · exact ((h k hk hk').cons a).cons b
    · have : k = n - 1 := by omega
      subst this
      exact ((hd (by omega)).cons a).cons b

/-- the trace-level notions agree with the operator state (holds in mode `live`) -/
def Linked (st : St) (tr : List (Ev α α)) (i : In α) : Prop :=
  activeInner tr = st.inner ∧ outerAlive tr = st.outer ∧ ∀ j d, i = .srcDown (j+1) d → st.inner = some (j+1)

theorem chk_call (st : St) (tr : List (Ev α α)) (i : In α) (hL : isLinkCall i = true → Linked st tr i)
    (hS : ((subscriptions tr).filter (· ≠ 0)).length + 1 = st.nextId) : ChkAll tr (.inp i) (evOf (respC st i)) := by
  cases i with
  | subscribe k => simp [ChkAll, chk1, chk2, chk3, chk5, chk6, respC, evOf, isDataOut, isTermOut]
  | srcGreet j => cases j <;> simp [ChkAll, chk1, chk2, chk3, chk5, chk6, respC, evOf, isDataOut, isTermOut]
  | sinkUp k u =>
    obtain ⟨hA, hO, _⟩ := hL rfl
    cases hin : st.inner with
    | some k' =>
      cases u <;> cases k <;> simp [ChkAll, chk1, chk2, chk3, chk5, chk6, respC, evOf, isDataOut, isTermOut, hA, hin]
    | none =>
      cases u <;> cases hout : st.outer <;> cases k <;>
        simp [ChkAll, chk1, chk2, chk3, chk5, chk6, respC, evOf, isDataOut, isTermOut, hA, hO, hin, hout]
  | srcDown j d =>
    obtain ⟨hA, hO, hcur⟩ := hL rfl
    cases j with
    | zero =>
      have hS' : st.nextId = ((subscriptions tr).filter (fun x => !decide (x = 0))).length + 1 := by simpa using hS.symm
      cases d <;> cases hin : st.inner <;>
        simp [ChkAll, chk1, chk2, chk3, chk5, chk6, respC, evOf, isDataOut, isTermOut, hA, hin, ← hS']
    | succ j =>
      have hin := hcur j d rfl
      cases d <;> cases hout : st.outer <;>
        simp [ChkAll, chk1, chk2, chk3, chk5, chk6, respC, evOf, isDataOut, isTermOut, hA, hO, hin, hout]

/-- a return of the environment triggers no check, and a resumed continuation delivers neither a datum nor `Terminate` -/
theorem chk_ret (st : St) (tr : List (Ev α α)) (l : Loc α) : ChkAll tr .retE (evOf (respR st l)) := by
  rcases respR_cases st l with h | h | ⟨e, h⟩ | h <;> rw [h] <;> exact ⟨rfl, rfl, rfl, rfl, rfl⟩

theorem DataOk.cons {tr : List (Ev α α)} (h : DataOk tr) {e : Ev α α} (h1 : ∀ j b, e = .inp (.srcDown j (.data b)) → j = 0)
    (h2 : ∀ k b, e ≠ .out (.down k (.data b))) : DataOk (e :: tr) := by
  unfold DataOk at h ⊢
  cases e with
  | inp i =>
    cases i with
    | srcDown j d =>
      cases d with
      | data b => cases h1 j b rfl; simpa [recvData, arrivals] using h
      | _ => exact h
    | _ => exact h
  | out o =>
    cases o with
    | down k d =>
      cases d with
      | data b => exact absurd rfl (h2 k b)
      | _ => exact h
    | _ => exact h
  | _ => exact h

theorem DataOk.fwd {tr : List (Ev α α)} (h : DataOk tr) (j : Nat) (b : α) :
    DataOk (.out (.down 0 (.data b)) :: .inp (.srcDown (j+1) (.data b)) :: tr) := by
  unfold DataOk at h ⊢
  simp [recvData, arrivals, h]

theorem data_call (st : St) (tr : List (Ev α α)) (i : In α) (h : DataOk tr) : DataOk (evOf (respC st i) :: .inp i :: tr) := by
  by_cases hi : ∃ j b, i = .srcDown (j+1) (.data b)
  · obtain ⟨j, b, rfl⟩ := hi; exact h.fwd j b
  · refine (h.cons (e := .inp i) (fun j b e => ?_) (fun _ _ e => by cases e)).cons (fun _ _ e => absurd e evOf_ne_inp) fun k b hk => ?_
    · cases e
      cases j with
      | zero => rfl
      | succ j => exact (hi ⟨j, b, rfl⟩).elim
    · obtain ⟨j, rfl⟩ := respC_data (evOf_out hk)
      exact hi ⟨j, b, rfl⟩

theorem data_ret (st : St) (tr : List (Ev α α)) (l : Loc α) (h : DataOk tr) : DataOk (evOf (respR st l) :: .retE :: tr) :=
  (h.cons (e := .retE) nofun nofun).cons (fun _ _ e => absurd e evOf_ne_inp) fun k b hk => by
    rcases respR_cases st l with h | h | ⟨e, h⟩ | h <;> rw [h] at hk <;> cases hk

theorem subsOk_bump {tr : List (Ev α α)} {n : Nat} (a : Ev α α) (ha : a = .retE ∨ ∃ i, a = .inp i) (hn : 0 < n)
    (h : SubsOk tr n) : SubsOk (.out (.subSrc n) :: a :: tr) (n + 1) := by
  unfold SubsOk at h ⊢
  obtain ⟨m, rfl⟩ : ∃ m, n = m + 1 := ⟨n - 1, by omega⟩
  have : subscriptions (a :: tr) = subscriptions tr := by rcases ha with rfl | ⟨i, rfl⟩ <;> simp [subscriptions]
  simp only [subscriptions, this, List.filter_append, h]
  simp [List.range'_concat, Nat.add_comm]

theorem SubsOk.cons {tr : List (Ev α α)} {n : Nat} (h : SubsOk tr n) {e : Ev α α} (he : ∀ j, e = .out (.subSrc j) → j = 0) :
    SubsOk (e :: tr) n := by
  unfold SubsOk at h ⊢
  cases e with
  | out o =>
    cases o with
    | subSrc j => cases he j rfl; simpa [subscriptions] using h
    | _ => exact h
  | _ => exact h

theorem subs_call (st : St) (tr : List (Ev α α)) (i : In α) (hn : 0 < st.nextId) (h : SubsOk tr st.nextId) :
    SubsOk (evOf (respC st i) :: .inp i :: tr) (stC st i).nextId := by
  rcases stC_nextId_cases st i with hn' | ⟨hn', hin, a, rfl⟩
  · rw [hn']
    refine (h.cons (e := .inp i) nofun).cons fun j hj => ?_
    rcases respC_subSrc (evOf_out hj) with rfl | ⟨_, hin, a, rfl⟩
    · rfl
    · simp [stC, hin] at hn'
  · rw [hn']; simpa [respC, evOf, hin] using subsOk_bump (.inp (.srcDown 0 (.data a))) (.inr ⟨_, rfl⟩) hn h

theorem subs_ret (st : St) (tr : List (Ev α α)) {l : Loc α} (hl : Cont l) (hn : 0 < st.nextId) (h : SubsOk tr st.nextId) :
    SubsOk (evOf (respR st l) :: .retE :: tr) (stR st l).nextId := by
  -- only `od1` subscribes; the other continuations leave `subscriptions` as it is, by computation
  rcases hl with rfl | rfl | ⟨e, rfl⟩ | ⟨e, rfl⟩ | rfl
  · exact h
  · exact subsOk_bump .retE (.inl rfl) hn h
  · exact h
  · exact h
  · obtain ⟨outer, inner, n⟩ := st
    cases outer <;> exact h

theorem headOk_evOf (r : Option (Out α)) (tr : List (Ev α α)) : HeadOk (evOf r :: tr) := by
  cases r <;> exact trivial

theorem deadTr_of_dead {ph : Ph} {tr : List (Ev α α)} (hG : TGp ph tr) (hv : ph.viols = []) {j : Nat} (h : Dead ph j) :
    DeadTr j tr := by
  rcases h with h | h
  · exact Or.inl ((hG.ended j).2 h)
  · right; rw [hG.up hv j, h]; simp

theorem not_live_of_deadTr {ph : Ph} {tr : List (Ev α α)} (hG : TGp ph tr) (hv : ph.viols = []) {j : Nat} (h : DeadTr j tr) :
    ph.srcPh j ≠ .live := by
  intro hl
  rcases h with h | h
  · have := (hG.ended j).1 h; rw [hl] at this; cases this
  · rw [hG.up hv j, hl] at h; simp at h

theorem link {st : St} {ph : Ph} {tr : List (Ev α α)} (hG : TGp ph tr) (hv : ph.viols = [])
    (h2 : OuterOk st.outer ph) (h3 : ∀ k, st.inner = some k → 0 < k ∧ k < st.nextId ∧ ph.srcPh k = .live)
    (h4 : ∀ i, 0 < i → i < st.nextId → st.inner ≠ some i → Dead ph i)
    (hS : SubsOk tr st.nextId) (hO : OldDead tr st.nextId) : activeInner tr = st.inner ∧ outerAlive tr = st.outer := by
  constructor
  · unfold activeInner
    rw [hS, List.getLast?_range']
    cases hin : st.inner with
    | none =>
      by_cases hn : st.nextId - 1 = 0
      · simp [hn]
      · have hd := h4 (st.nextId - 1) (by omega) (by omega) (by simp [hin])
        have hnl : ph.srcPh (1 + (st.nextId - 1) - 1) ≠ .live := by
          rw [show 1 + (st.nextId - 1) - 1 = st.nextId - 1 by omega]
          rcases hd with hd | hd <;> simp [hd]
        have := mt (hG.live_iff hv (1 + (st.nextId - 1) - 1)).1 hnl
        simp only [hn, ↓reduceIte]
        rw [if_neg this]
    | some k =>
      obtain ⟨hk0, hkn, hkl⟩ := h3 k hin
      have hk : k + 1 = st.nextId := by
        apply Classical.byContradiction
        intro hne
        exact not_live_of_deadTr hG hv (hO k hk0 (by omega)) hkl
      have hn : ¬ st.nextId - 1 = 0 := by omega
      have he : 1 + (st.nextId - 1) - 1 = k := by omega
      simp only [hn, ↓reduceIte, he]
      rw [if_pos ((hG.live_iff hv k).2 hkl)]
  · unfold outerAlive
    cases hout : st.outer with
    | true => exact (hG.live_iff hv 0).2 (h2.1 hout)
    | false =>
      have hnl : ph.srcPh 0 ≠ .live := by rcases h2.2 hout with hd | hd <;> simp [hd]
      exact Bool.eq_false_iff.2 (mt (hG.live_iff hv 0).1 hnl)

theorem flattenOk_of [DecidableEq α] {tr : List (Ev α α)} (h : Adj tr) (hd : DataOk tr) : flattenOk tr = true := by
  obtain ⟨h1, h2, h3, h5, h6⟩ := h
  have hd' : (recvData 0 tr == ((arrivals tr).filter (·.1 ≠ 0)).map (·.2)) = true := by rw [beq_iff_eq]; exact hd
  unfold flattenOk
  simp only [Bool.and_eq_true]
  exact ⟨⟨⟨⟨⟨h1, h2⟩, h3⟩, hd'⟩, h5⟩, h6⟩

theorem T.init : T (Sys.init (machine α) : Cfg α).tr (Sys.init (machine α) : Cfg α).st.nextId := by
  refine ⟨trivial, ⟨rfl, rfl, rfl, rfl, rfl⟩, rfl, ?_, ?_⟩
  · simp [SubsOk, Sys.init, machine, subscriptions]
  · intro k hk hlt; simp [Sys.init, machine] at hlt

theorem T.macro {s : Cfg α} {m : Move α} {st : St} {r : Option (Out α × Loc α)} (hG : TGp s.g.ph s.tr) (hI : Flatten.Inv s)
    (hT : T s.tr s.st.nextId) (hm : Macro s m st r) :
    T (s.next (machine α).shape st m r).tr (s.next (machine α).shape st m r).st.nextId := by
  obtain ⟨_, hv, hpos, _, _, _⟩ := hI
  obtain ⟨st, stk, g, tr, _⟩ := s
  simp only at hT hG hv hpos
  cases hm with
  | call i hok =>
    rw [next_call, land_st, land_tr]
    simp only at hok ⊢
    have hL : isLinkCall i = true → Linked st tr i := by
      intro hi
      obtain ⟨H, hcur, _⟩ := hok.live hi
      obtain ⟨hA, hO⟩ := link hG hv H.outer H.cur H.old hT.subs hT.old
      exact ⟨hA, hO, hcur⟩
    have hlen : ((subscriptions tr).filter (· ≠ 0)).length + 1 = st.nextId := by
      rw [hT.subs, List.length_range']; omega
    refine ⟨headOk_evOf _ _, hT.adj.step hT.head (.inr ⟨i, rfl⟩) (chk_call st tr i hL hlen), data_call st tr i hT.data,
      subs_call st tr i hpos hT.subs, hT.old.step _ _ ?_⟩
    rcases stC_nextId_cases st i with h | ⟨h, hin, a, rfl⟩
    · exact Or.inl h
    · refine Or.inr ⟨h, fun h1 => ?_⟩
      exact deadTr_of_dead hG hv (hok.2.old (st.nextId - 1) (by omega) (by omega) (by simp [hin]))
  | @ret o l stk hstk hrest hok =>
    cases hstk
    rw [next_ret, land_st, land_tr]
    simp only at hok ⊢
    refine ⟨headOk_evOf _ _, hT.adj.step hT.head (.inl rfl) (chk_ret st tr l), data_ret st tr l hT.data,
      subs_ret st tr hok.cont hpos hT.subs, hT.old.step _ _ ?_⟩
    cases l with
    | od1 => exact Or.inr ⟨rfl, fun h1 => deadTr_of_dead hG hv (hok.2.2 (st.nextId - 1) (by omega) (by omega))⟩
    | _ => exact Or.inl rfl

theorem t_at_turn {s : Cfg α} (hs : SReach (machine α) s) (ht : EnvTurn s) : Flatten.Inv s ∧ T s.tr s.st.nextId :=
  Lands.at_turn anyEnv (fun s => T s.tr s.st.nextId) inv_init T.init (fun s h => (inv_turn s h).1) macro_step
    (fun _ _ _ _ hr hi hT _ hm _ _ => T.macro (TG.of_reach hr).ph hi hT hm) hs ht

/-- C11: at every reachable configuration where the environment has control, the trace satisfies `flattenOk` -/
theorem flatten_spec {α : Type} [DecidableEq α] :
    ∀ s, SReach (Flatten.machine α) s → EnvTurn s → flattenOk s.tr = true :=
  fun _ hs ht => flattenOk_of (t_at_turn hs ht).2.adj (t_at_turn hs ht).2.data

end Cb.FlattenFun

#print axioms Cb.FlattenFun.flatten_spec
