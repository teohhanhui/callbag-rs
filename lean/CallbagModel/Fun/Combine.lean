import CallbagModel.Inv.Combine
import CallbagModel.Inv.TraceGhost
import CallbagModel.Spec
/-!
# combine!: the functional specification C10 (`combineOk`) holds on every trace of the model cut at an environment turn

Every macro step (one environment move + the operator's answer) appends exactly two events `e1` (environment: `inp i` or
`retE`) and `e2` (operator: `out o` or `retO`) to the trace; the clauses are checked on that pair (`TrOK.step`).
-/
namespace Cb.CombineFun
open Cb.Combine

variable {α : Type}

abbrev Cfg (α : Type) := Sys (St α) (Loc α) α (List α)
abbrev E (α : Type) := Ev α (List α)

/-! the clauses of `combineOk`, named -/

def dataCause : E α → E α → Bool :=
  fun e1 _ => match e1 with | .inp (.srcDown _ (.data _)) => true | _ => false

def chkGreetOnly (n : Nat) : List (E α) → E α → E α → Bool :=
  fun past e1 e2 => if isGreetOut 0 e2 then
    isSrcGreet e1 && allBelow n (fun j => srcGreeted j (e1 :: past)) else true

def chkGreetIf (n : Nat) : List (E α) → E α → E α → Bool :=
  fun past e1 e2 => if isSrcGreet e1 && allBelow n (fun j => srcGreeted j (e1 :: past)) then isGreetOut 0 e2 else true

def chkTermOnly (n : Nat) : List (E α) → E α → E α → Bool :=
  fun past e1 e2 => if isTermOut 0 e2 then
    isSrcEnd e1 && allBelow n (fun j => srcEnded j (e1 :: past)) else true

def chkTermIf (n : Nat) : List (E α) → E α → E α → Bool :=
  fun past e1 e2 => if isSrcEnd e1 && allBelow n (fun j => srcEnded j (e1 :: past)) && !sinkDisposed 0 past
    then isTermOut 0 e2 else true

theorem combineOk_eq [BEq α] (n : Nat) (tr : List (E α)) :
    combineOk n tr =
      ((recvData 0 tr == combineRef n (List.replicate n none) (arrivals tr))
        && eachPrecededBy (isDataOut 0) dataCause tr
        && eachAtNext (chkGreetOnly n) tr
        && eachAtNext (chkGreetIf n) tr
        && eachAtNext (chkTermOnly n) tr
        && eachAtNext (chkTermIf n) tr
        && decide (finalsTo 0 tr ≤ 1)) := rfl

def upd (n : Nat) (cur : List (Option α)) (ia : Nat × α) : List (Option α) :=
  if ia.1 < n then cur.set ia.1 (some ia.2) else cur

/-- what `combineRef` emits for one arrival, given the updated values -/
def emit (cur' : List (Option α)) : List (List α) :=
  match allSome cur' with
  | some t => [t]
  | none => []

theorem latest_eq (n : Nat) (as : List (Nat × α)) : latest n as = as.foldl (upd n) (List.replicate n none) := rfl

theorem combineRef_snoc (n : Nat) (cur : List (Option α)) (l : List (Nat × α)) (x : Nat × α) :
    combineRef n cur (l ++ [x]) = combineRef n cur l ++ emit (upd n (l.foldl (upd n) cur) x) := by
  induction l generalizing cur with
  | nil =>
    obtain ⟨i, a⟩ := x
    simp only [List.nil_append, combineRef, List.foldl_nil, emit, upd]
    split <;> simp_all
  | cons y l ih =>
    obtain ⟨i, a⟩ := y
    simp only [List.cons_append, combineRef, List.foldl_cons]
    have := ih (upd n cur (i, a))
    simp only [upd] at this ⊢
    split <;> simp_all

theorem unwrapAll_eq (l : List (Option α)) : unwrapAll l = allSome l := by
  induction l with
  | nil => rfl
  | cons x xs ih =>
    cases x with
    | none => rfl
    | some a => simp only [unwrapAll, allSome, ih]; cases allSome xs <;> rfl

theorem allSome_isSome (l : List (Option α)) (t : List α) (h : allSome l = some t) :
    ∀ j, j < l.length → (phAt l j).isNone = false := by
  induction l generalizing t with
  | nil => intro j hj; simp at hj
  | cons x xs ih =>
    cases x with
    | none => simp [allSome] at h
    | some a =>
      cases hx : allSome xs with
      | none => simp [allSome, hx] at h
      | some t' =>
        intro j hj
        cases j with
        | zero => simp [phAt]
        | succ j => have := ih t' hx j (by simpa using hj); simpa [phAt] using this

theorem allSome_none_of_cnt (l : List (Option α)) (h : cnt l.length (fun j => (phAt l j).isNone) ≠ 0) : allSome l = none := by
  cases hx : allSome l with
  | none => rfl
  | some t => exact absurd (cnt_eq_zero_iff.2 (allSome_isSome l t hx)) h

def isOpEv : E α → Bool | .out _ => true | .retO => true | _ => false

def OpHead : List (E α) → Prop
  | [] => True
  | e :: _ => isOpEv e = true

/-- the part of the specification that is about the trace alone -/
structure TrOK (n : Nat) (tr : List (E α)) : Prop where
  head : OpHead tr
  recv : recvData 0 tr = combineRef n (List.replicate n none) (arrivals tr)
  cause : eachPrecededBy (isDataOut 0) dataCause tr = true
  greetOnly : eachAtNext (chkGreetOnly n) tr = true
  greetIf : eachAtNext (chkGreetIf n) tr = true
  termOnly : eachAtNext (chkTermOnly n) tr = true
  termIf : eachAtNext (chkTermIf n) tr = true

theorem TrOK.nil (n : Nat) : TrOK n ([] : List (E α)) := by
  refine ⟨trivial, ?_, rfl, rfl, rfl, rfl, rfl⟩
  simp [recvData, arrivals, combineRef]

theorem TrOK.step {n : Nat} {tr : List (E α)} (h : TrOK n tr) (e1 e2 : E α) (he1 : isEnvEv e1 = true) (he2 : isOpEv e2 = true)
    (hrecv : recvData 0 (e2 :: e1 :: tr) = combineRef n (List.replicate n none) (arrivals (e2 :: e1 :: tr)))
    (hcause : isDataOut 0 e2 = true → dataCause e1 e2 = true)
    (h3 : chkGreetOnly n tr e1 e2 = true) (h4 : chkGreetIf n tr e1 e2 = true)
    (h5 : chkTermOnly n tr e1 e2 = true) (h6 : chkTermIf n tr e1 e2 = true) : TrOK n (e2 :: e1 :: tr) := by
  have he := not_sinkOut_of_isEnvEv he1 0
  have hop : ∀ e0 t, tr = e0 :: t → isSrcGreet e0 = false ∧ isSrcEnd e0 = false := by
    intro e0 t ht
    have h0 : isOpEv e0 = true := by have := h.head; rwa [ht] at this
    cases e0 with
    | inp i => cases h0
    | _ => exact ⟨rfl, rfl⟩
  refine ⟨he2, hrecv, eachPrecededBy_step h.cause he.1 hcause,
    eachAtNext_step h.greetOnly (fun e0 t _ => by simp [chkGreetOnly, he.2.1]) h3,
    eachAtNext_step h.greetIf (fun e0 t ht => by simp [chkGreetIf, (hop e0 t ht).1]) h4,
    eachAtNext_step h.termOnly (fun e0 t _ => by simp [chkTermOnly, he.2.2]) h5,
    eachAtNext_step h.termIf (fun e0 t ht => by simp [chkTermIf, (hop e0 t ht).2]) h6⟩

def isSrcIn : E α → Bool | .inp (.srcGreet _) => true | .inp (.srcDown _ _) => true | _ => false
def isSinkOut : E α → Bool | .out (.greet _) => true | .out (.down _ _) => true | _ => false

theorem TrOK.quiet {n : Nat} {tr : List (E α)} (h : TrOK n tr) (e1 e2 : E α) (he1 : isEnvEv e1 = true) (he2 : isOpEv e2 = true)
    (hq1 : isSrcIn e1 = false) (hq2 : isSinkOut e2 = false) :
    TrOK n (e2 :: e1 :: tr) ∧ arrivals (e2 :: e1 :: tr) = arrivals tr := by
  have a1 : isSrcGreet e1 = false ∧ isSrcEnd e1 = false ∧ ∀ t, arrivals (e1 :: t) = arrivals t ∧ recvData 0 (e1 :: t) = recvData 0 t := by
    rcases e1 with (k | ⟨k, u⟩ | i | ⟨i, d⟩) | o | _ | _ | _ <;> simp [isEnvEv, isSrcIn] at he1 hq1 <;>
      simp [isSrcGreet, isSrcEnd, arrivals, recvData]
  have a2 : isGreetOut 0 e2 = false ∧ isTermOut 0 e2 = false ∧ isDataOut 0 e2 = false ∧
      ∀ t, arrivals (e2 :: t) = arrivals t ∧ recvData 0 (e2 :: t) = recvData 0 t := by
    rcases e2 with i | (k | ⟨k, d⟩ | i | ⟨i, u⟩ | b) | _ | _ | _ <;> simp [isOpEv, isSinkOut] at he2 hq2 <;>
      simp [isGreetOut, isTermOut, isDataOut, arrivals, recvData]
  obtain ⟨p1, p2, p3⟩ := a1
  obtain ⟨q1, q2, q3, q4⟩ := a2
  have ha : arrivals (e2 :: e1 :: tr) = arrivals tr := by rw [(q4 _).1, (p3 _).1]
  exact ⟨h.step e1 e2 he1 he2 (by rw [ha, (q4 _).2, (p3 _).2]; exact h.recv) (by rw [q3]; exact Bool.noConfusion)
    (by simp [chkGreetOnly, q1]) (by simp [chkGreetIf, p1]) (by simp [chkTermOnly, q2]) (by simp [chkTermIf, p2]), ha⟩

/-! ## terminals to the sink are counted by its phase: combine's violations are all of C04 (`finalsTo_of_c04`) -/

def Fin0 (ph : Ph) (tr : List (E α)) : Prop :=
  (ph.sinkPh 0 = .doneBySrc → finalsTo 0 tr = 1) ∧ (ph.sinkPh 0 ≠ .doneBySrc → finalsTo 0 tr = 0)

theorem Fin0.le {ph : Ph} {tr : List (E α)} (h : Fin0 ph tr) : finalsTo 0 tr ≤ 1 := by
  by_cases hp : ph.sinkPh 0 = .doneBySrc
  · rw [h.1 hp]; exact Nat.le_refl 1
  · rw [h.2 hp]; exact Nat.zero_le 1

theorem fin0_of_reach {n : Nat} {s : Cfg α} (hr : SReach (machine α n) s) (hi : Inv n s) : Fin0 s.g.ph s.tr := by
  have h := finalsTo_of_c04 hr (fun v hv => by obtain ⟨i, p, rfl⟩ := hi.2.1.viols v hv; rfl) 0
  exact ⟨fun hp => by rw [h, if_pos hp], fun hp => by rw [h, if_neg hp]⟩

theorem allGreeted_iff {n : Nat} {s : Cfg α} (hr : SReach (machine α n) s) (hg : Glob n s.st s.g.ph) :
    allBelow n (fun j => srcGreeted j s.tr) = true ↔ s.st.nStart = 0 := by
  rw [allBelow_iff, ← hg.allSet_iff]
  constructor
  · intro h j hj; exact (hg.slot j).2 ((srcGreeted_iff hr j).1 (h j hj))
  · intro h j hj; exact (srcGreeted_iff hr j).2 ((hg.slot j).1 (h j hj))

theorem allEnded_iff {n : Nat} {s : Cfg α} (hr : SReach (machine α n) s) (hg : Glob n s.st s.g.ph) :
    allBelow n (fun j => srcEnded j s.tr) = true ↔ s.st.nEnd = 0 := by
  rw [allBelow_iff]
  constructor
  · intro h; rw [hg.fin]; exact cnt_eq_zero_iff.2 (fun j hj => by simp [(srcEnded_iff hr j).1 (h j hj)])
  · intro h j hj
    have := cnt_eq_zero_iff.1 (hg.fin ▸ h) j hj
    simp at this
    exact (srcEnded_iff hr j).2 this

theorem vals_step {n i : Nat} {a : α} {vals : List (Option α)} {as : List (Nat × α)} (hv : vals = latest n as)
    (hlen : vals.length = n) (hi : i < n) : setAt vals i (some a) = latest n (as ++ [(i, a)]) := by
  rw [setAt_eq_set _ _ _ (by omega), latest_eq, List.foldl_append, ← latest_eq, ← hv]
  simp [upd, hi]

theorem recv_step {n : Nat} {rd : List (List α)} {as : List (Nat × α)} {x : Nat × α} {vals' : List (Option α)}
    (hr : rd = combineRef n (List.replicate n none) as) (hv : vals' = latest n (as ++ [x])) :
    combineRef n (List.replicate n none) (as ++ [x]) = rd ++ emit vals' := by
  rw [combineRef_snoc, ← hr, hv, latest_eq, List.foldl_append]; rfl

section paths
variable {n : Nat} {tr : List (E α)}

theorem TrOK.greetLast (h : TrOK n tr) (i : Nat)
    (hall : allBelow n (fun j => srcGreeted j ((.inp (.srcGreet i) : E α) :: tr)) = true) :
    TrOK n (.out (.greet 0) :: .inp (.srcGreet i) :: tr) := by
  refine h.step _ _ rfl rfl h.recv (by simp [isDataOut]) ?_ ?_ ?_ ?_
  · simp [chkGreetOnly, isGreetOut, isSrcGreet, hall]
  · simp [chkGreetIf, isGreetOut]
  · simp [chkTermOnly, isTermOut]
  · simp [chkTermIf, isSrcEnd]

theorem TrOK.greetNotLast (h : TrOK n tr) (i : Nat)
    (hall : ¬ allBelow n (fun j => srcGreeted j ((.inp (.srcGreet i) : E α) :: tr)) = true) :
    TrOK n (.retO :: .inp (.srcGreet i) :: tr) := by
  refine h.step _ _ rfl rfl h.recv (by simp [isDataOut]) ?_ ?_ ?_ ?_
  · simp [chkGreetOnly, isGreetOut]
  · simp [chkGreetIf, hall]
  · simp [chkTermOnly, isTermOut]
  · simp [chkTermIf, isSrcEnd]

theorem TrOK.dataWait (h : TrOK n tr) (i : Nat) (a : α) {vals' : List (Option α)}
    (hv : vals' = latest n (arrivals tr ++ [(i, a)])) (hnone : allSome vals' = none) :
    TrOK n (.retO :: .inp (.srcDown i (.data a)) :: tr) := by
  refine h.step _ _ rfl rfl ?_ (by simp [isDataOut]) ?_ ?_ ?_ ?_
  · show recvData 0 tr = combineRef n _ (arrivals tr ++ [(i, a)])
    rw [recv_step h.recv hv, emit, hnone, List.append_nil]
  · simp [chkGreetOnly, isGreetOut]
  · simp [chkGreetIf, isSrcGreet]
  · simp [chkTermOnly, isTermOut]
  · simp [chkTermIf, isSrcEnd]

theorem TrOK.dataEmit (h : TrOK n tr) (i : Nat) (a : α) {vals' : List (Option α)} {t : List α}
    (hv : vals' = latest n (arrivals tr ++ [(i, a)])) (hsome : allSome vals' = some t) :
    TrOK n (.out (.down 0 (.data t)) :: .inp (.srcDown i (.data a)) :: tr) := by
  refine h.step _ _ rfl rfl ?_ (by simp [dataCause]) ?_ ?_ ?_ ?_
  · show recvData 0 tr ++ [t] = combineRef n _ (arrivals tr ++ [(i, a)])
    rw [recv_step h.recv hv, emit, hsome]
  · simp [chkGreetOnly, isGreetOut]
  · simp [chkGreetIf, isSrcGreet]
  · simp [chkTermOnly, isTermOut]
  · simp [chkTermIf, isSrcEnd]

theorem TrOK.endLast (h : TrOK n tr) (i : Nat) (d : Down α) (hd : isFinal d = true)
    (hall : allBelow n (fun j => srcEnded j ((.inp (.srcDown i d) : E α) :: tr)) = true) :
    TrOK n (.out (.down 0 .term) :: .inp (.srcDown i d) :: tr) := by
  cases d with
  | data a => cases hd
  | _ =>
    refine h.step _ _ rfl rfl h.recv (by simp [isDataOut]) ?_ ?_ ?_ ?_
    · simp [chkGreetOnly, isGreetOut]
    · simp [chkGreetIf, isSrcGreet]
    · simp [chkTermOnly, isTermOut, isSrcEnd, hall]
    · simp [chkTermIf, isTermOut]

theorem TrOK.endNotLast (h : TrOK n tr) (i : Nat) (d : Down α) (hd : isFinal d = true)
    (hall : ¬ allBelow n (fun j => srcEnded j ((.inp (.srcDown i d) : E α) :: tr)) = true) :
    TrOK n (.retO :: .inp (.srcDown i d) :: tr) := by
  cases d with
  | data a => cases hd
  | _ =>
    refine h.step _ _ rfl rfl h.recv (by simp [isDataOut]) ?_ ?_ ?_ ?_
    · simp [chkGreetOnly, isGreetOut]
    · simp [chkGreetIf, isSrcGreet]
    · simp [chkTermOnly, isTermOut]
    · simp [chkTermIf, hall]

end paths

def T (n : Nat) (s : Cfg α) : Prop := s.st.vals = latest n (arrivals s.tr) ∧ Fin0 s.g.ph s.tr ∧ TrOK n s.tr

/-- `T.macro` reads "member greeted / ended" off the trace through `srcGreeted_iff`, `srcEnded_iff`, which hold of reachable
configurations. -/
def FInv (n : Nat) (s : Cfg α) : Prop := SReach (machine α n) s ∧ Inv n s ∧ T n s

/-- a run that gets stuck ends where the run into the basic invariant ends -/
theorem finish (n : Nat) {s' X : Cfg α} {k : Nat} (hb : ∃ n1, Inv n (advance (machine α n) n1 s')) (hr : SReach (machine α n) s')
    (he : advance (machine α n) k s' = X) (hst : opStep (machine α n) X = none)
    (hT : Inv n X → SReach (machine α n) X → T n X) : ∃ k, FInv n (advance (machine α n) k s') := by
  obtain ⟨n1, h1⟩ := hb
  have heq : advance (machine α n) n1 s' = X := by
    have a := advance_add (machine α n) n1 k s'
    have b := advance_add (machine α n) k n1 s'
    rw [advance_of_envTurn (inv_turn n _ h1).1] at a
    rw [he, advance_fix _ _ hst, Nat.add_comm] at b
    exact a.symm.trans b
  have hR : SReach (machine α n) X := he ▸ hr.advance k
  exact ⟨k, by rw [he]; exact ⟨hR, heq ▸ h1, hT (heq ▸ h1) hR⟩⟩

/-- the part of `T` that a macro step carries; `Fin0` holds of every reachable turn (`fin0_of_reach`) -/
def TV (n : Nat) (vals : List (Option α)) (tr : List (E α)) : Prop := vals = latest n (arrivals tr) ∧ TrOK n tr

/-- inside a macro step whose first event `e1` is not about a member -/
def TM (n : Nat) (st : St α) (tr : List (E α)) : Prop :=
  ∃ e1 tr0, tr = e1 :: tr0 ∧ isEnvEv e1 = true ∧ isSrcIn e1 = false ∧ TV n st.vals tr0

theorem T.entry {n : Nat} {s : Cfg α} {m : Move α} {l : Loc α} (hent : Entry n s m l) (hx : T n s) : TM n s.st (m.ev :: s.tr) := by
  cases hent <;> exact ⟨_, _, rfl, rfl, rfl, hx.1, hx.2.2⟩

/-- no clause looks at the call or the return a `Tail` ends with -/
theorem TM.close {n : Nat} {st : St α} {tr : List (E α)} (hx : TM n st tr) {e2 : E α} (he2 : isOpEv e2 = true)
    (ho : isSinkOut e2 = false) : TV n st.vals (e2 :: tr) := by
  obtain ⟨e1, tr0, rfl, h1, h2, hv, hok⟩ := hx
  obtain ⟨hq, ha⟩ := hok.quiet e1 e2 h1 he2 h2 ho
  exact ⟨by rw [ha]; exact hv, hq⟩

/-- whether the step is the last greeting / end is read off the counters of the turn it ends in -/
theorem T.macro {n : Nat} {s : Cfg α} {m : Move α} {st : St α} {r : Option (Out (List α) × Loc α)} (hm : Macro n s m st r)
    (hs : Inv n s) (hx : T n s) (ht : Inv n (s.next (machine α n).shape st m r))
    (hr : SReach (machine α n) (s.next (machine α n).shape st m r)) : T n (s.next (machine α n).shape st m r) := by
  have hgt : Glob n st (s.next (machine α n).shape st m r).g.ph := (Sys.next_st .. ▸ ht.2.1 :)
  suffices h : TV n (s.next (machine α n).shape st m r).st.vals (s.next (machine α n).shape st m r).tr from
    ⟨h.1, fin0_of_reach hr ht, h.2⟩
  cases hm with
  | tail hent ht' =>
    rw [Sys.next_eq]
    cases ht' with
    | done | subRet | upRet => exact (hx.entry hent).close (e2 := .retO) rfl rfl
    | subCall | upCall => exact (hx.entry hent).close (e2 := .out _) rfl rfl
  | greetLast i hz => exact ⟨hx.1, hx.2.2.greetLast i ((allGreeted_iff hr hgt).2 hz)⟩
  | greetNotLast i hz => exact ⟨hx.1, hx.2.2.greetNotLast i fun h => hz ((allGreeted_iff hr hgt).1 h)⟩
  | dataWait i a hl hz =>
    have hv : (stD s.st i a).vals = _ := vals_step hx.1 hs.2.1.len (hs.2.1.lt_of_ne_idle (by rw [hl]; exact SrcPh.noConfusion))
    refine ⟨hv, hx.2.2.dataWait i a hv (allSome_none_of_cnt _ ?_)⟩
    rw [hgt.len, ← hgt.data]; exact hz
  | dataEmit i a t hl hu =>
    have hv : (stD s.st i a).vals = _ := vals_step hx.1 hs.2.1.len (hs.2.1.lt_of_ne_idle (by rw [hl]; exact SrcPh.noConfusion))
    exact ⟨hv, hx.2.2.dataEmit i a hv (unwrapAll_eq _ ▸ hu)⟩
  | endLast i d hd hz =>
    refine ⟨?_, hx.2.2.endLast i d hd ((allEnded_iff hr hgt).2 hz)⟩
    cases d with
    | data a => cases hd
    | _ => exact hx.1
  | endNotLast i d hd hz =>
    refine ⟨?_, hx.2.2.endNotLast i d hd fun h => hz ((allEnded_iff hr hgt).1 h)⟩
    cases d with
    | data a => cases hd
    | _ => exact hx.1

theorem T.init (n : Nat) : T n (Sys.init (machine α n)) := by
  refine ⟨?_, ⟨fun h => by simp [Sys.init] at h, fun _ => rfl⟩, TrOK.nil n⟩
  show List.replicate n none = latest n (arrivals [])
  simp [arrivals, latest]

theorem t_at_turn (n : Nat) {s : Cfg α} (hs : SReach (machine α n) s) (ht : EnvTurn s) : FInv n s :=
  ⟨hs, Lands.at_turn anyEnv (T n) (inv_init n) (T.init n) (fun s h => (inv_turn n s h).1) (macro_step n)
    (fun _ _ _ _ _ hi hT _ hm hi' hr' => hT.macro hm hi hi' hr') hs ht⟩

/-- C10: the functional specification of `combine!` holds on the trace of every reachable configuration in which the
environment has control — every arity, history, nesting depth and data value. -/
theorem combine_spec {α : Type} [DecidableEq α] (n : Nat) :
    ∀ s, SReach (Combine.machine α n) s → EnvTurn s → combineOk n s.tr = true := by
  intro s hs ht
  obtain ⟨_, _, _, hf, hT⟩ := t_at_turn n hs ht
  rw [combineOk_eq]
  simp only [Bool.and_eq_true, decide_eq_true_eq, beq_iff_eq]
  exact ⟨⟨⟨⟨⟨⟨hT.recv, hT.cause⟩, hT.greetOnly⟩, hT.greetIf⟩, hT.termOnly⟩, hT.termIf⟩, hf.le⟩

end Cb.CombineFun

#print axioms Cb.CombineFun.combine_spec
