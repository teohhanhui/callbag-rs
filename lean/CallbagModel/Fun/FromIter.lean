import CallbagModel.Inv.FromIter
import CallbagModel.Inv.TraceGhost
import CallbagModel.Spec
/-!
# from_iter: the functional specification C15 holds on every trace of the model

`T` relates the operator state (`it`, `nexts`, `gotPull`, `resDone`, `inLoop`) and the stack to the trace.
-/
namespace Cb.FromIterFun
open Cb.FromIter

variable {ι α α' : Type}

theorem iter_succ (next : ι → Option (α × ι)) : ∀ (n : Nat) (it0 it : ι) (a : α) (it' : ι),
    iterAfter next n it0 = some it → next it = some (a, it') →
    iterList next (n + 1) it0 = iterList next n it0 ++ [a] ∧ iterAfter next (n + 1) it0 = some it' := by
  intro n
  induction n with
  | zero =>
    intro it0 it a it' h hn
    simp only [iterAfter, Option.some.injEq] at h
    subst h
    simp [iterList, iterAfter, hn]
  | succ n ih =>
    intro it0 it a it' h hn
    cases h0 : next it0 with
    | none => simp [iterAfter, h0] at h
    | some p =>
      obtain ⟨b, it1⟩ := p
      have h1 : iterAfter next n it1 = some it := by simpa [iterAfter, h0] using h
      obtain ⟨e1, e2⟩ := ih it1 it a it' h1 hn
      refine ⟨?_, ?_⟩
      · rw [iterList, h0]; simp only; rw [e1]; simp [iterList, h0]
      · rw [iterAfter, h0]; exact e2

theorem items_snoc {next : ι → Option (α × ι)} {it0 it it' : ι} {a : α} {D : List α}
    (h1 : D = iterList next D.length it0) (h2 : iterAfter next D.length it0 = some it) (hn : next it = some (a, it')) :
    D ++ [a] = iterList next (D ++ [a]).length it0 ∧ iterAfter next (D ++ [a]).length it0 = some it' := by
  obtain ⟨e1, e2⟩ := iter_succ next D.length it0 it a it' h2 hn
  rw [List.length_append, List.length_singleton]
  exact ⟨by rw [e1, ← h1], e2⟩

/-- the only tail frame that can exist is the greeting frame, at the bottom -/
def Bot (stk : List (Frame Loc α)) : Prop := stk = [] ∨ stk = [.wait (.greet 0) .done]

/-- in the loop: exactly one delivery frame, on top -/
def Shp (il : Bool) (stk : List (Frame Loc α)) : Prop :=
  (il = false ∧ Bot stk) ∨ (il = true ∧ ∃ d l rest, stk = .wait (.down 0 d) l :: rest ∧ Bot rest)

structure T (next : ι → Option (α × ι)) (it0 : ι) (it : ι) (nx : Nat) (gp rd il : Bool)
    (stk : List (Frame Loc α)) (tr : List (Ev α' α)) : Prop where
  items : recvData 0 tr = iterList next (recvData 0 tr).length it0
  iter : iterAfter next (recvData 0 tr).length it0 = some it
  nexts : nx = (recvData 0 tr).length + finalsTo 0 tr
  owed : (recvData 0 tr).length + finalsTo 0 tr + (if gp = true then 1 else 0) ≤ pullsIn 0 tr
  fin : finalsTo 0 tr = if rd = true then 1 else 0
  exh : rd = true → next it = none
  nnd : noNestedDelivery 0 tr = true
  oc : openCalls tr = framesOf stk
  shp : Shp il stk

variable {next : ι → Option (α × ι)} {it0 it : ι} {nx : Nat}

theorem T.init : T next it0 it0 0 false false false ([] : List (Frame Loc α)) ([] : List (Ev α' α)) := by
  constructor <;> simp [recvData, iterList, iterAfter, finalsTo, pullsIn, noNestedDelivery, openCalls, framesOf, Shp, Bot]

theorem nnd_deliver {t : List (Ev α' α)} {rest : List (Frame Loc α)} (d : Down α)
    (ho : openCalls t = none :: framesOf rest) (hb : Bot rest) (hn : noNestedDelivery 0 t = true) :
    noNestedDelivery 0 (.out (.down 0 d) :: t) = true := by
  rcases hb with rfl | rfl <;> simp [noNestedDelivery, ho, hn, framesOf]

theorem Shp.bot_of_false {stk : List (Frame Loc α)} (h : Shp false stk) : Bot stk := by
  rcases h with ⟨_, hb⟩ | ⟨hc, _⟩
  · exact hb
  · cases hc

theorem Shp.bot_of_true {f : Frame Loc α} {stk : List (Frame Loc α)} (h : Shp true (f :: stk)) : Bot stk := by
  rcases h with ⟨hc, _⟩ | ⟨_, d, l, rest, he, hb⟩
  · cases hc
  · rw [(List.cons.inj he).2]; exact hb

variable {t : List (Ev α' α)} {rest : List (Frame Loc α)}

theorem T.deliverData {a : α} {it' : ι} (h1 : recvData 0 t = iterList next (recvData 0 t).length it0)
    (h2 : iterAfter next (recvData 0 t).length it0 = some it) (h3 : nx = (recvData 0 t).length + finalsTo 0 t)
    (h4 : (recvData 0 t).length + finalsTo 0 t + 1 ≤ pullsIn 0 t) (h5 : finalsTo 0 t = 0)
    (h7 : noNestedDelivery 0 t = true) (h8 : openCalls t = none :: framesOf rest) (hb : Bot rest)
    (hn : next it = some (a, it')) :
    T next it0 it' (nx + 1) false false true (.wait (.down 0 (.data a)) .w0 :: rest) (.out (.down 0 (.data a)) :: t) := by
  obtain ⟨e1, e2⟩ := items_snoc h1 h2 hn
  refine ⟨e1, e2, ?_, ?_, h5, (fun h => nomatch h), nnd_deliver _ h8 hb h7, congrArg (some _ :: ·) h8, .inr ⟨rfl, _, _, _, rfl, hb⟩⟩
  · show nx + 1 = (recvData 0 t ++ [a]).length + finalsTo 0 t
    rw [List.length_append, List.length_singleton]; omega
  · show (recvData 0 t ++ [a]).length + finalsTo 0 t + 0 ≤ pullsIn 0 t
    rw [List.length_append, List.length_singleton]; omega

theorem T.deliverEnd (h1 : recvData 0 t = iterList next (recvData 0 t).length it0)
    (h2 : iterAfter next (recvData 0 t).length it0 = some it) (h3 : nx = (recvData 0 t).length + finalsTo 0 t)
    (h4 : (recvData 0 t).length + finalsTo 0 t + 1 ≤ pullsIn 0 t) (h5 : finalsTo 0 t = 0)
    (h7 : noNestedDelivery 0 t = true) (h8 : openCalls t = none :: framesOf rest) (hb : Bot rest) (hn : next it = none) :
    T next it0 it (nx + 1) false true true (.wait (.down 0 .term) .lend :: rest) (.out (.down 0 .term) :: t) := by
  refine ⟨h1, h2, ?_, ?_, ?_, fun _ => hn, nnd_deliver _ h8 hb h7, congrArg (some _ :: ·) h8, .inr ⟨rfl, _, _, _, rfl, hb⟩⟩
  · show nx + 1 = (recvData 0 t).length + (1 + finalsTo 0 t)
    omega
  · show (recvData 0 t).length + (1 + finalsTo 0 t) + 0 ≤ pullsIn 0 t
    omega
  · show 1 + finalsTo 0 t = 1
    omega

theorem T.macro {s : Sys (St ι α) Loc α' α} {m : Move α'} {st' : St ι α} {r : Option (Out α × Loc)}
    (hM : Macro next s m st' r) (h : T next it0 s.st.it s.st.nexts s.st.gotPull s.st.resDone s.st.inLoop s.stack s.tr) :
    T next it0 (s.next (machine α' next it0).shape st' m r).st.it (s.next (machine α' next it0).shape st' m r).st.nexts
      (s.next (machine α' next it0).shape st' m r).st.gotPull (s.next (machine α' next it0).shape st' m r).st.resDone
      (s.next (machine α' next it0).shape st' m r).st.inLoop (s.next (machine α' next it0).shape st' m r).stack
      (s.next (machine α' next it0).shape st' m r).tr := by
  obtain ⟨st, stk, g, tr, pn⟩ := s
  obtain ⟨h1, h2, h3, h4, h5, h6, h7, h8, h9⟩ := h
  dsimp only at h1 h2 h3 h4 h5 h6 h7 h8 h9
  have howed : st.resDone = false → (recvData 0 tr).length + finalsTo 0 tr + 1 ≤ 1 + pullsIn 0 tr ∧ finalsTo 0 tr = 0 := by
    intro hr
    rw [hr] at h5
    constructor
    · split at h4 <;> omega
    · exact h5
  cases hM <;> dsimp only [Sys.next, Sys.ends, List.tail_cons] at *
  case sub hs hl =>
    subst hs
    exact ⟨h1, h2, h3, h4, h5, h6, h7, congrArg (some _ :: none :: ·) h8, .inl ⟨hl, .inr rfl⟩⟩
  case quietPull =>
    refine ⟨h1, h2, h3, ?_, h5, h6, h7, h8, h9⟩
    show (recvData 0 tr).length + finalsTo 0 tr + 1 ≤ 1 + pullsIn 0 tr
    split at h4 <;> omega
  case quietEnd u hu =>
    have h4' : (recvData 0 tr).length + finalsTo 0 tr + (if st.gotPull = true then 1 else 0) ≤
        pullsIn 0 (.retO :: .inp (.sinkUp 0 u) :: tr) := by
      cases u with
      | pull => exact absurd rfl hu
      | term => exact h4
      | err e => exact h4
    exact ⟨h1, h2, h3, h4', h5, h6, h7, h8, h9⟩
  case ret o l stk' hs hl =>
    subst hs
    rw [hl] at h9
    have hb : stk' = [] := by
      rcases h9.bot_of_false with hb | hb
      · cases hb
      · exact (List.cons.inj hb).2
    subst hb
    exact ⟨h1, h2, h3, h4, h5, h6, h7, congrArg (List.tail <| List.tail ·) h8, .inl ⟨hl, .inl rfl⟩⟩
  case exitLoop o l stk' hs hl _ =>
    subst hs
    rw [hl] at h9
    exact ⟨h1, h2, h3, h4, h5, h6, h7, congrArg (List.tail <| List.tail ·) h8, .inl ⟨rfl, h9.bot_of_true⟩⟩
  case pullData a it' _ hr hl hn =>
    rw [hl] at h9
    exact T.deliverData (t := .inp (.sinkUp 0 .pull) :: tr) h1 h2 h3 (howed hr).1 (howed hr).2 h7 (congrArg (none :: ·) h8) h9.bot_of_false hn
  case pullEnd hr hl hn =>
    rw [hl] at h9
    exact T.deliverEnd (t := .inp (.sinkUp 0 .pull) :: tr) h1 h2 h3 (howed hr).1 (howed hr).2 h7 (congrArg (none :: ·) h8) h9.bot_of_false hn
  case retData o l rest a it' hs _ hr hl hp hn =>
    subst hs
    rw [hl] at h9; rw [hr] at h5; rw [hp] at h4
    have h8' : openCalls (.retE :: tr) = none :: framesOf rest := congrArg List.tail h8
    exact hl ▸ T.deliverData (t := .retE :: tr) h1 h2 h3 h4 h5 h7 h8' h9.bot_of_true hn
  case retEnd o l rest hs hr hl hp hn =>
    subst hs
    rw [hl] at h9; rw [hr] at h5; rw [hp] at h4
    have h8' : openCalls (.retE :: tr) = none :: framesOf rest := congrArg List.tail h8
    exact hl ▸ T.deliverEnd (t := .retE :: tr) h1 h2 h3 h4 h5 h7 h8' h9.bot_of_true hn

def FInv (next : ι → Option (α × ι)) (it0 : ι) (s : Sys (St ι α) Loc α' α) : Prop :=
  FromIter.Inv s ∧ T next it0 s.st.it s.st.nexts s.st.gotPull s.st.resDone s.st.inLoop s.stack s.tr

theorem finv_init : FInv next it0 (Sys.init (machine α' next it0)) :=
  ⟨FromIter.inv_init next it0, T.init⟩

theorem finv_turn (s : Sys (St ι α) Loc α' α) (h : FInv next it0 s) : EnvTurn s := (FromIter.inv_turn s h.1).1

theorem finv_step (next : ι → Option (α × ι)) (it0 : ι) (s s' : Sys (St ι α) Loc α' α) (m : Move α') (h : FInv next it0 s)
    (hs : EnvStep (machine α' next it0) m s s') : ∃ n, FInv next it0 (advance (machine α' next it0) n s') := by
  exact (macro_step h.1 hs).step (P := fun t => T next it0 t.st.it t.st.nexts t.st.gotPull t.st.resDone t.st.inLoop t.stack t.tr)
    fun _ _ hM _ => h.2.macro hM

theorem t_at_turn (next : ι → Option (α × ι)) (it0 : ι) {s : Sys (St ι α) Loc α' α}
    (hs : SReach (machine α' next it0) s) (ht : EnvTurn s) : FInv next it0 s :=
  Lands.at_turn anyEnv (fun t : Sys (St ι α) Loc α' α => T next it0 t.st.it t.st.nexts t.st.gotPull t.st.resDone t.st.inLoop t.stack t.tr)
    (inv_init next it0) T.init (fun s h => (inv_turn s h).1) macro_step (fun _ _ _ _ _ _ hT _ hM _ _ => hT.macro hM) hs ht

/-- **C15** (model side): at every reachable configuration where the environment has control, the trace satisfies the
specification of `from_iter`, and the iterator has been advanced exactly once per answer given, never without a Pull; the
operator's part of the stack does not grow with the number of items. -/
theorem fromIter_spec {ι α α' : Type} [DecidableEq α] (next : ι → Option (α × ι)) (it0 : ι) :
    ∀ s, SReach (FromIter.machine α' next it0) s → EnvTurn s →
      fromIterOk next it0 s.tr = true
      ∧ s.st.nexts = (recvData 0 s.tr).length + finalsTo 0 s.tr      -- the iterator is advanced once per item delivered, plus once to discover exhaustion
      ∧ s.st.nexts ≤ pullsIn 0 s.tr                                   -- … and never without a Pull
      ∧ s.stack.length ≤ 2                                            -- the operator's part of the stack does not grow with the number of items
      := by
  intro s hs ht
  obtain ⟨_, h1, h2, h3, h4, h5, h6, h7, h8, h9⟩ := t_at_turn next it0 hs ht
  have hF : finalsTo 0 s.tr ≤ 1 := by rw [h5]; split <;> simp
  have howed : (recvData 0 s.tr).length + finalsTo 0 s.tr ≤ pullsIn 0 s.tr := by omega
  have hdepth : deliveryDepth 0 s.tr ≤ 1 := by
    unfold deliveryDepth
    rw [h8]
    rcases h9 with ⟨_, hb | hb⟩ | ⟨_, d, l, rest, he, hb | hb⟩ <;> simp [framesOf, *]
  have hlen : s.stack.length ≤ 2 := by
    rcases h9 with ⟨_, hb | hb⟩ | ⟨_, d, l, rest, he, hb | hb⟩ <;> simp [*]
  have hexh : (if finalsTo 0 s.tr = 1 then
        (match iterAfter next (recvData 0 s.tr).length it0 with | some it => (next it).isNone | none => false)
      else true) = true := by
    rw [h2]
    split
    · rename_i hf
      have hrd : s.st.resDone = true := by
        rw [h5] at hf
        split at hf
        · assumption
        · cases hf
      simp [h6 hrd]
    · rfl
  refine ⟨?_, h3, by omega, hlen⟩
  unfold fromIterOk
  simp only [Bool.and_eq_true, decide_eq_true_eq, beq_iff_eq]
  exact ⟨⟨⟨⟨⟨h1, howed⟩, h7⟩, hdepth⟩, hF⟩, hexh⟩

end Cb.FromIterFun

#print axioms Cb.FromIterFun.fromIter_spec
