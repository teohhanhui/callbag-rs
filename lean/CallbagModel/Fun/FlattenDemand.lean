import CallbagModel.Fun.Flatten
import CallbagModel.Fun.Demand
/-!
# flatten: demand conservation (C14) — `demandOk` holds at every environment turn under the `pullable` discipline

With `P = pullsIn 0 tr`, `D = |recvData 0 tr|`: the sink sends at most one Pull per message (`P ≤ D + 1`), so at most one Pull
is owed at any time, and it is held by exactly one level: the active inner `k` (`pullsOut k + D = answersOf k + P`, and the
outer owes nothing), else the outer (`pullsOut 0 + D = answersOf 0 + P`), or by the greeting of the inner just subscribed
(`P = D + 1`, the outer owes nothing).  As a consequence, under `pullable` the outer can neither deliver a new inner nor end
while an inner is active (it owes nothing then): the continuations `od1`/`oe1 e` with a live inner never run.

The bookkeeping clauses of the counting `TC` are carried over one event at a time (`qOk_cons`, `dLeP_cons`); only the balance
`Cnt` is checked move by move (`cnt_call`).
-/
namespace Cb.FlattenDemand
open Cb.Flatten Cb.FlattenFun

variable {α : Type}

/-- the output is open and the outer source has greeted -/
def G3 (tr : List (Ev α α)) : Prop := finalsTo 0 tr = 0 ∧ sinkDisposed 0 tr = false ∧ srcGreeted 0 tr = true

/-- the demand is held by the active inner source, else by the outer one -/
def LiveC (st : St) (tr : List (Ev α α)) : Prop :=
  match st.inner with
  | some k => pullsOut k tr + (recvData 0 tr).length = answersOf k tr + pullsIn 0 tr ∧ answersOf 0 tr = pullsOut 0 tr
  | none => pullsOut 0 tr + (recvData 0 tr).length = answersOf 0 tr + pullsIn 0 tr

/-- the demand is held by the greeting of the inner source just subscribed -/
def WG (tr : List (Ev α α)) : Prop :=
  pullsIn 0 tr = (recvData 0 tr).length + 1 ∧ answersOf 0 tr = pullsOut 0 tr

def Cnt (st : St) (tr : List (Ev α α)) : Prop :=
  if 1 < st.nextId ∧ srcGreeted (st.nextId - 1) tr = false then WG tr else LiveC st tr

/-- the continuations that switch away from a live inner source never run under `pullable` -/
def NoSw : List (Frame (Loc α) α) → Prop
  | .wait _ .od1 :: _ => False
  | .wait _ (.oe1 _) :: _ => False
  | _ => True

structure TC (st : St) (stk : List (Frame (Loc α) α)) (tr : List (Ev α α)) : Prop where
  noSw : NoSw stk
  qOk : promptsTo 0 tr = (recvData 0 tr).length + (if srcGreeted 0 tr = true then 1 else 0)
  dLeP : (recvData 0 tr).length ≤ pullsIn 0 tr
  outerT : G3 tr → st.outer = true
  cnt : G3 tr → upFinals 0 tr = 0 → Cnt st tr

theorem srcGreeted_skip {e : Ev α α} {t : List (Ev α α)} (h : HeadOk (e :: t)) (j : Nat) :
    srcGreeted j (e :: t) = srcGreeted j t := by
  cases e <;> simp [HeadOk, srcGreeted] at h ⊢

theorem sinkDisposed_skip {e : Ev α α} {t : List (Ev α α)} (h : HeadOk (e :: t)) (j : Nat) :
    sinkDisposed j (e :: t) = sinkDisposed j t := by
  cases e <;> simp [HeadOk, sinkDisposed] at h ⊢

theorem recvData_inp (i : In α) (t : List (Ev α α)) (j : Nat) : recvData j (.inp i :: t) = recvData j t := by
  simp [recvData]

theorem finalsTo_inp (i : In α) (t : List (Ev α α)) (j : Nat) : finalsTo j (.inp i :: t) = finalsTo j t := by
  simp [finalsTo]

theorem upFinals_inp (i : In α) (t : List (Ev α α)) (j : Nat) : upFinals j (.inp i :: t) = upFinals j t := by
  simp [upFinals]

theorem qOk_cons {tr : List (Ev α α)}
    (h : promptsTo 0 tr = (recvData 0 tr).length + (if srcGreeted 0 tr = true then 1 else 0)) {e : Ev α α}
    (h1 : e ≠ .out (.greet 0)) (h2 : e ≠ .inp (.srcGreet 0)) :
    promptsTo 0 (e :: tr) = (recvData 0 (e :: tr)).length + (if srcGreeted 0 (e :: tr) = true then 1 else 0) := by
  cases e with
  | inp i =>
    cases i with
    | srcGreet j =>
      cases j with
      | zero => exact absurd rfl h2
      | succ j => exact h
    | _ => exact h
  | out o =>
    cases o with
    | greet k =>
      have hk : k ≠ 0 := fun e => h1 (by rw [e])
      show (if k = 0 then 1 else 0) + promptsTo 0 tr = _
      rw [if_neg hk, Nat.zero_add]; exact h
    | down k d =>
      cases d with
      | data b =>
        show (if k = 0 then 1 else 0) + promptsTo 0 tr = (if k = 0 then recvData 0 tr ++ [b] else recvData 0 tr).length +
          (if srcGreeted 0 tr = true then 1 else 0)
        by_cases hk : k = 0
        · rw [if_pos hk, if_pos hk, List.length_append, List.length_singleton]; omega
        · rw [if_neg hk, if_neg hk, Nat.zero_add]; exact h
      | _ => exact h
    | _ => exact h
  | _ => exact h

theorem qOk_call (st : St) (tr : List (Ev α α)) (i : In α)
    (h : promptsTo 0 tr = (recvData 0 tr).length + (if srcGreeted 0 tr = true then 1 else 0))
    (hg0 : i = .srcGreet 0 → srcGreeted 0 tr = false) :
    promptsTo 0 (evOf (respC st i) :: .inp i :: tr) = (recvData 0 (evOf (respC st i) :: .inp i :: tr)).length +
      (if srcGreeted 0 (evOf (respC st i) :: .inp i :: tr) = true then 1 else 0) := by
  by_cases hi : i = .srcGreet 0
  · subst hi
    have := hg0 rfl
    simp [respC, evOf, promptsTo, recvData, srcGreeted, this] at h ⊢
    omega
  · exact qOk_cons (qOk_cons (e := .inp i) h nofun fun e => hi (by cases e; rfl)) (fun e => hi (respC_greet (evOf_out e))) evOf_ne_inp

theorem dLeP_cons {tr : List (Ev α α)} (h : (recvData 0 tr).length ≤ pullsIn 0 tr) {e : Ev α α}
    (he : ∀ b, e ≠ .out (.down 0 (.data b))) : (recvData 0 (e :: tr)).length ≤ pullsIn 0 (e :: tr) := by
  cases e with
  | inp i =>
    cases i with
    | sinkUp k u =>
      cases u with
      | pull => exact Nat.le_trans h (Nat.le_add_left _ _)
      | _ => exact h
    | _ => exact h
  | out o =>
    cases o with
    | down k d =>
      cases d with
      | data b =>
        have hk : k ≠ 0 := fun e => he b (by rw [e])
        simpa only [recvData, pullsIn, if_neg hk] using h
      | _ => exact h
    | _ => exact h
  | _ => exact h

theorem dLeP_call (st : St) (tr : List (Ev α α)) (i : In α) (h : (recvData 0 tr).length ≤ pullsIn 0 tr)
    (hd : ∀ j a, i = .srcDown (j+1) (.data a) → (recvData 0 tr).length < pullsIn 0 tr) :
    (recvData 0 (evOf (respC st i) :: .inp i :: tr)).length ≤ pullsIn 0 (evOf (respC st i) :: .inp i :: tr) := by
  by_cases hi : ∃ j a, i = .srcDown (j+1) (.data a)
  · obtain ⟨j, a, rfl⟩ := hi
    simp only [respC, evOf, pullsIn, recvData, if_pos, List.length_append, List.length_singleton]
    exact hd j a rfl
  · refine dLeP_cons (dLeP_cons (e := .inp i) h nofun) fun b hb => hi ?_
    obtain ⟨j, rfl⟩ := respC_data (evOf_out hb)
    exact ⟨j, b, rfl⟩

theorem G3_old {e a : Ev α α} {tr : List (Ev α α)} (h : G3 (e :: a :: tr)) (he : HeadOk (e :: a :: tr))
    (ha : a ≠ .inp (.srcGreet 0)) : G3 tr := by
  obtain ⟨h1, h2, h3⟩ := h
  refine ⟨?_, ?_, ?_⟩
  · have := finalsTo_mono 0 a tr
    have := finalsTo_mono 0 e (a :: tr)
    omega
  · cases hd : sinkDisposed 0 tr with
    | false => rfl
    | true => rw [sinkDisposed_mono 0 e _ (sinkDisposed_mono 0 a _ hd)] at h2; cases h2
  · rw [srcGreeted_skip he] at h3
    cases a with
    | inp i =>
      cases i with
      | srcGreet j =>
        cases j with
        | zero => exact absurd rfl ha
        | succ j => simpa [srcGreeted] using h3
      | _ => simpa [srcGreeted] using h3
    | _ => simpa [srcGreeted] using h3

theorem outerT_call (st : St) (tr : List (Ev α α)) (i : In α) (h : G3 tr → st.outer = true)
    (hsw : ∀ d k, i = .srcDown 0 d → st.inner = some k → False)
    (hg : G3 (evOf (respC st i) :: .inp i :: tr)) : (stC st i).outer = true := by
  by_cases hi : i = .srcGreet 0
  · subst hi; rfl
  · have ho := h (G3_old hg (headOk_evOf _ _) (by simpa using hi))
    cases i with
    | subscribe k => exact ho
    | srcGreet j => cases j <;> first | exact absurd rfl hi | exact ho
    | sinkUp k u => cases u <;> exact ho
    | srcDown j d =>
      cases j with
      | zero =>
        cases hin : st.inner with
        | some k => exact (hsw d k rfl hin).elim
        | none => cases d <;> (simp only [stC, hin]; exact ho)
      | succ j =>
        cases d with
        | term => simp only [stC]; split <;> exact ho
        | _ => exact ho

theorem noSw_wait (o : Out α) {l : Loc α} (stk : List (Frame (Loc α) α)) (h : ¬ (l = .od1 ∨ ∃ e, l = .oe1 e)) :
    NoSw (.wait o l :: stk) := by
  cases l <;> first | trivial | exact h (.inl rfl) | exact h (.inr ⟨_, rfl⟩)

theorem noSw_call (st : St) (stk : List (Frame (Loc α) α)) (i : In α) (h : NoSw stk)
    (hsw : ∀ d k, i = .srcDown 0 d → st.inner = some k → False) : NoSw (landStk (respC st i) (contC st i) stk) := by
  cases respC st i with
  | none => exact h
  | some o =>
    refine noSw_wait o stk fun hc => ?_
    obtain ⟨d, k, hi, hin⟩ := contC_sw hc
    exact hsw d k hi hin

theorem noSw_of_benign {stk : List (Frame (Loc α) α)} (h : ∀ f ∈ stk, Benign f) : NoSw stk := by
  cases stk with
  | nil => simp [NoSw]
  | cons f r =>
    have := h f (by simp)
    cases f with
    | run l => simp [NoSw]
    | wait o l => cases l <;> simp [Benign] at this <;> simp [NoSw]

theorem upFinals_old {e a : Ev α α} {tr : List (Ev α α)} (h : upFinals 0 (e :: a :: tr) = 0) : upFinals 0 tr = 0 := by
  have := upFinals_mono 0 a tr
  have := upFinals_mono 0 e (a :: tr)
  omega

theorem nwg_cons {n : Nat} {tr : List (Ev α α)} (h : ¬ (1 < n ∧ srcGreeted (n - 1) tr = false)) (e : Ev α α) :
    ¬ (1 < n ∧ srcGreeted (n - 1) (e :: tr) = false) := fun ⟨h1, h2⟩ => by
  cases hg : srcGreeted (n - 1) tr with
  | false => exact h ⟨h1, hg⟩
  | true => rw [srcGreeted_mono _ e _ hg] at h2; cases h2

theorem cnt_live {st : St} {tr : List (Ev α α)} (h : ¬ (1 < st.nextId ∧ srcGreeted (st.nextId - 1) tr = false)) :
    Cnt st tr = LiveC st tr := if_neg h

/-- what is known when a sink or a live upstream calls (mode `live`) -/
structure LinkF (st : St) (tr : List (Ev α α)) (i : In α) : Prop where
  g3 : G3 tr
  up0 : upFinals 0 tr = 0
  nwg : ¬ (1 < st.nextId ∧ srcGreeted (st.nextId - 1) tr = false)
  kpos : ∀ k, st.inner = some k → 0 < k
  cur : ∀ j d, i = .srcDown (j+1) d → st.inner = some (j+1)
  sink0 : ∀ k u, i = .sinkUp k u → k = 0

theorem no_switch {st : St} {stk : List (Frame (Loc α) α)} {tr : List (Ev α α)} {i : In α} (hT : TC st stk tr)
    (hL : isLinkCall i = true → LinkF st tr i) (hP : pullableB tr (.call i) = true) :
    ∀ d k, i = .srcDown 0 d → st.inner = some k → False := by
  intro d k hi hin
  subst hi
  have hL := hL rfl
  have hc := hT.cnt hL.g3 hL.up0
  rw [Cnt, if_neg hL.nwg] at hc
  simp only [LiveC, hin] at hc
  simp only [pullableB, decide_eq_true_eq] at hP
  omega

theorem cnt_call {st : St} {stk : List (Frame (Loc α) α)} {tr : List (Ev α α)} {i : In α} (hT : TC st stk tr)
    (hal : ∀ j, answersOf j tr ≤ pullsOut j tr) (hpq : pullsIn 0 tr ≤ promptsTo 0 tr)
    (hfr : ∀ j, srcGreeted j tr = false → pullsOut j tr = 0)
    (hL : isLinkCall i = true → LinkF st tr i) (hP : pullableB tr (.call i) = true)
    (hsub0 : i = .srcGreet 0 → srcGreeted 0 tr = false ∧ st.inner = none ∧ st.nextId = 1)
    (hsubj : ∀ j, i = .srcGreet (j+1) → st.nextId = j + 2 ∧ srcGreeted (j+1) tr = false)
    (hnew : srcGreeted st.nextId tr = false) (hpos : 0 < st.nextId)
    (hg : G3 (evOf (respC st i) :: .inp i :: tr)) (hu : upFinals 0 (evOf (respC st i) :: .inp i :: tr) = 0) :
    Cnt (stC st i) (evOf (respC st i) :: .inp i :: tr) := by
  have hU := upFinals_old hu
  have hsw := no_switch hT hL hP
  have hq := hT.qOk
  have hdp := hT.dLeP
  cases i with
  | subscribe k =>
    exact hT.cnt (G3_old hg (headOk_evOf _ _) nofun) hU
  | srcGreet j =>
    cases j with
    | zero =>
      obtain ⟨h0, hin, hn⟩ := hsub0 rfl
      have hf := hfr 0 h0
      have ha := hal 0
      simp [h0] at hq
      simp [Cnt, LiveC, stC, respC, evOf, pullsOut, pullsIn, answersOf, recvData, srcGreeted, hin, hn]
      omega
    | succ j =>
      obtain ⟨hn, hgj⟩ := hsubj j rfl
      have hG := G3_old hg (headOk_evOf _ _) (by simp)
      have hc := hT.cnt hG hU
      rw [Cnt, if_pos ⟨by omega, by simpa [hn] using hgj⟩] at hc
      obtain ⟨hc1, hc2⟩ := hc
      have hf := hfr (j+1) hgj
      have ha := hal (j+1)
      simp [Cnt, LiveC, stC, respC, evOf, pullsOut, pullsIn, answersOf, recvData, srcGreeted, hn]
      omega
  | sinkUp k u =>
    have hL := hL rfl
    have hk := hL.sink0 k u rfl
    subst hk
    cases u with
    | pull =>
      have hc := hT.cnt hL.g3 hL.up0
      have hnwg := hL.nwg
      rw [Cnt, if_neg hnwg] at hc
      have hout := hT.outerT hL.g3
      cases hin : st.inner with
      | some k' =>
        have hk' : k' ≠ 0 := Nat.ne_of_gt (hL.kpos k' hin)
        simp only [LiveC, hin] at hc
        refine (cnt_live (nwg_cons (nwg_cons hnwg _) _)).mpr ?_
        simp [LiveC, respC, evOf, pullsOut, pullsIn, answersOf, recvData, hin, hk']
        omega
      | none =>
        simp only [LiveC, hin] at hc
        refine (cnt_live (nwg_cons (nwg_cons hnwg _) _)).mpr ?_
        simp [LiveC, respC, evOf, pullsOut, pullsIn, answersOf, recvData, hin, hout]
        omega
    | term | err _ =>
      have h2 := hg.2.1
      rw [sinkDisposed_skip (headOk_evOf _ _)] at h2
      cases h2
  | srcDown j d =>
    have hL := hL rfl
    have hc := hT.cnt hL.g3 hL.up0
    have hnwg := hL.nwg
    rw [Cnt, if_neg hnwg] at hc
    have hout := hT.outerT hL.g3
    simp only [pullableB, decide_eq_true_eq] at hP
    simp only [hL.g3.2.2, ↓reduceIte] at hq
    cases j with
    | zero =>
      cases hin : st.inner with
      | some k => exact (hsw d k rfl hin).elim
      | none =>
        simp only [LiveC, hin] at hc
        cases d with
        | data a =>
          have hd : 1 < st.nextId + 1 ∧
              srcGreeted (st.nextId + 1 - 1) (evOf (respC st (.srcDown 0 (.data a))) :: .inp (.srcDown 0 (.data a)) :: tr) = false := by
            refine ⟨by omega, ?_⟩
            simpa [respC, evOf, hin, srcGreeted] using hnew
          rw [Cnt, if_pos (by simpa [stC, hin] using hd)]
          simp [WG, respC, evOf, pullsOut, pullsIn, answersOf, recvData, hin]
          omega
        | term =>
          obtain ⟨h1, _, _⟩ := hg
          simp [respC, evOf, finalsTo, hin] at h1
        | err e =>
          obtain ⟨h1, _, _⟩ := hg
          simp [respC, evOf, finalsTo, hin] at h1
    | succ j =>
      have hin := hL.cur j d rfl
      simp only [LiveC, hin] at hc
      cases d with
      | data a =>
        refine (cnt_live (nwg_cons (nwg_cons hnwg _) _)).mpr ?_
        simp [LiveC, respC, evOf, pullsOut, pullsIn, answersOf, recvData, hin]
        omega
      | term =>
        have hn : (stC st (.srcDown (j+1) .term : In α)).nextId = st.nextId := by simp only [stC, hout, if_true]
        refine (cnt_live (hn ▸ nwg_cons (nwg_cons hnwg _) _)).mpr ?_
        simp [LiveC, stC, respC, evOf, pullsOut, pullsIn, answersOf, recvData, hout]
        omega
      | err e =>
        simp [respC, evOf, upFinals, hout] at hu

theorem tc_call {st : St} {stk : List (Frame (Loc α) α)} {tr : List (Ev α α)} {i : In α} (hT : TC st stk tr)
    (hal : ∀ j, answersOf j tr ≤ pullsOut j tr) (hpq : pullsIn 0 tr ≤ promptsTo 0 tr)
    (hfr : ∀ j, srcGreeted j tr = false → pullsOut j tr = 0)
    (hL : isLinkCall i = true → LinkF st tr i) (hP : pullableB tr (.call i) = true)
    (hsub0 : i = .srcGreet 0 → srcGreeted 0 tr = false ∧ st.inner = none ∧ st.nextId = 1)
    (hsubj : ∀ j, i = .srcGreet (j+1) → st.nextId = j + 2 ∧ srcGreeted (j+1) tr = false)
    (hnew : srcGreeted st.nextId tr = false) (hpos : 0 < st.nextId) :
    TC (stC st i) (landStk (respC st i) (contC st i) stk) (evOf (respC st i) :: .inp i :: tr) := by
  have hsw := no_switch hT hL hP
  refine ⟨noSw_call st stk i hT.noSw hsw, qOk_call st tr i hT.qOk (fun h => (hsub0 h).1), dLeP_call st tr i hT.dLeP ?_,
    outerT_call st tr i hT.outerT hsw, cnt_call hT hal hpq hfr hL hP hsub0 hsubj hnew hpos⟩
  intro j a hi
  subst hi
  have hL := hL rfl
  have hc := hT.cnt hL.g3 hL.up0
  rw [Cnt, if_neg hL.nwg] at hc
  simp only [LiveC, hL.cur j _ rfl] at hc
  simp only [pullableB, decide_eq_true_eq] at hP
  omega

theorem tc_ret {st : St} {stk : List (Frame (Loc α) α)} {tr : List (Ev α α)} {o : Out α} {l : Loc α}
    (hT : TC st (.wait o l :: stk) tr) (hl : Cont l) (hrest : NoSw stk) (hx : l = .x1 → sinkDisposed 0 tr = true) :
    TC (stR st l) (landStk (respR st l) .done stk) (evOf (respR st l) :: .retE :: tr) := by
  have hr : (∀ k, evOf (respR st l) ≠ .out (.greet k)) ∧ ∀ k b, evOf (respR st l) ≠ .out (.down k (.data b)) := by
    rcases respR_cases st l with h | h | ⟨e, h⟩ | h <;> rw [h] <;> exact ⟨nofun, nofun⟩
  have hsw : NoSw (landStk (respR st l) .done stk) := by
    cases respR st l with
    | none => exact hrest
    | some o => exact noSw_wait o stk fun h => by rcases h with h | ⟨_, h⟩ <;> cases h
  have he := headOk_evOf (respR st l) (.retE :: tr)
  -- the output is open afterwards only if a tail call returned
  have hopen : (G3 (evOf (respR st l) :: .retE :: tr) → (stR st l).outer = true) ∧
      (G3 (evOf (respR st l) :: .retE :: tr) → upFinals 0 (evOf (respR st l) :: .retE :: tr) = 0 →
        Cnt (stR st l) (evOf (respR st l) :: .retE :: tr)) := by
    rcases hl with rfl | rfl | ⟨e, rfl⟩ | ⟨e, rfl⟩ | rfl
    · -- no counter sees the two returns
      exact ⟨fun hg => hT.outerT (G3_old hg he nofun), fun hg hu => hT.cnt (G3_old hg he nofun) (upFinals_old hu)⟩
    · exact hT.noSw.elim
    · exact hT.noSw.elim
    · have hf : ∀ {X : Prop}, G3 (evOf (respR st (.ie1 e)) :: .retE :: tr) → X := fun hg => by
        have := hg.1; simp [respR, evOf, finalsTo] at this
      exact ⟨fun hg => hf hg, fun hg _ => hf hg⟩
    · have hf : ∀ {X : Prop}, G3 (evOf (respR st .x1) :: .retE :: tr) → X := fun hg => by
        have := hg.2.1; rw [sinkDisposed_mono 0 _ _ (sinkDisposed_mono 0 _ _ (hx rfl))] at this; cases this
      exact ⟨fun hg => hf hg, fun hg _ => hf hg⟩
  exact ⟨hsw, qOk_cons (qOk_cons (e := .retE) hT.qOk nofun nofun) (hr.1 0) evOf_ne_inp,
    dLeP_cons (dLeP_cons (e := .retE) hT.dLeP nofun) (hr.2 0), hopen.1, hopen.2⟩

theorem greeted_of_outerOk {b : Bool} {ph : Ph} {tr : List (Ev α α)} (hG : TGp ph tr) (h : OuterOk b ph) :
    srcGreeted 0 tr = true := by
  apply (hG.greeted 0).2
  cases b with
  | true => exact Or.inl (h.1 rfl)
  | false => rcases h.2 rfl with h | h; exact Or.inr (Or.inl h); exact Or.inr (Or.inr h)

theorem g3_of_live {b : Bool} {s : Cfg α} (hR : SReachR (machine α) pullable s) (hv : s.g.ph.viols = [])
    (h1 : s.g.ph.sinkPh 0 = .live) (h2 : OuterOk b s.g.ph) : G3 s.tr :=
  ⟨finalsTo_eq_zero hR hv (by simp [h1]), sinkDisposed_eq_false hR (by simp [h1]), greeted_of_outerOk (TG.of_reach hR).ph h2⟩

theorem nwg_of_live {st : St} {ph : Ph} {stk : List (Frame (Loc α) α)} {tr : List (Ev α α)} (hG : TGp ph tr)
    (H : Live st ph stk) :
    ¬ (1 < st.nextId ∧ srcGreeted (st.nextId - 1) tr = false) := by
  rintro ⟨hlt, hng⟩
  have : srcGreeted (st.nextId - 1) tr = true := by
    apply (hG.greeted _).2
    by_cases hcur' : st.inner = some (st.nextId - 1)
    · exact Or.inl (H.cur _ hcur').2.2
    · rcases H.old (st.nextId - 1) (by omega) (by omega) hcur' with h | h
      · exact Or.inr (Or.inl h)
      · exact Or.inr (Or.inr h)
  rw [this] at hng; cases hng

theorem TC.macro {s : Cfg α} {m : Move α} {st : St} {r : Option (Out α × Loc α)} (hR : SReachR (machine α) pullable s)
    (hI : Flatten.Inv s) (hT : TC s.st s.stack s.tr) (hm : Macro s m st r) (hr : pullable s m) :
    TC (s.next (machine α).shape st m r).st (s.next (machine α).shape st m r).stack (s.next (machine α).shape st m r).tr := by
  have hG := (TG.of_reach hR).ph
  have hal := answers_le_pulls hR
  have hpq := pulls_le_prompts hR 0
  have hfr := fun j => pullsOut_of_ungreeted hR hI.2.1 (i := j)
  obtain ⟨_, hv, hpos, hidle, _, _⟩ := hI
  obtain ⟨st, stk, g, tr, _⟩ := s
  simp only at hT hG hv hpos hidle hal hpq hfr
  cases hm with
  | call i hok =>
    have hP : pullableB tr (.call i) = true := hr
    rw [next_call, land_st, land_stack, land_tr]
    simp only at hok ⊢
    have hL : isLinkCall i = true → LinkF st tr i := by
      intro hi
      obtain ⟨H, hcur, hs0⟩ := hok.live hi
      have hg3 := g3_of_live hR hv H.sink H.outer
      have hl0 := H.outer.1 (hT.outerT hg3)
      exact ⟨hg3, by rw [hG.up hv 0, hl0]; simp, nwg_of_live hG H, fun k hk => (H.cur k hk).1, hcur, hs0⟩
    refine tc_call hT hal hpq hfr hL hP ?_ ?_ (srcGreeted_eq_false hR (Or.inl (hidle _ (Nat.le_refl _)))) hpos
    · intro hi; subst hi
      exact ⟨srcGreeted_eq_false hR (Or.inr hok.2.1), hok.2.2.2.1, hok.2.2.2.2⟩
    · intro j hi; subst hi
      exact ⟨hok.2.2.1, srcGreeted_eq_false hR (Or.inr hok.2.2.2.1)⟩
  | @ret o l stk hstk hrest hok =>
    cases hstk
    rw [next_ret, land_st, land_stack, land_tr]
    simp only at hok ⊢
    refine tc_ret hT hok.cont (noSw_of_benign hrest) ?_
    intro hl; subst hl
    exact (hG.disp 0).2 hok.1

theorem TC.init : TC (Sys.init (machine α) : Cfg α).st (Sys.init (machine α) : Cfg α).stack (Sys.init (machine α) : Cfg α).tr := by
  refine ⟨by simp [Sys.init, NoSw], by simp [Sys.init, promptsTo, recvData, srcGreeted], by simp [Sys.init, recvData],
    fun hg => ?_, fun hg _ => ?_⟩ <;>
  · have := hg.2.2; simp [Sys.init, srcGreeted] at this

theorem dinv_of_reach {s : Cfg α} (hs : SReachR (machine α) pullable s) (ht : EnvTurn s) : Flatten.Inv s ∧ TC s.st s.stack s.tr :=
  Lands.at_turn pullable (fun s => TC s.st s.stack s.tr) inv_init TC.init (fun s h => (inv_turn s h).1) macro_step
    (fun _ _ _ _ hr hi hT hR hm _ _ => TC.macro hr hi hT hm hR) hs ht

theorem mem_subs_of_subsOk {tr : List (Ev α α)} {n k : Nat} (h : SubsOk tr n) (h0 : 0 < k) (hk : k < n) :
    k ∈ subscriptions tr := by
  have : k ∈ (subscriptions tr).filter (· ≠ 0) := by
    rw [h, List.mem_range'_1]; omega
  exact (List.mem_filter.1 this).1

/-- C14 (demand conservation): under the pullable discipline, at every reachable configuration where the environment has
control, the trace satisfies `demandOk` -/
theorem flatten_demand {α : Type} :
    ∀ s, SReachR (Flatten.machine α) pullable s → EnvTurn s → demandOk s.tr = true := by
  intro s hR ht
  obtain ⟨hI, hT⟩ := dinv_of_reach hR ht
  have hT11 := (t_at_turn hR.weaken ht).2
  have hG := (TG.of_reach hR).ph
  have hstk := (TG.of_reach hR).stk hI.1
  have hpq := pulls_le_prompts hR 0
  have hS := fun h => mem_subscriptions_of_phase hR (i := 0) h
  obtain ⟨st, stk, g, tr, p⟩ := s
  obtain ⟨hp, hv, hpos, hidle, hoths, hm⟩ := hI
  simp only at hT11 hT hS hG hstk hpq hp hv hpos hidle hoths hm ⊢
  unfold demandOk
  rw [Bool.and_eq_true]
  refine ⟨by simpa using hT.dLeP, ?_⟩
  split
  next hcond =>
    simp only [Bool.and_eq_true, decide_eq_true_eq, beq_iff_eq] at hcond
    obtain ⟨hlt, hfin⟩ := hcond
    simp only [Bool.or_eq_true]
    have hq := hT.qOk
    cases hm with
    | init h1 h2 h3 h4 h5 h6 =>
      have := srcGreeted_eq_false hR (Or.inl h2)
      simp [this] at hq
      omega
    | sub h1 h2 h3 h4 h5 h6 =>
      have := srcGreeted_eq_false hR (Or.inr h2)
      simp [this] at hq
      omega
    | live h1 h2 h3 h4 h5 =>
      have hg3 := g3_of_live hR hv h1 h2
      have hout := hT.outerT hg3
      have hl0 := h2.1 hout
      have hup : upFinals 0 tr = 0 := by rw [hG.up hv 0, hl0]; simp
      have hc := hT.cnt hg3 hup
      have hnwg := nwg_of_live hG (Live.mk h1 h2 h3 h4 h5)
      rw [Cnt, if_neg hnwg] at hc
      right
      rw [List.any_eq_true]
      cases hin : st.inner with
      | some k =>
        obtain ⟨hk0, hkn, hkl⟩ := h3 k hin
        simp only [LiveC, hin] at hc
        refine ⟨k, mem_subs_of_subsOk hT11.subs hk0 hkn, ?_⟩
        have hlive : liveTr k tr = true := (hG.live_iff hv k).2 hkl
        have : answersOf k tr < pullsOut k tr := by omega
        simp [hlive, this]
      | none =>
        simp only [LiveC, hin] at hc
        refine ⟨0, hS (by simp [hl0]), ?_⟩
        have hlive : liveTr 0 tr = true := (hG.live_iff hv 0).2 hl0
        have : answersOf 0 tr < pullsOut 0 tr := by omega
        simp [hlive, this]
    | wgreet j h1 h2 h3 h4 h5 h6 h7 =>
      right
      rw [List.any_eq_true]
      have hm := mem_subs_of_subsOk hT11.subs h3 (show j < st.nextId by omega)
      refine ⟨j, hm, ?_⟩
      have hng := srcGreeted_eq_false hR (Or.inr h5)
      simp [pendingTr, hng, hm]
    | od1 _ _ _ _ h | oe1 _ _ _ _ h | ie1 _ _ _ h =>
      -- a `Terminate` sent upstream is the innermost open call
      obtain ⟨rest, rfl, _⟩ := h
      left; right
      rw [hstk]; simp [framesOf]
    | x1 k h1 _ _ _ => exact Or.inl (Or.inl (Or.inl ((hG.disp 0).2 h1)))
    | fin h1 _ _ =>
      rcases h1 with h1 | h1
      · rw [hG.fin hv 0, h1] at hfin; simp at hfin
      · exact Or.inl (Or.inl (Or.inl ((hG.disp 0).2 h1)))
  next => rfl

end Cb.FlattenDemand

#print axioms Cb.FlattenDemand.flatten_demand
