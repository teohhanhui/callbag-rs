import CallbagModel.Fun.Take
import CallbagModel.Fun.Demand
/-!
# take(max): demand conservation `demandOk` (C14) under the pullable discipline, for `max ≥ 1`

`T` is the counting part: with `P = pullsIn 0`, `D = |recvData 0|`, `U = pullsOut 0`, `A = answersOf 0`,

* `D = taken`, `D ≤ P`,
* `P + A = U + D` while upstream has not ended and `taken < max` (every sink Pull is forwarded while `taken < max`),
* `P = 0` before upstream greets.

A Pull that arrives when `taken = max` is not forwarded; by the basic invariant (mode `m3`) this happens only while the
`max`-th delivery is still open (`deliveryDepth 0 > 0`); when it returns take terminates upstream (mode `m6`: the open call is
`srcUp 0 term`) and completes the sink (`finalsTo 0 = 1`).

`max = 0` is excluded: `take(0)` never forwards a Pull and never completes by itself, so after
`S0 G0 U0p R R` (trace `S0 >S0 G0 >G0 U0p < R < R <`) the sink's Pull is unanswered for ever and `demandOk` is false
(`echo "take:0 | S0 G0 U0p R R" | cbharness replay | cbdrv judge C14` prints `FLAG … C14:specViolated`).
-/
namespace Cb.TakeDemand
open Cb.Take

variable {α : Type}

structure T (max taken : Nat) (tr : List (Ev α α)) : Prop where
  cnt : (recvData 0 tr).length = taken
  dp : (recvData 0 tr).length ≤ pullsIn 0 tr
  bal : srcEnded 0 tr = false → taken < max →
    pullsIn 0 tr + answersOf 0 tr = pullsOut 0 tr + (recvData 0 tr).length
  p0 : srcGreeted 0 tr = false → pullsIn 0 tr = 0

theorem T.init (max : Nat) : T max 0 ([] : List (Ev α α)) :=
  ⟨rfl, Nat.le_refl _, fun _ _ => rfl, fun _ => rfl⟩

section
variable {max taken : Nat} {tr : List (Ev α α)}

theorem T.neutral (h : T max taken tr) (e : Ev α α) (he : inert e = true) :
    T max taken (e :: tr) := by
  obtain ⟨e1, e2, e3, e4, e5, e6⟩ := inert_cons he tr
  exact ⟨by rw [e1]; exact h.cnt, by rw [e1, e4]; exact h.dp, by rw [e5, e4, e2, e3, e1]; exact h.bal, by rw [e6, e4]; exact h.p0⟩

theorem T.greet (h : T max taken tr) (i : Nat) :
    T max taken (.out (.greet 0) :: .inp (.srcGreet i) :: tr) :=
  T.neutral (tr := .inp (.srcGreet i) :: tr)
    ⟨h.cnt, h.dp, h.bal, fun hg => h.p0 (Bool.or_eq_false_iff.1 hg).2⟩ _ rfl

theorem T.pullFwd (h : T max taken tr) (hg : srcGreeted 0 tr = true) :
    T max taken (.out (.srcUp 0 .pull) :: .inp (.sinkUp 0 .pull) :: tr) := by
  obtain ⟨h0, h2, h3, h4⟩ := h
  constructor <;> simp only [answersOf, pullsOut, pullsIn, recvData, srcEnded, srcGreeted, ↓reduceIte]
  · exact h0
  · omega
  · intro he hlt; have := h3 he hlt; omega
  · intro hg'; rw [hg] at hg'; cases hg'

theorem T.pullDrop (h : T max taken tr) (hg : srcGreeted 0 tr = true)
    (hge : ¬ taken < max) : T max taken (.retO :: .inp (.sinkUp 0 .pull) :: tr) := by
  refine T.neutral (tr := .inp (.sinkUp 0 .pull) :: tr) ⟨h.cnt, ?_, fun _ hlt => absurd hlt hge, fun hg' => ?_⟩ _ rfl
  · have := h.dp; simp only [pullsIn, recvData, ↓reduceIte]; omega
  · rw [show srcGreeted 0 (.inp (.sinkUp 0 .pull) :: tr) = srcGreeted 0 tr from rfl, hg] at hg'; cases hg'

theorem T.dataTake (h : T max taken tr)
    (hlt : answersOf 0 tr < pullsOut 0 tr) (he : srcEnded 0 tr = false) (htk : taken < max) (a : α) :
    T max (taken + 1) (.out (.down 0 (.data a)) :: .inp (.srcDown 0 (.data a)) :: tr) := by
  obtain ⟨h0, h2, h3, h4⟩ := h
  have := h3 he htk
  constructor <;> simp only [answersOf, pullsOut, pullsIn, recvData, srcEnded, srcGreeted, ↓reduceIte, List.length_append,
    List.length_singleton]
  · omega
  · omega
  · omega
  · exact h4

theorem T.dataDrop (h : T max taken tr) (hge : ¬ taken < max) (a : α) :
    T max taken (.retO :: .inp (.srcDown 0 (.data a)) :: tr) :=
  T.neutral (tr := .inp (.srcDown 0 (.data a)) :: tr) ⟨h.cnt, h.dp, fun _ hlt => absurd hlt hge, h.p0⟩ _ rfl

theorem T.fin (h : T max taken tr) (d : Down α) (hd : isFinal d = true) :
    T max taken (.out (.down 0 d) :: .inp (.srcDown 0 d) :: tr) := by
  have hn : inert (α := α) (.out (.down 0 d)) = true := by cases d <;> first | rfl | cases hd
  have hend : srcEnded 0 (.inp (.srcDown 0 d) :: tr : List (Ev α α)) = true := by cases d <;> first | rfl | cases hd
  refine T.neutral (tr := .inp (.srcDown 0 d) :: tr) ⟨h.cnt, h.dp, fun he => ?_, h.p0⟩ _ hn
  rw [hend] at he; cases he

end

theorem T.macro {max : Nat} {s : Sys St (Loc α) α α} {m : Move α} {st : St} {r : Option (Out α × Loc α)}
    (hreach : SReachR (machine α max) pullable s) (hT : T max s.st.taken s.tr) (hR : pullable s m) (h : Macro max s m st r) :
    T max (s.next (machine α max).shape st m r).st.taken (s.next (machine α max).shape st m r).tr := by
  cases h with
  | subscribe _ => exact (hT.neutral _ rfl).neutral _ rfl
  | pullFwd _ hl _ => exact hT.pullFwd (live_tr hreach hl).1
  | pullDrop _ hl hge => exact hT.pullDrop (live_tr hreach hl).1 hge
  | sinkEnd u hu _ =>
    cases u with
    | pull => exact absurd rfl hu
    | term | err e => exact (hT.neutral _ rfl).neutral _ rfl
  | greet _ => exact hT.greet 0
  | dataTake a _ hl hlt => exact hT.dataTake (of_decide_eq_true hR) (live_tr hreach hl).2 hlt a
  | dataDrop a _ hge => exact hT.dataDrop hge a
  | srcEnd d hd _ => exact hT.fin d hd
  | ret _ | selfTerm _ _ | selfDone _ => exact (hT.neutral _ rfl).neutral _ rfl

theorem dinv_of_reach (max : Nat) {s : Sys St (Loc α) α α} (hs : SReachR (machine α max) pullable s) (ht : EnvTurn s) :
    Take.Inv max s ∧ T max s.st.taken s.tr :=
  Lands.at_turn pullable (fun t => T max t.st.taken t.tr) (Take.inv_init max) (T.init max)
    (fun s h => (Take.inv_turn max s h).1) (macro_step max) (fun _ _ _ _ hr _ hT hR hm _ _ => hT.macro hr hR hm) hs ht

/-- C14 for take(max), max ≥ 1 -/
theorem take_demand {α : Type} (max : Nat) (hmax : 0 < max) :
    ∀ s, SReachR (Take.machine α max) pullable s → EnvTurn s → demandOk s.tr = true := by
  intro s hs ht
  obtain ⟨⟨hp, hv, hle, _, _, hm⟩, hT⟩ := dinv_of_reach max hs ht
  refine demandOk_of_phases hs hp hv hT.dp hT.p0 fun hlt => ?_
  cases hm with
  | m1 _ h2 => exact .inl h2
  | m2 _ h2 => exact .inr (.inl h2)
  | m3 _ h2 _ _ h5 =>
    by_cases htk : s.st.taken < max
    · exact .inr (.inr (.inr (.inr (.inl ⟨h2, fun he => by have := hT.bal he htk; omega⟩))))
    · obtain ⟨a, rest, hstk⟩ := h5 (by omega) (by omega)
      refine .inr (.inr (.inr (.inr (.inr (.inl ?_)))))
      simp [deliveryDepth, openCalls_eq hs hp, hstk, framesOf]
  | m4 h1 => exact .inr (.inr (.inl h1))
  | m5 h1 => exact .inr (.inr (.inr (.inl h1)))
  | m6 _ _ _ _ h5 =>
    obtain ⟨rest, hstk, _⟩ := h5
    exact .inr (.inr (.inr (.inr (.inr (.inr ⟨_, _, hstk⟩)))))
  | m7 h1 => exact .inr (.inr (.inr (.inl h1)))

end Cb.TakeDemand

#print axioms Cb.TakeDemand.take_demand
