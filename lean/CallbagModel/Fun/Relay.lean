import CallbagModel.Inv.Relay
import CallbagModel.Inv.TraceGhost
import CallbagModel.Spec
/-!
# map / filter / scan / skip: the functional specification `relayOk` (C07) holds on every trace of the model

`T` links the private state to the trace (`priv` = the transfer function folded over the data received so far) and carries the
four clauses of `relayOk`.
-/
namespace Cb.RelayFun
open Cb.Relay

variable {σ α β : Type}

def xferSt (xfer : σ → α → σ × Option β) : σ → List α → σ
  | s, [] => s
  | s, a :: as => xferSt xfer (xfer s a).1 as

theorem xferSt_append (xfer : σ → α → σ × Option β) (s : σ) (as : List α) (a : α) :
    xferSt xfer s (as ++ [a]) = (xfer (xferSt xfer s as) a).1 := by
  induction as generalizing s with
  | nil => rfl
  | cons x xs ih => exact ih _

theorem xferOut_append_lists (xfer : σ → α → σ × Option β) (s : σ) (l t : List α) :
    xferOut xfer s (l ++ t) = xferOut xfer s l ++ xferOut xfer (xferSt xfer s l) t := by
  induction l generalizing s with
  | nil => simp [xferOut, xferSt]
  | cons a l ih =>
    simp only [List.cons_append, xferOut, xferSt]
    split <;> simp [ih]

theorem xferOut_append (xfer : σ → α → σ × Option β) (s : σ) (as : List α) (a : α) :
    xferOut xfer s (as ++ [a]) =
      xferOut xfer s as ++ (match (xfer (xferSt xfer s as) a).2 with | some b => [b] | none => []) := by
  rw [xferOut_append_lists]
  simp only [xferOut]
  cases (xfer (xferSt xfer s as) a).2 <;> rfl

theorem xferOut_map {α β : Type} (f : α → β) (s : Unit) (as : List α) : xferOut (Relay.map f).xfer s as = as.map f := by
  induction as with
  | nil => rfl
  | cons a as ih => simp only [xferOut, Relay.map, List.map_cons] at ih ⊢; rw [ih]

theorem xferOut_filter {α : Type} (p : α → Bool) (s : Unit) (as : List α) :
    xferOut (Relay.filter p).xfer s as = as.filter p := by
  induction as with
  | nil => rfl
  | cons a as ih =>
    simp only [xferOut, Relay.filter] at ih ⊢
    cases hp : p a <;> simp [hp, ih]

theorem xferOut_scan {α β : Type} (r : β → α → β) (seed : β) (s : β) (as : List α) :
    xferOut (Relay.scan r seed).xfer s as = scanF r s as := by
  induction as generalizing s with
  | nil => rfl
  | cons a as ih => simp only [xferOut, Relay.scan, scanF] at ih ⊢; rw [ih]

theorem xferOut_skip {α : Type} (n : Nat) (k : Nat) (as : List α) :
    xferOut (Relay.skip (α := α) n).xfer k as = as.drop (n - k) := by
  induction as generalizing k with
  | nil => simp [xferOut]
  | cons a as ih =>
    simp only [xferOut, Relay.skip] at ih ⊢
    by_cases hk : k < n
    · have : n - k = (n - (k + 1)) + 1 := by omega
      simp [hk, ih, this]
    · have : n - k = 0 := by omega
      simp [hk, ih, this]

theorem xferOut_skip_seed {α : Type} (n : Nat) (l : List α) :
    xferOut (Relay.skip (α := α) n).xfer (Relay.skip (α := α) n).seed l = l.drop n := xferOut_skip n 0 l

def neutral (e : Ev α β) : Bool := !isDataIn 0 e && !isDataOut 0 e && !isFinalIn 0 e && !isFinalOut 0 e

theorem neutral_iff {e : Ev α β} : neutral e = true ↔
    isDataIn 0 e = false ∧ isDataOut 0 e = false ∧ isFinalIn 0 e = false ∧ isFinalOut 0 e = false := by
  simp only [neutral, Bool.and_eq_true, Bool.not_eq_true', and_assoc]

structure T (k : Kind σ α β) (priv : σ) (tr : List (Ev α β)) : Prop where
  st : priv = xferSt k.xfer k.seed (sentData 0 tr)
  io : recvData 0 tr = xferOut k.xfer k.seed (sentData 0 tr)
  c2 : eachPrecededBy (isDataOut 0) (fun e1 _ => isDataIn 0 e1) tr = true
  c3 : eachPrecededBy (isFinalOut 0) (finalPasses 0 0) tr = true
  c4 : eachFollowedBy (isFinalIn 0) (finalPasses 0 0) tr = true
  hd : ∀ e t, tr = e :: t → isFinalIn (β := β) 0 e = false

theorem T.init (k : Kind σ α β) : T k k.seed ([] : List (Ev α β)) :=
  ⟨rfl, rfl, rfl, rfl, rfl, fun _ _ h => nomatch h⟩

section
variable {k : Kind σ α β} {priv : σ} {tr : List (Ev α β)}

theorem T.neutral (h : T k priv tr) (e : Ev α β) (he : neutral e = true) : T k priv (e :: tr) where
  st := by rw [sentData_cons_of_not (neutral_iff.1 he).1]; exact h.st
  io := by rw [sentData_cons_of_not (neutral_iff.1 he).1, recvData_cons_of_not (neutral_iff.1 he).2.1]; exact h.io
  c2 := epb_cons_of_not _ _ (neutral_iff.1 he).2.1 h.c2
  c3 := epb_cons_of_not _ _ (neutral_iff.1 he).2.2.2 h.c3
  c4 := efb_cons_of_not _ _ (neutral_iff.1 he).2.2.1 h.hd h.c4
  hd := by intro e' t h'; cases h'; exact (neutral_iff.1 he).2.2.1

theorem T.dataSome (h : T k priv tr) (a : α) (b : β) (hx : (k.xfer priv a).2 = some b) :
    T k (k.xfer priv a).1 (.out (.down 0 (.data b)) :: .inp (.srcDown 0 (.data a)) :: tr) where
  st := by rw [sentData_cons_of_not rfl, sentData_data, xferSt_append, ← h.st]
  io := by
    rw [recvData_data, recvData_cons_of_not rfl, sentData_cons_of_not rfl, sentData_data, xferOut_append, ← h.st, hx, h.io]
  c2 := eachPrecededBy_step h.c2 rfl (fun _ => rfl)
  c3 := eachPrecededBy_step h.c3 rfl (fun h' => nomatch h')
  c4 := efb_cons_of_not _ _ rfl (fun _ _ h' => by cases h'; rfl) (efb_cons_of_not _ _ rfl h.hd h.c4)
  hd := fun _ _ h' => by cases h'; rfl

theorem T.dataNone (h : T k priv tr) (a : α) (hx : (k.xfer priv a).2 = none) :
    T k (k.xfer priv a).1 (.out (.srcUp 0 .pull) :: .inp (.srcDown 0 (.data a)) :: tr) where
  st := by rw [sentData_cons_of_not rfl, sentData_data, xferSt_append, ← h.st]
  io := by
    rw [recvData_cons_of_not rfl, recvData_cons_of_not rfl, sentData_cons_of_not rfl, sentData_data, xferOut_append, ← h.st,
      hx, h.io, List.append_nil]
  c2 := eachPrecededBy_step h.c2 rfl (fun h' => nomatch h')
  c3 := eachPrecededBy_step h.c3 rfl (fun h' => nomatch h')
  c4 := efb_cons_of_not _ _ rfl (fun _ _ h' => by cases h'; rfl) (efb_cons_of_not _ _ rfl h.hd h.c4)
  hd := fun _ _ h' => by cases h'; rfl

theorem T.fin (h : T k priv tr) (hne : tr ≠ []) {d : Down α} {d' : Down β}
    (hd : isDataIn (β := β) 0 (.inp (.srcDown 0 d)) = false) (hd' : isDataOut (α := α) 0 (.out (.down 0 d')) = false)
    (hp : finalPasses (α := α) (β := β) 0 0 (.inp (.srcDown 0 d)) (.out (.down 0 d')) = true) :
    T k priv (.out (.down 0 d') :: .inp (.srcDown 0 d) :: tr) where
  st := by rw [sentData_cons_of_not rfl, sentData_cons_of_not hd]; exact h.st
  io := by rw [recvData_cons_of_not hd', recvData_cons_of_not rfl, sentData_cons_of_not rfl, sentData_cons_of_not hd]; exact h.io
  c2 := eachPrecededBy_step h.c2 rfl (fun h' => by rw [hd'] at h'; cases h')
  c3 := eachPrecededBy_step h.c3 rfl (fun _ => hp)
  c4 := efb_cons_of_rel _ _ _ hp hne h.hd h.c4
  hd := fun _ _ h' => by cases h'; rfl

end

theorem T.macro {k : Kind σ α β} {s : Sys (St σ) (Loc α β) α β} {m : Move α} {st : St σ} {r : Option (Out β × Loc α β)}
    (hreach : SReach (machine k) s) (hT : T k s.st.priv s.tr) (h : Macro k s m st r) :
    T k (s.next (machine k).shape st m r).st.priv (s.next (machine k).shape st m r).tr := by
  have hne : s.g.ph.srcPh 0 = .live → s.tr ≠ [] := fun hl he => by
    have := (srcGreeted_iff hreach 0).2 (.inl hl)
    rw [he] at this; cases this
  cases h with
  | subscribe | sinkUp u | ret => exact (hT.neutral _ rfl).neutral _ rfl
  | greet => cases k.slotted <;> exact (hT.neutral _ rfl).neutral _ rfl
  | dataSome a b _ hx => exact hT.dataSome a b hx
  | dataNone a _ hx => exact hT.dataNone a hx
  | term hlive => exact hT.fin (hne hlive) rfl rfl rfl
  | err e hlive => exact hT.fin (hne hlive) rfl rfl (by simp [finalPasses])

theorem t_at_turn (k : Kind σ α β) (hk : k.slotted = false → ∀ s a, (k.xfer s a).2 ≠ none) {s : Sys (St σ) (Loc α β) α β}
    (hs : SReach (machine k) s) (ht : EnvTurn s) : Relay.Inv k s ∧ T k s.st.priv s.tr :=
  Lands.at_turn anyEnv (fun t => T k t.st.priv t.tr) (Relay.inv_init k) (T.init k)
    (fun s h => (Relay.inv_turn k s h).1) (macro_step k hk) (fun _ _ _ _ hr _ hT _ hm _ _ => hT.macro hr hm) hs ht

/-- C07 for the generic relay -/
theorem relay_spec {σ α β : Type} [DecidableEq β] (k : Relay.Kind σ α β)
    (hk : k.slotted = false → ∀ s a, (k.xfer s a).2 ≠ none) :
    ∀ s, SReach (Relay.machine k) s → EnvTurn s → relayOk k.xfer k.seed s.tr = true := by
  intro s hs ht
  obtain ⟨_, hT⟩ := t_at_turn k hk hs ht
  simp only [relayOk, Bool.and_eq_true, beq_iff_eq]
  exact ⟨⟨⟨hT.io, hT.c2⟩, hT.c3⟩, hT.c4⟩

theorem relay_io {σ α β : Type} (k : Relay.Kind σ α β)
    (hk : k.slotted = false → ∀ s a, (k.xfer s a).2 ≠ none) :
    ∀ s, SReach (Relay.machine k) s → EnvTurn s → recvData 0 s.tr = xferOut k.xfer k.seed (sentData 0 s.tr) :=
  fun _ hs ht => (t_at_turn k hk hs ht).2.io

/-- the four operators, with their list functions spelled out -/
theorem map_spec {α β : Type} [DecidableEq β] (f : α → β) :
    ∀ s, SReach (Relay.machine (Relay.map f)) s → EnvTurn s →
      relayOk (Relay.map f).xfer () s.tr = true ∧ recvData 0 s.tr = (sentData 0 s.tr).map f :=
  fun s hs ht => ⟨relay_spec _ (map_ok f) s hs ht, (relay_io _ (map_ok f) s hs ht).trans (xferOut_map f _ _)⟩

theorem filter_spec {α : Type} [DecidableEq α] (p : α → Bool) :
    ∀ s, SReach (Relay.machine (Relay.filter p)) s → EnvTurn s →
      relayOk (Relay.filter p).xfer () s.tr = true ∧ recvData 0 s.tr = (sentData 0 s.tr).filter p :=
  fun s hs ht => ⟨relay_spec _ (filter_ok p) s hs ht, (relay_io _ (filter_ok p) s hs ht).trans (xferOut_filter p _ _)⟩

theorem scan_spec {α β : Type} [DecidableEq β] (r : β → α → β) (seed : β) :
    ∀ s, SReach (Relay.machine (Relay.scan r seed)) s → EnvTurn s →
      relayOk (Relay.scan r seed).xfer seed s.tr = true ∧ recvData 0 s.tr = scanF r seed (sentData 0 s.tr) :=
  fun s hs ht =>
    ⟨relay_spec _ (scan_ok r seed) s hs ht, (relay_io _ (scan_ok r seed) s hs ht).trans (xferOut_scan r seed _ _)⟩

theorem skip_spec {α : Type} [DecidableEq α] (n : Nat) :
    ∀ s, SReach (Relay.machine (Relay.skip (α := α) n)) s → EnvTurn s →
      relayOk (Relay.skip (α := α) n).xfer 0 s.tr = true ∧ recvData 0 s.tr = (sentData 0 s.tr).drop n :=
  fun s hs ht => ⟨relay_spec _ (skip_ok n) s hs ht, (relay_io _ (skip_ok n) s hs ht).trans (xferOut_skip_seed n _)⟩

end Cb.RelayFun

#print axioms Cb.RelayFun.relay_spec
#print axioms Cb.RelayFun.map_spec
#print axioms Cb.RelayFun.filter_spec
#print axioms Cb.RelayFun.scan_spec
#print axioms Cb.RelayFun.skip_spec
