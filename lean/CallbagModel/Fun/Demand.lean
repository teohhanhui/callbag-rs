import CallbagModel.Inv.TraceGhost
import CallbagModel.Spec14
/-!
# Demand conservation (C14): what holds of every machine under the pullable discipline

The greetings a sink has received are determined by its phase (`GT`), hence `promptsTo k tr ≤ 1 + |recvData k tr|`, and under
the discipline `pullsIn k tr ≤ promptsTo k tr`.  For an operator with one sink and one upstream, `demandOk_of_phases` reads C14
off the phases, two counting facts and a reason for every unanswered Pull; `inert` are the events its counters do not look at.
-/
namespace Cb

section generic
variable {St Loc α β : Type}

def greetsTo (k : Nat) : List (Ev α β) → Nat
  | [] => 0
  | .out (.greet k') :: t => (if k' = k then 1 else 0) + greetsTo k t
  | _ :: t => greetsTo k t

theorem promptsTo_eq (k : Nat) (tr : List (Ev α β)) : promptsTo k tr = greetsTo k tr + (recvData k tr).length := by
  induction tr with
  | nil => rfl
  | cons e t ih =>
    cases e with
    | out o =>
      cases o with
      | greet k' => simp only [promptsTo, greetsTo, recvData, ih]; omega
      | down k' d =>
        cases d with
        | data b =>
          simp only [promptsTo, greetsTo, recvData, ih]
          split <;> simp <;> omega
        | term | err e => exact ih
      | subSrc i | srcUp i u | app b => exact ih
    | inp i | retE | retO | panic => exact ih

def pastGreet : SinkPh → Nat
  | .idle => 0 | .subscribed => 0 | _ => 1

/-- while no phase-level violation has been recorded, a sink has been greeted exactly once iff it is past `subscribed` -/
def GT (ph : Ph) (tr : List (Ev α β)) : Prop :=
  ph.viols = [] → ∀ k, greetsTo k tr = pastGreet (ph.sinkPh k)

theorem GT.init : GT ({} : Ph) ([] : List (Ev α β)) := by
  intro _ k; simp [greetsTo, pastGreet]

theorem GT.inp {sh : Shape} {ph : Ph} {c : Ctx β} {tr : List (Ev α β)} (h : GT ph tr) (i : In α)
    (hl : legalIn sh ph c i = true) : GT (ph.onIn i) (.inp i :: tr) := by
  cases i with
  | subscribe k =>
    exact fun hv => count_neutral (fun j => Ph.sinkPh_setSink ph k j .subscribed) (legal_subscribe hl) pastGreet rfl (h hv)
  | sinkUp k u =>
    cases u with
    | pull => exact h
    | term | err e =>
      exact fun hv => count_neutral (fun j => Ph.sinkPh_setSink ph k j .doneBySelf) (legal_sinkUp hl) pastGreet rfl (h hv)
  | srcGreet j => exact h
  | srcDown j d => cases d <;> exact h

theorem GT.out {ph : Ph} {tr : List (Ev α β)} (h : GT ph tr) (o : Out β) : GT (ph.onOut o) (.out o :: tr) := by
  rcases ph.onOut_eq o with ⟨ha, e⟩ | ⟨-, e⟩ <;> rw [e]
  · cases o with
    | greet k => exact fun hv => count_registers (fun j => Ph.sinkPh_setSink ph k j .live) ha pastGreet rfl rfl (h hv)
    | down k d =>
      cases d with
      | data b => exact h
      | term | err e => exact fun hv => count_neutral (fun j => Ph.sinkPh_setSink ph k j .doneBySrc) ha pastGreet rfl (h hv)
    | srcUp i u => cases u <;> exact h
    | subSrc i | app b => exact h
  · exact fun hv => nomatch hv

theorem GT.skip {ph : Ph} {tr : List (Ev α β)} (h : GT ph tr) (e : Ev α β)
    (he : e = .retE ∨ e = .retO ∨ e = .panic) : GT ph (e :: tr) := by
  rcases he with rfl | rfl | rfl <;> exact h

theorem GT.opStep {M : Machine St Loc α β} {a b : Sys St Loc α β} (ha : GT a.g.ph a.tr) (h : opStep M a = some b) :
    GT b.g.ph b.tr :=
  opStep_ph_tr (fun e he h => h.skip e he) (fun o h => h.out o) h ha

theorem GT.of_reach {M : Machine St Loc α β} {R : Restr St Loc α β} {s : Sys St Loc α β} (hs : SReachR M R s) :
    GT s.g.ph s.tr :=
  hs.ph_tr (fun e he h => h.skip e he) (fun o h => h.out o) GT.init (fun i hl _ h => h.inp i hl)

theorem promptsTo_le {M : Machine St Loc α β} {R : Restr St Loc α β} {s : Sys St Loc α β} (hs : SReachR M R s)
    (hv : s.g.ph.viols = []) (k : Nat) : promptsTo k s.tr ≤ 1 + (recvData k s.tr).length := by
  rw [promptsTo_eq, GT.of_reach hs hv k]
  cases s.g.ph.sinkPh k <;> simp [pastGreet] <;> omega

theorem pulls_le_prompts {M : Machine St Loc α β} {s : Sys St Loc α β} (hs : SReachR M pullable s) (k : Nat) :
    pullsIn k s.tr ≤ promptsTo k s.tr := by
  refine hs.ph_tr (P := fun _ tr => pullsIn k tr ≤ promptsTo k tr) ?_ ?_ (Nat.le_refl 0) ?_
  · intro _ tr e he h
    rcases he with rfl | rfl | rfl <;> exact h
  · intro _ tr o h
    cases o with
    | greet k' => show pullsIn k tr ≤ (if k' = k then 1 else 0) + promptsTo k tr; omega
    | down k' d =>
      cases d with
      | data b => show pullsIn k tr ≤ (if k' = k then 1 else 0) + promptsTo k tr; omega
      | term | err e => exact h
    | subSrc i | srcUp i u | app b => exact h
  · intro a c i _ hR h
    cases i with
    | sinkUp k' u =>
      cases u with
      | pull =>
        have hR : pullsIn k' a.tr < promptsTo k' a.tr := by simpa [pullable, pullableB] using hR
        show (if k' = k then 1 else 0) + pullsIn k a.tr ≤ promptsTo k a.tr
        split
        · next hk => subst hk; omega
        · omega
      | term | err e => exact h
    | subscribe k' | srcGreet j | srcDown j d => exact h

theorem answers_le_pulls {M : Machine St Loc α β} {s : Sys St Loc α β} (hs : SReachR M pullable s) (i : Nat) :
    answersOf i s.tr ≤ pullsOut i s.tr := by
  refine hs.ph_tr (P := fun _ tr => answersOf i tr ≤ pullsOut i tr) ?_ ?_ (Nat.le_refl 0) ?_
  · intro _ tr e he h
    rcases he with rfl | rfl | rfl <;> exact h
  · intro _ tr o h
    cases o with
    | srcUp j u =>
      cases u with
      | pull => show answersOf i tr ≤ (if j = i then 1 else 0) + pullsOut i tr; omega
      | term | err e => exact h
    | greet k | down k d | subSrc j | app b => exact h
  · intro a c m _ hR h
    cases m with
    | srcDown j d =>
      have hR : answersOf j a.tr < pullsOut j a.tr := by simpa [pullable, pullableB] using hR
      show (if j = i then 1 else 0) + answersOf i a.tr ≤ pullsOut i a.tr
      split
      · next hj => subst hj; omega
      · omega
    | subscribe k | sinkUp k u | srcGreet j => exact h

theorem pullsOut_of_ungreeted {M : Machine St Loc α β} {R : Restr St Loc α β} {s : Sys St Loc α β} (hs : SReachR M R s)
    (hv : s.g.ph.viols = []) {i : Nat} (hg : srcGreeted i s.tr = false) : pullsOut i s.tr = 0 := by
  refine hs.ph_tr (P := fun ph tr => ph.viols = [] → (ph.srcPh i = .idle ∨ ph.srcPh i = .subscribed) → pullsOut i tr = 0)
    ?_ ?_ (fun _ _ => rfl) ?_ hv ?_
  · intro _ tr e he h
    rcases he with rfl | rfl | rfl <;> exact h
  · intro ph tr o h hv' hp
    have hv0 : ph.viols = [] := Ph.viols_nil_of_onOut hv'
    rcases Ph.onOut_srcPh ph o i with he | ⟨rfl, hidle, _⟩ | ⟨_, hd, _⟩
    · rw [he] at hp
      cases o with
      | srcUp j u =>
        cases u with
        | pull =>
          have hji : j ≠ i := fun e => by
            have hlive := (Ph.onOut_srcUp_ok ph j .pull hv').1
            rcases hp with hp | hp <;> rw [← e, hlive] at hp <;> cases hp
          show (if j = i then 1 else 0) + pullsOut i tr = 0
          rw [if_neg hji, Nat.zero_add]; exact h hv0 hp
        | term | err e => exact h hv0 hp
      | greet k | down k d | subSrc j | app b => exact h hv0 hp
    · exact h hv0 (.inl hidle)
    · rcases hp with hp | hp <;> rw [hd] at hp <;> cases hp
  · intro a c m hl _ h hv' hp
    rw [Ph.onIn_viols] at hv'
    rcases Ph.onIn_srcPh a.g.ph m i with he | ⟨_, hd⟩ | ⟨_, _, hd⟩
    · rw [he] at hp
      cases m <;> exact h hv' hp
    · rcases hp with hp | hp <;> rw [hd] at hp <;> cases hp
    · rcases hp with hp | hp <;> rw [hd] at hp <;> cases hp
  · cases hph : s.g.ph.srcPh i with
    | idle => exact .inl rfl
    | subscribed => exact .inr rfl
    | live | ended | disposed => rw [(srcGreeted_iff hs i).2 (by simp [hph])] at hg; cases hg

def inert : Ev α β → Bool
  | .inp (.sinkUp _ .pull) => false
  | .inp (.srcGreet _) => false
  | .inp (.srcDown _ _) => false
  | .out (.srcUp _ .pull) => false
  | .out (.down _ (.data _)) => false
  | .out (.app _) => false
  | .panic => false
  | _ => true

theorem inert_cons {e : Ev α β} (he : inert e = true) (t : List (Ev α β)) :
    recvData 0 (e :: t) = recvData 0 t ∧ answersOf 0 (e :: t) = answersOf 0 t ∧ pullsOut 0 (e :: t) = pullsOut 0 t ∧
    pullsIn 0 (e :: t) = pullsIn 0 t ∧ srcEnded 0 (e :: t) = srcEnded 0 t ∧ srcGreeted 0 (e :: t) = srcGreeted 0 t := by
  cases e with
  | inp j =>
    cases j with
    | subscribe _ => exact ⟨rfl, rfl, rfl, rfl, rfl, rfl⟩
    | sinkUp _ u => cases u <;> first | exact ⟨rfl, rfl, rfl, rfl, rfl, rfl⟩ | cases he
    | _ => cases he
  | out o =>
    cases o with
    | greet _ => exact ⟨rfl, rfl, rfl, rfl, rfl, rfl⟩
    | subSrc _ => exact ⟨rfl, rfl, rfl, rfl, rfl, rfl⟩
    | srcUp _ u => cases u <;> first | exact ⟨rfl, rfl, rfl, rfl, rfl, rfl⟩ | cases he
    | down _ d => cases d <;> first | exact ⟨rfl, rfl, rfl, rfl, rfl, rfl⟩ | cases he
    | app _ => cases he
  | retE => exact ⟨rfl, rfl, rfl, rfl, rfl, rfl⟩
  | retO => exact ⟨rfl, rfl, rfl, rfl, rfl, rfl⟩
  | panic => cases he

theorem live_tr {M : Machine St Loc α β} {R : Restr St Loc α β} {s : Sys St Loc α β} (hs : SReachR M R s)
    (hl : s.g.ph.srcPh 0 = .live) : srcGreeted 0 s.tr = true ∧ srcEnded 0 s.tr = false :=
  ⟨(srcGreeted_iff hs 0).2 (.inl hl), srcEnded_eq_false hs (by rw [hl]; nofun)⟩

/-- C14 read off the phases.  Besides the two counting facts, an unanswered Pull needs a reason, one of: upstream has not
greeted (then there is no Pull at all), the output is over, upstream is live and owes an answer, a delivery to the sink is
still open, the operator is telling upstream to stop. -/
theorem demandOk_of_phases {M : Machine St Loc α β} {s : Sys St Loc α β} (hs : SReachR M pullable s)
    (hp : s.panicked = none) (hv : s.g.ph.viols = []) (dp : (recvData 0 s.tr).length ≤ pullsIn 0 s.tr)
    (p0 : srcGreeted 0 s.tr = false → pullsIn 0 s.tr = 0)
    (h : (recvData 0 s.tr).length < pullsIn 0 s.tr →
      s.g.ph.srcPh 0 = .idle ∨ s.g.ph.srcPh 0 = .subscribed ∨ s.g.ph.sinkPh 0 = .doneBySelf ∨ s.g.ph.sinkPh 0 = .doneBySrc ∨
      (s.g.ph.srcPh 0 = .live ∧ (srcEnded 0 s.tr = false → answersOf 0 s.tr < pullsOut 0 s.tr)) ∨
      0 < deliveryDepth 0 s.tr ∨ ∃ l rest, s.stack = .wait (.srcUp 0 .term) l :: rest) :
    demandOk s.tr = true := by
  have hfin := finalsTo_iff hs hv 0
  simp only [demandOk, Bool.and_eq_true, decide_eq_true_eq]
  refine ⟨dp, ?_⟩
  split
  · rename_i hc
    simp only [beq_iff_eq] at hc
    obtain ⟨hlt, hf0⟩ := hc
    have hng : (s.g.ph.srcPh 0 = .idle ∨ s.g.ph.srcPh 0 = .subscribed) → False := by
      intro hph
      have := p0 (srcGreeted_eq_false hs hph)
      omega
    rcases h hlt with h | h | h | h | ⟨h2, hau⟩ | h | ⟨l, rest, h⟩
    · exact (hng (.inl h)).elim
    · exact (hng (.inr h)).elim
    · simp [(sinkDisposed_iff hs 0).2 h]
    · have := hfin.1.2 h; omega
    · have hlive : liveTr 0 s.tr = true := ((TG.of_reach hs).ph.live_iff hv 0).2 h2
      simp only [Bool.or_eq_true]
      refine .inr (List.any_eq_true.2 ⟨0, mem_subscriptions_of_phase hs (by simp [h2]), ?_⟩)
      simp [hlive, hau (live_tr hs h2).2]
    · simp [h]
    · simp [openCalls_eq hs hp, h, framesOf]
  · rfl

end generic
end Cb
