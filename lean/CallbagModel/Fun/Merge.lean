import CallbagModel.Inv.Merge
import CallbagModel.Inv.TraceGhost
import CallbagModel.Spec
/-!
# merge: the functional specification C08 (`mergeOk`) holds on every trace of the model cut at an environment turn
-/
namespace Cb.MergeFun
open Cb.Merge

variable {α : Type}

/-! ### the clauses of `mergeOk`, named -/

def dataCause : Ev α α → Ev α α → Bool :=
  fun e1 _ => match e1 with | .inp (.srcDown _ (.data _)) => true | _ => false

def greetCause : Ev α α → Ev α α → Bool := fun e1 _ => isSrcGreet e1

def chkGreet : List (Ev α α) → Ev α α → Ev α α → Bool :=
  fun past e1 e2 => match e1 with
    | .inp (.srcGreet i) =>
        if outputOver past then (match e2 with | .out (.srcUp i' .term) => i' == i | _ => false)
        else if !(past.any isSrcGreet) then isGreetOut 0 e2 else !(isGreetOut 0 e2)
    | _ => true

def chkTermOnly (n : Nat) : List (Ev α α) → Ev α α → Ev α α → Bool :=
  fun past e1 e2 => if isTermOut 0 e2 then
    isSrcTerm e1 && allBelow n (fun j => srcCompleted j (e1 :: past)) else true

def chkTermIf (n : Nat) : List (Ev α α) → Ev α α → Ev α α → Bool :=
  fun past e1 e2 => if isSrcTerm e1 && allBelow n (fun j => srcCompleted j (e1 :: past)) && !outputOver past
    then isTermOut 0 e2 else true

theorem mergeOk_eq [BEq α] (n : Nat) (tr : List (Ev α α)) :
    mergeOk n tr =
      ((recvData 0 tr == (arrivals tr).map (·.2))
        && eachPrecededBy (isDataOut 0) dataCause tr
        && eachPrecededBy (isGreetOut 0) greetCause tr
        && eachAtNext chkGreet tr
        && eachAtNext (chkTermOnly n) tr
        && eachAtNext (chkTermIf n) tr) := rfl

def HeadOk : List (Ev α α) → Prop
  | [] => True
  | .out _ :: _ => True
  | .retO :: _ => True
  | _ => False

theorem ean_two {chk : List (Ev α α) → Ev α α → Ev α α → Bool} {e1 e2 : Ev α α} {tr : List (Ev α α)}
    (h : eachAtNext chk tr = true) (hd : HeadOk tr)
    (h1 : ∀ t o, chk t (.out o) e1 = true) (h1' : ∀ t, chk t .retO e1 = true) (h2 : chk tr e1 e2 = true) :
    eachAtNext chk (e2 :: e1 :: tr) = true := by
  refine eachAtNext_step h (fun e0 t ht => ?_) h2
  subst ht
  cases e0 with
  | out o => exact h1 t o
  | retO => exact h1' t
  | _ => exact hd.elim

structure TrOk (n : Nat) (tr : List (Ev α α)) : Prop where
  head : HeadOk tr
  c1 : recvData 0 tr = (arrivals tr).map (·.2)
  c2 : eachPrecededBy (isDataOut 0) dataCause tr = true
  c3 : eachPrecededBy (isGreetOut 0) greetCause tr = true
  c4 : eachAtNext chkGreet tr = true
  c5 : eachAtNext (chkTermOnly n) tr = true
  c6 : eachAtNext (chkTermIf n) tr = true

theorem TrOk.mergeOk [BEq α] [LawfulBEq α] {n : Nat} {tr : List (Ev α α)} (h : TrOk n tr) : mergeOk n tr = true := by
  rw [mergeOk_eq]
  simp only [Bool.and_eq_true, beq_iff_eq]
  exact ⟨⟨⟨⟨⟨h.c1, h.c2⟩, h.c3⟩, h.c4⟩, h.c5⟩, h.c6⟩

theorem TrOk.init (n : Nat) : TrOk n ([] : List (Ev α α)) :=
  ⟨trivial, rfl, rfl, rfl, rfl, rfl, rfl⟩

/-- one macro step: environment event `e1`, operator event `e2`.  Every clause is already settled for the pair "last operator
event, `e1`"; what is left is each clause at the pair `e1`, `e2`. -/
theorem TrOk.step {n : Nat} {tr : List (Ev α α)} {e1 e2 : Ev α α} (h : TrOk n tr) (he1 : isEnvEv e1 = true)
    (he2 : HeadOk (e2 :: e1 :: tr)) (hrecv : recvData 0 (e2 :: e1 :: tr) = (arrivals (e2 :: e1 :: tr)).map (·.2))
    (hdata : isDataOut 0 e2 = true → dataCause e1 e2 = true) (hgreet : isGreetOut 0 e2 = true → greetCause e1 e2 = true)
    (h4 : chkGreet tr e1 e2 = true) (h5 : chkTermOnly n tr e1 e2 = true) (h6 : chkTermIf n tr e1 e2 = true) :
    TrOk n (e2 :: e1 :: tr) := by
  have he := not_sinkOut_of_isEnvEv he1 0
  exact ⟨he2, hrecv, eachPrecededBy_step h.c2 he.1 hdata, eachPrecededBy_step h.c3 he.2.1 hgreet,
    ean_two h.c4 h.head (fun _ _ => rfl) (fun _ => rfl) h4,
    ean_two h.c5 h.head (fun _ _ => by simp [chkTermOnly, he.2.2]) (fun _ => by simp [chkTermOnly, he.2.2]) h5,
    ean_two h.c6 h.head (fun _ _ => by simp [chkTermIf, isSrcTerm]) (fun _ => by simp [chkTermIf, isSrcTerm]) h6⟩

/-- first events of a macro step that no clause looks at -/
def boringIn : Ev α α → Bool
  | .retE => true
  | .inp (.subscribe _) => true
  | .inp (.sinkUp _ _) => true
  | .inp (.srcDown _ (.err _)) => true
  | _ => false

/-- last events of a macro step that no clause looks at -/
def boringOut : Ev α α → Bool
  | .retO => true
  | .out (.subSrc _) => true
  | .out (.srcUp _ _) => true
  | .out (.down _ (.err _)) => true
  | _ => false

theorem headOk_of_boringOut {e : Ev α α} (h : boringOut e = true) (tr : List (Ev α α)) : HeadOk (e :: tr) := by
  cases e with
  | out o => trivial
  | retO => trivial
  | _ => simp [boringOut] at h

theorem TrOk.boring {n : Nat} {tr : List (Ev α α)} {e1 e2 : Ev α α} (h : TrOk n tr)
    (h1 : boringIn e1 = true) (h2 : boringOut e2 = true) : TrOk n (e2 :: e1 :: tr) := by
  have a1 : isEnvEv e1 = true ∧ isSrcTerm e1 = false ∧ recvData 0 (e1 :: tr) = recvData 0 tr ∧ arrivals (e1 :: tr) = arrivals tr ∧
      (∀ p x, chkGreet p e1 x = true) := by
    rcases e1 with (k | ⟨k, u⟩ | i | ⟨i, (a | _ | x)⟩) | o | _ | _ | _ <;>
      simp [boringIn] at h1 <;> simp [isEnvEv, isSrcTerm, recvData, arrivals, chkGreet]
  have a2 : isDataOut 0 e2 = false ∧ isGreetOut 0 e2 = false ∧ isTermOut 0 e2 = false ∧
      (∀ t, recvData 0 (e2 :: t) = recvData 0 t) ∧ (∀ t, arrivals (e2 :: t) = arrivals t) := by
    rcases e2 with i | (k | ⟨k, (a | _ | x)⟩ | i | ⟨i, u⟩ | b) | _ | _ | _ <;>
      simp [boringOut] at h2 <;> simp [isDataOut, isGreetOut, isTermOut, recvData, arrivals]
  obtain ⟨p1, p2, p3, p4, p5⟩ := a1
  obtain ⟨q1, q2, q3, q4, q5⟩ := a2
  exact h.step p1 (headOk_of_boringOut h2 _) (by rw [q4, q5, p3, p4]; exact h.c1) (by rw [q1]; exact Bool.noConfusion)
    (by rw [q2]; exact Bool.noConfusion) (p5 _ _) (by simp [chkTermOnly, q3]) (by simp [chkTermIf, p2])

theorem TrOk.greetFirst {n : Nat} {tr : List (Ev α α)} (h : TrOk n tr) (i : Nat)
    (ho : outputOver tr = false) (hg : tr.any isSrcGreet = false) :
    TrOk n (.out (.greet 0) :: .inp (.srcGreet i) :: tr) :=
  h.step rfl trivial (by simpa [recvData, arrivals] using h.c1) (fun hp => by simp [isDataOut] at hp) (fun _ => rfl)
    (by simp [chkGreet, ho, hg, isGreetOut]) (by simp [chkTermOnly, isTermOut]) (by simp [chkTermIf, isSrcTerm])

theorem TrOk.greetLater {n : Nat} {tr : List (Ev α α)} (h : TrOk n tr) (i : Nat)
    (ho : outputOver tr = false) (hg : tr.any isSrcGreet = true) :
    TrOk n (.retO :: .inp (.srcGreet i) :: tr) :=
  h.step rfl trivial (by simpa [recvData, arrivals] using h.c1) (fun hp => by simp [isDataOut] at hp)
    (fun hp => by simp [isGreetOut] at hp) (by simp [chkGreet, ho, hg, isGreetOut]) (by simp [chkTermOnly, isTermOut])
    (by simp [chkTermIf, isSrcTerm])

theorem TrOk.greetLate {n : Nat} {tr : List (Ev α α)} (h : TrOk n tr) (i : Nat) (ho : outputOver tr = true) :
    TrOk n (.out (.srcUp i .term) :: .inp (.srcGreet i) :: tr) :=
  h.step rfl trivial (by simpa [recvData, arrivals] using h.c1) (fun hp => by simp [isDataOut] at hp)
    (fun hp => by simp [isGreetOut] at hp) (by simp [chkGreet, ho]) (by simp [chkTermOnly, isTermOut])
    (by simp [chkTermIf, isSrcTerm])

theorem TrOk.data {n : Nat} {tr : List (Ev α α)} (h : TrOk n tr) (i : Nat) (a : α) :
    TrOk n (.out (.down 0 (.data a)) :: .inp (.srcDown i (.data a)) :: tr) :=
  h.step rfl trivial (by simp [recvData, arrivals, h.c1]) (fun _ => rfl) (fun hp => by simp [isGreetOut] at hp) rfl
    (by simp [chkTermOnly, isTermOut]) (by simp [chkTermIf, isSrcTerm])

theorem TrOk.termLast {n : Nat} {tr : List (Ev α α)} (h : TrOk n tr) (i : Nat)
    (hall : allBelow n (fun j => srcCompleted j ((.inp (.srcDown i .term) : Ev α α) :: tr)) = true) :
    TrOk n (.out (.down 0 .term) :: .inp (.srcDown i .term) :: tr) :=
  h.step rfl trivial (by simpa [recvData, arrivals] using h.c1) (fun hp => by simp [isDataOut] at hp)
    (fun hp => by simp [isGreetOut] at hp) rfl (by simp [chkTermOnly, isTermOut, isSrcTerm, hall]) (by simp [chkTermIf, isTermOut])

theorem TrOk.termNotLast {n : Nat} {tr : List (Ev α α)} (h : TrOk n tr) (i : Nat)
    (hall : allBelow n (fun j => srcCompleted j ((.inp (.srcDown i .term) : Ev α α) :: tr)) = false) :
    TrOk n (.retO :: .inp (.srcDown i .term) :: tr) :=
  h.step rfl trivial (by simpa [recvData, arrivals] using h.c1) (fun hp => by simp [isDataOut] at hp)
    (fun hp => by simp [isGreetOut] at hp) rfl (by simp [chkTermOnly, isTermOut]) (by simp [chkTermIf, hall])

/-- events that change none of `srcEnded`, `srcCompleted`, "some member has greeted" -/
def quiet : Ev α α → Bool
  | .inp (.srcGreet _) => false
  | .inp (.srcDown _ .term) => false
  | .inp (.srcDown _ (.err _)) => false
  | _ => true

theorem quiet_facts {e : Ev α α} (h : quiet e = true) (tr : List (Ev α α)) :
    (e :: tr).any isSrcGreet = tr.any isSrcGreet ∧ (∀ j, srcEnded j (e :: tr) = srcEnded j tr) ∧
      (∀ j, srcCompleted j (e :: tr) = srcCompleted j tr) := by
  rcases e with (k | ⟨k, u⟩ | i | ⟨i, (a | _ | x)⟩) | o | _ | _ | _ <;>
    simp [quiet] at h <;> simp [isSrcGreet, srcEnded, srcCompleted]

structure TS (st : St) (tr : List (Ev α α)) : Prop where
  greet : st.ended = false → (tr.any isSrcGreet = true ↔ st.startCount ≠ 0)
  nofail : st.ended = false → ∀ j, srcEnded j tr = true → srcCompleted j tr = true

theorem TS.of_ended {st : St} (tr : List (Ev α α)) (h : st.ended = true) : TS st tr :=
  ⟨fun h' => (by rw [h] at h'; cases h'), fun h' => (by rw [h] at h'; cases h')⟩

theorem TS.cons {st st' : St} {tr : List (Ev α α)} (h : TS st tr) {e : Ev α α} (he : quiet e = true)
    (h1 : st'.ended = false → st.ended = false) (h2 : st'.startCount = st.startCount) : TS st' (e :: tr) := by
  obtain ⟨q1, q2, q3⟩ := quiet_facts he tr
  refine ⟨fun h' => ?_, fun h' j => ?_⟩
  · rw [q1, h2]; exact h.greet (h1 h')
  · rw [q2, q3]; exact h.nofail (h1 h') j

theorem TS.quiet2 {st st' : St} {tr : List (Ev α α)} (h : TS st tr) {e1 e2 : Ev α α} (he1 : quiet e1 = true)
    (he2 : quiet e2 = true) (h1 : st'.ended = false → st.ended = false) (h2 : st'.startCount = st.startCount) :
    TS st' (e2 :: e1 :: tr) :=
  (h.cons (st' := st) he1 id rfl).cons he2 h1 h2

theorem TS.greeted {st st' : St} {tr : List (Ev α α)} (h : TS st tr) (i : Nat) {e2 : Ev α α} (he2 : quiet e2 = true)
    (h1 : st'.ended = false → st.ended = false) (h2 : st'.startCount = st.startCount + 1) :
    TS st' (e2 :: .inp (.srcGreet i) :: tr) := by
  obtain ⟨q1, q2, q3⟩ := quiet_facts he2 ((.inp (.srcGreet i) : Ev α α) :: tr)
  refine ⟨fun h' => ?_, fun h' j => ?_⟩
  · rw [q1, h2]; simp [isSrcGreet]
  · rw [q2, q3]; simpa [srcEnded, srcCompleted] using h.nofail (h1 h') j

theorem TS.completed {st st' : St} {tr : List (Ev α α)} (h : TS st tr) (i : Nat) {e2 : Ev α α} (he2 : quiet e2 = true)
    (h1 : st'.ended = false → st.ended = false) (h2 : st'.startCount = st.startCount) :
    TS st' (e2 :: .inp (.srcDown i .term) :: tr) := by
  obtain ⟨q1, q2, q3⟩ := quiet_facts he2 ((.inp (.srcDown i .term) : Ev α α) :: tr)
  refine ⟨fun h' => ?_, fun h' j => ?_⟩
  · rw [q1, h2]; simpa [isSrcGreet] using h.greet (h1 h')
  · rw [q2, q3]
    simp only [srcEnded, srcCompleted, Bool.or_eq_true, beq_iff_eq]
    rintro (hj | hj)
    · exact Or.inl hj
    · exact Or.inr (h.nofail (h1 h') j hj)

theorem outputOver_iff {ph : Ph} {tr : List (Ev α α)} (htg : TGp ph tr) (hv : ph.viols = []) :
    outputOver tr = true ↔ (ph.sinkPh 0 = .doneBySelf ∨ ph.sinkPh 0 = .doneBySrc) := by
  unfold outputOver
  rw [Bool.or_eq_true, htg.disp 0, htg.fin hv 0]
  by_cases h : ph.sinkPh 0 = .doneBySrc <;> simp [h]

theorem outputOver_false {ph : Ph} {tr : List (Ev α α)} (htg : TGp ph tr) (hv : ph.viols = [])
    (h : ph.sinkPh 0 = .subscribed ∨ ph.sinkPh 0 = .live) : outputOver tr = false := by
  rw [← Bool.not_eq_true, outputOver_iff htg hv]
  rcases h with h | h <;> simp [h]

/-- at an environment turn -/
structure T (n : Nat) (st : St) (tr : List (Ev α α)) : Prop where
  ok : TrOk n tr
  ts : TS st tr

/-- inside a macro step whose first event no clause looks at -/
structure TM (n : Nat) (st : St) (tr : List (Ev α α)) : Prop where
  mid : ∃ e1 tr0, tr = e1 :: tr0 ∧ boringIn e1 = true ∧ TrOk n tr0
  ts : TS st tr

/-- no clause looks at the call a `Tail` ends with -/
theorem TM.close {n : Nat} {st : St} {tr : List (Ev α α)} (hx : TM n st tr) {p : Ph} {stk : List (Frame (Loc α) α)} {l : Loc α}
    {r : Option (Out α × Loc α)} (ht : Tail n p stk st l r) (sh : Shape) (g : G) :
    T n (Sys.ends sh st stk g tr r).st (Sys.ends sh st stk g tr r).tr := by
  obtain ⟨e1, tr0, rfl, h1, hok⟩ := hx.mid
  cases ht <;> exact ⟨hok.boring h1 rfl, hx.ts.cons rfl id rfl⟩

theorem T.entry {n : Nat} {s : Cfg α} {m : Move α} {st : St} {l : Loc α} (hent : Entry n s m st l) (hx : T n s.st s.tr) :
    TM n st (m.ev :: s.tr) := by
  cases hent with
  | subscribe | pull | ret => exact ⟨⟨_, _, rfl, rfl, hx.ok⟩, hx.ts.cons rfl id rfl⟩
  | sinkEnd | srcErr => exact ⟨⟨_, _, rfl, rfl, hx.ok⟩, TS.of_ended _ rfl⟩

/-- `htg`: what the phases of the turn `s` say about its trace, which holds of every reachable configuration -/
theorem T.macro {n : Nat} {s : Cfg α} {m : Move α} {st : St} {r : Option (Out α × Loc α)} (htg : TGp s.g.ph s.tr)
    (hm : Macro n s m st r) (hx : T n s.st s.tr) :
    T n (s.next (machine α n).shape st m r).st (s.next (machine α n).shape st m r).tr := by
  cases hm with
  | tail hent ht => rw [Sys.next_eq]; exact (hx.entry hent).close ht _ _
  | greetFirst i hb hstk he hsc hk =>
    exact ⟨hx.ok.greetFirst i (outputOver_false htg hb.viols (Or.inl hk)) (Bool.eq_false_iff.2 fun h => (hx.ts.greet he).1 h hsc),
      hx.ts.greeted i rfl id rfl⟩
  | greetLater i hb hstk he hsc hk =>
    exact ⟨hx.ok.greetLater i (outputOver_false htg hb.viols (Or.inr hk)) ((hx.ts.greet he).2 hsc), hx.ts.greeted i rfl id rfl⟩
  | greetLate i hb hstk he hk hnl => exact ⟨hx.ok.greetLate i ((outputOver_iff htg hb.viols).2 hk), TS.of_ended _ he⟩
  | data i a hb hstk hk => exact ⟨hx.ok.data i a, hx.ts.quiet2 rfl rfl id rfl⟩
  | termLast i hb hstk he hk hall hnl =>
    refine ⟨hx.ok.termLast i ?_, hx.ts.completed i rfl id rfl⟩
    rw [allBelow_iff]
    intro j hj
    by_cases hji : j = i
    · subst hji; simp [srcCompleted]
    · have h1 := hall j hj
      simp only [Ph.srcPh_setSrc, hji, if_false] at h1
      simp [srcCompleted, hx.ts.nofail he j ((htg.ended j).2 h1)]
  | termNotLast i hb hstk hk hcnt hlast =>
    refine ⟨hx.ok.termNotLast i (Bool.eq_false_iff.2 fun hA => hlast ?_), hx.ts.completed i rfl id rfl⟩
    rw [allBelow_iff] at hA
    rw [← hcnt]
    refine cnt_eq_all_iff.2 fun j hj => ?_
    by_cases hji : j = i
    · subst hji; simp
    · have h1 := hA j hj
      have hij : ¬ i = j := fun h => hji h.symm
      simp only [srcCompleted, Bool.or_eq_true, beq_iff_eq, hij, false_or] at h1
      simp [hji, htg.compl j h1]

theorem T.init (n : Nat) : T n (Sys.init (machine α n) : Cfg α).st ([] : List (Ev α α)) :=
  ⟨TrOk.init n, fun _ => by simp [Sys.init, machine], fun _ j hj => by simp [srcEnded] at hj⟩

/-- C08: at every reachable configuration of `merge` where the environment has control, the trace satisfies `mergeOk` — every
datum is relayed exactly once, in arrival order, inside the delivery that caused it; the sink is greeted inside the first
member greeting; a member greeting after the output is over is disposed at once; the sink is completed exactly by (and right
after) the `Terminate` of the member with which all `n` members have completed. -/
theorem merge_spec {α : Type} [DecidableEq α] (n : Nat) :
    ∀ s, SReach (Merge.machine α n true true) s → EnvTurn s → mergeOk n s.tr = true := by
  intro s hs ht
  exact (Lands.at_turn anyEnv (fun s => T n s.st s.tr) (Merge.inv_init n) (T.init n) (fun s h => (Merge.inv_turn n s h).1)
    (Merge.macro_step n) (fun _ _ _ _ hr _ hT _ hm _ _ => hT.macro (TG.of_reach hr).ph hm) hs ht).2.ok.mergeOk

end Cb.MergeFun

#print axioms Cb.MergeFun.merge_spec
