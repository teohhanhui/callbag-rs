import CallbagModel.Fun.FromIter
import CallbagModel.Fun.Demand
/-!
# from_iter: demand conservation (C14) holds on every trace of the model, under the pullable discipline

The invariant of `Fun/FromIter.lean` (`FromIterFun.FInv`) is reused as it is: every configuration reachable under `pullable`
is reachable under `anyEnv` (`SReachR.weaken`), so `t_at_turn` applies at every environment turn.  What it does not say —
its `owed` clause is an inequality — is the *equality* C14 needs: while the sink has neither disposed nor received its
terminal, `data + gotPull = pulls`, and `gotPull = false` outside the loop.  This is where the discipline enters: a nested
Pull only sets the flag `gotPull`; two nested Pulls inside one delivery would be served once.  `pullable` allows one.
-/
namespace Cb.FromIterDemand
open Cb.FromIter Cb.FromIterFun

variable {ι α α' : Type}

/-- the demand accounting: unless the output is over, `data + gotPull = pulls`, and no Pull is pending outside the loop -/
def X (gp il : Bool) (tr : List (Ev α' α)) : Prop :=
  sinkDisposed 0 tr = true ∨ finalsTo 0 tr = 1 ∨
    ((recvData 0 tr).length + (if gp = true then 1 else 0) = pullsIn 0 tr ∧ (il = false → gp = false))

variable {gp il : Bool} {tr : List (Ev α' α)}

theorem X.init : X false false ([] : List (Ev α' α)) := by
  simp [X, recvData, pullsIn]

theorem X.sub (h : X gp il tr) : X gp il (.out (.greet 0) :: .inp (.subscribe 0) :: tr) := by
  simpa [X, sinkDisposed, finalsTo, recvData, pullsIn] using h

theorem X.rets (h : X gp il tr) : X gp il (.retO :: .retE :: tr) := by
  simpa [X, sinkDisposed, finalsTo, recvData, pullsIn] using h

theorem X.exit (h : X false il tr) : X false false (.retO :: .retE :: tr) := by
  have := h.rets
  simp only [X] at this ⊢
  rcases this with h | h | ⟨h, _⟩
  · exact .inl h
  · exact .inr (.inl h)
  · exact .inr (.inr ⟨h, by simp⟩)

theorem X.ofDisposed (h : sinkDisposed 0 tr = true) : X gp il tr := .inl h
theorem X.ofFinal (h : finalsTo 0 tr = 1) : X gp il tr := .inr (.inl h)

theorem X.quietEnd (u : Up) (hu : u ≠ .pull) (gp' il' : Bool) : X gp' il' (.retO :: .inp (.sinkUp 0 u) :: tr) := by
  cases u with
  | pull => exact absurd rfl hu
  | term => exact .inl (by simp [sinkDisposed])
  | err e => exact .inl (by simp [sinkDisposed])

theorem X.quietPull (h : X gp true tr) (hd : sinkDisposed 0 tr = false) (hf : finalsTo 0 tr = 0)
    (hp : pullsIn 0 tr < promptsTo 0 tr) (hq : promptsTo 0 tr ≤ 1 + (recvData 0 tr).length) :
    X true true (.retO :: .inp (.sinkUp 0 .pull) :: tr) := by
  rcases h with h | h | ⟨h, _⟩
  · rw [hd] at h; cases h
  · omega
  · refine .inr (.inr ⟨?_, fun h => by cases h⟩)
    simp only [recvData, pullsIn, ↓reduceIte]
    split at h <;> omega

theorem X.pullData {a : α} (h : X gp false tr) (hd : sinkDisposed 0 tr = false) (hf : finalsTo 0 tr = 0) :
    X false true (.out (.down 0 (.data a)) :: .inp (.sinkUp 0 .pull) :: tr) := by
  rcases h with h | h | ⟨h, h'⟩
  · rw [hd] at h; cases h
  · omega
  · refine .inr (.inr ⟨?_, fun h => by cases h⟩)
    rw [h' rfl] at h
    simp only [recvData, pullsIn, ↓reduceIte, List.length_append, List.length_singleton] at h ⊢
    simp only [Bool.false_eq_true, ↓reduceIte] at h ⊢
    omega

theorem X.retData {a : α} (h : X true true tr) (hd : sinkDisposed 0 tr = false) (hf : finalsTo 0 tr = 0) :
    X false true (.out (.down 0 (.data a)) :: .retE :: tr) := by
  rcases h with h | h | ⟨h, _⟩
  · rw [hd] at h; cases h
  · omega
  · refine .inr (.inr ⟨?_, fun h => by cases h⟩)
    simp only [recvData, pullsIn, ↓reduceIte, List.length_append, List.length_singleton] at h ⊢
    simp only [Bool.false_eq_true, ↓reduceIte] at h ⊢
    omega

variable {next : ι → Option (α × ι)} {it0 : ι}

theorem bot_ctx {stk : List (Frame Loc α)} (h : Bot stk) : (ctxOf stk).isSome := by
  rcases h with rfl | rfl <;> simp [ctxOf]

theorem X.macro {s : Sys (St ι α) Loc α' α} {m : Move α'} {st' : St ι α} {r : Option (Out α × Loc)}
    (hr : SReachR (machine α' next it0) pullable s) (hI : FromIter.Inv s) (hX : X s.st.gotPull s.st.inLoop s.tr)
    (hR : pullable s m) (hM : Macro next s m st' r) :
    X (s.next (machine α' next it0).shape st' m r).st.gotPull (s.next (machine α' next it0).shape st' m r).st.inLoop
      (s.next (machine α' next it0).shape st' m r).tr := by
  have hT := (t_at_turn next it0 hr.weaken (inv_turn s hI).1).2
  have hdisp := sinkDisposed_iff hr 0
  have hprompt := promptsTo_le hr hI.2.1 0
  have hnd : s.g.ph.sinkPh 0 = .live → sinkDisposed 0 s.tr = false := fun h => sinkDisposed_eq_false hr (by simp [h])
  have hf : s.st.resDone = false → finalsTo 0 s.tr = 0 := fun h => by rw [hT.fin, h]; rfl
  cases hM <;> dsimp only [Sys.next, Sys.ends]
  case sub => exact hX.sub
  case pullData h1 h2 h3 _ => rw [h3] at hX; exact hX.pullData (hnd h1) (hf h2)
  case pullEnd h2 _ _ => exact X.ofFinal (by simp [finalsTo, hf h2])
  case quietPull h1 h2 h3 =>
    rw [h3] at hX ⊢
    exact hX.quietPull (hnd h1) (hf h2) (by simpa [pullable, pullableB] using hR) hprompt
  case quietEnd u hu => exact X.quietEnd u hu _ _
  case ret => exact hX.rets
  case exitLoop _ _ h3 =>
    rcases h3 with hgp | h3 | h3
    · rw [hgp] at hX ⊢; exact hX.exit
    · exact X.ofDisposed (by simpa [sinkDisposed] using hdisp.2 h3)
    · exact X.ofFinal (by simp [finalsTo, hT.fin, h3])
  case retData _ h1 h2 h3 h4 _ => rw [h4] at hX; rw [h3] at hX ⊢; exact hX.retData (hnd h1) (hf h2)
  case retEnd _ h2 _ _ _ => exact X.ofFinal (by simp [finalsTo, hf h2])

theorem dinv_of_reach (next : ι → Option (α × ι)) (it0 : ι) {s : Sys (St ι α) Loc α' α}
    (hs : SReachR (machine α' next it0) pullable s) (ht : EnvTurn s) : FromIter.Inv s ∧ X s.st.gotPull s.st.inLoop s.tr :=
  -- `M` is given because left to unification it is found late, after `X.init` has been checked against an unknown machine
  Lands.at_turn (M := machine α' next it0) pullable (fun t => X t.st.gotPull t.st.inLoop t.tr) (inv_init next it0) X.init
    (fun s h => (inv_turn s h).1) macro_step (fun _ _ _ _ hr hi hX hR hM _ _ => hX.macro hr hi hR hM) hs ht

/-- **C14** for `from_iter` (model side): under the pullable discipline, at every reachable configuration where the
environment has control, the sink has never received more Data than it sent Pulls, and a Pull that has not been answered is
either moot (the sink disposed) or will be served by the loop when the delivery in progress returns. -/
theorem fromIter_demand {ι α α' : Type} (next : ι → Option (α × ι)) (it0 : ι) :
    ∀ s, SReachR (FromIter.machine α' next it0) pullable s → EnvTurn s → demandOk s.tr = true := by
  intro s hs ht
  obtain ⟨_, hX⟩ := dinv_of_reach next it0 hs ht
  obtain ⟨_, hT⟩ := t_at_turn next it0 hs.weaken ht
  have howed := hT.owed
  have hle : (recvData 0 s.tr).length ≤ pullsIn 0 s.tr := by omega
  unfold demandOk
  simp only [Bool.and_eq_true, decide_eq_true_eq]
  refine ⟨hle, ?_⟩
  split
  · rename_i hc
    simp only [beq_iff_eq] at hc
    obtain ⟨hlt, hf⟩ := hc
    rcases hX with h | h | ⟨h, h'⟩
    · simp [h]
    · omega
    · have hgp : s.st.gotPull = true := by
        cases hg : s.st.gotPull with
        | true => rfl
        | false => rw [hg] at h; simp at h; omega
      have hil : s.st.inLoop = true := by
        cases hi : s.st.inLoop with
        | true => rfl
        | false => rw [h' hi] at hgp; cases hgp
      have hdepth : deliveryDepth 0 s.tr > 0 := by
        unfold deliveryDepth
        rw [hT.oc]
        rcases hT.shp with ⟨hc, _⟩ | ⟨_, d, l, rest, he, _⟩
        · rw [hil] at hc; cases hc
        · rw [he]; simp [framesOf]
      simp [hdepth]
  · rfl

end Cb.FromIterDemand

#print axioms Cb.FromIterDemand.fromIter_demand
