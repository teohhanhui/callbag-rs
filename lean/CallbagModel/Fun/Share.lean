import CallbagModel.Inv.ShareFull
import CallbagModel.Inv.TraceGhost
import CallbagModel.Spec
/-!
# share: the functional specification C12 (`shareOk`) holds on every trace, under `noNestedFanout`

The trace invariant `T` links the trace to the operator state (`Macro.trace`, constructor by constructor):

* `attached tr = expAtt st.sinks stk`: the sinks attached according to the trace are `st.sinks` — except during a terminal
  fan-out (top frame `wait (down s d) (fLoop r d)`, `d` terminal, mode `tfan`), where `st.sinks` is still the old list and the
  attached ones are those not served yet, `r`;
* `subscriptions tr = List.range st.gen`: upstream subscriptions are numbered 0, 1, … and `gen` counts them.

Every macro step conses exactly two events on the trace: the move of the environment and the operator's next call or return.

The second half runs one fan-out of `Data a` against sinks that return at once (`RetRun`): every attached sink is called exactly
once, in attachment order, and nobody else (`share_fanout`; at the reachable turns where an upstream delivers, `share_fanout_reach`).
-/
namespace Cb.ShareFun
open Cb.Share

variable {α : Type}

theorem SReachR.advance {St Loc α β : Type} {M : Machine St Loc α β} {R : Restr St Loc α β} {s : Sys St Loc α β}
    (h : SReachR M R s) (n : Nat) : SReachR M R (advance M n s) := Cb.SReachR.advance n h

/-! the clauses of `shareOk`, named -/

/-- a sink attaching while none is attached starts a fresh upstream subscription; otherwise it is greeted at once -/
def chk1 : List (Ev α α) → Ev α α → Ev α α → Bool := fun past e1 e2 => match e1 with
      | .inp (.subscribe k) =>
          if (attached past).isEmpty then (match e2 with | .out (.subSrc i) => i == (subscriptions past).length | _ => false)
          else isGreetOut k e2
      | _ => true

/-- upstream is disposed exactly when the last attached sink detaches -/
def chk2 : List (Ev α α) → Ev α α → Ev α α → Bool := fun past e1 e2 => match e1 with
      | .inp (.sinkUp k .term) =>
          if (attached past).erase k == [] && (attached past).contains k then (match e2 with | .out (.srcUp _ .term) => true | _ => false)
          else (match e2 with | .retO => true | _ => false)
      | .inp (.sinkUp k (.err _)) =>
          if (attached past).erase k == [] && (attached past).contains k then (match e2 with | .out (.srcUp _ .term) => true | _ => false)
          else (match e2 with | .retO => true | _ => false)
      | _ => true

def p3 : Ev α α → Bool := fun e => match e with | .out (.srcUp _ .term) => true | _ => false
def q3 : Ev α α → Ev α α → Bool :=
  fun e1 _ => match e1 with | .inp (.sinkUp _ .term) => true | .inp (.sinkUp _ (.err _)) => true | _ => false

/-- at most one upstream subscription is alive -/
def chk4 : List (Ev α α) → Ev α α → Ev α α → Bool := fun past _ e2 => match e2 with
      | .out (.subSrc _) => (subscriptions past).all (fun i => srcEnded i past || upFinals i past > 0)
      | _ => true

theorem shareOk_eq [BEq α] (tr : List (Ev α α)) :
    shareOk tr = (eachAtNext chk1 tr && eachAtNext chk2 tr && eachPrecededBy p3 q3 tr && eachAtNext chk4 tr) := rfl

def isOpEv : Ev α α → Bool | .out _ => true | .retO => true | _ => false

/-- the sinks the trace says are attached -/
def expAtt (sinks : List Nat) : List (Fr α) → List Nat
  | .wait (.down _ d) (.fLoop r _) :: _ => if isEndD d then r else sinks
  | _ => sinks

@[simp] theorem expAtt_nil (ks : List Nat) : expAtt ks ([] : List (Fr α)) = ks := rfl
@[simp] theorem expAtt_tail (ks : List Nat) (o : Out α) (stk : List (Fr α)) : expAtt ks (.wait o .done :: stk) = ks := by
  cases o <;> rfl
@[simp] theorem expAtt_fan (ks : List Nat) (s : Nat) (d d' : Down α) (r : List Nat) (stk : List (Fr α)) :
    expAtt ks (.wait (.down s d) (.fLoop r d') :: stk) = if isEndD d then r else ks := rfl

theorem expAtt_tails {ks : List Nat} {stk : List (Fr α)} (h : ∀ f ∈ stk, TailF f) : expAtt ks stk = ks := by
  cases stk with
  | nil => rfl
  | cons f r => obtain ⟨o, rfl⟩ := h f (by simp); simp

theorem expAtt_stackOK {ks ks' : List Nat} {stk : List (Fr α)} (h : StackOK ks' stk) : expAtt ks stk = ks := by
  rcases h with ht | ⟨pre, s0, a, r, post, rfl, hpre, _⟩
  · exact expAtt_tails ht
  · cases pre with
    | nil => simp [isEndD]
    | cons f pre => obtain ⟨i, u, rfl⟩ := hpre f (by simp); simp

structure T (st : St) (stk : List (Fr α)) (tr : List (Ev α α)) : Prop where
  att : attached tr = expAtt st.sinks stk
  gen : subscriptions tr = List.range st.gen
  hd : ∀ e t, tr = e :: t → isOpEv e = true
  c1 : eachAtNext chk1 tr = true
  c2 : eachAtNext chk2 tr = true
  c3 : eachPrecededBy p3 q3 tr = true
  c4 : eachAtNext chk4 tr = true

theorem T.init : T ({} : St) ([] : List (Fr α)) ([] : List (Ev α α)) :=
  ⟨rfl, rfl, (by intro e t h; cases h), rfl, rfl, rfl, rfl⟩

theorem T.cons2 {st st' : St} {stk stk' : List (Fr α)} {tr : List (Ev α α)} (h : T st stk tr) (e1 e2 : Ev α α)
    (he1 : isEnvEv e1 = true) (he2 : isOpEv e2 = true)
    (hatt : attached (e2 :: e1 :: tr) = expAtt st'.sinks stk')
    (hgen : subscriptions (e2 :: e1 :: tr) = List.range st'.gen)
    (n1 : chk1 tr e1 e2 = true) (n2 : chk2 tr e1 e2 = true) (n3 : p3 e2 = true → q3 e1 e2 = true) (n4 : chk4 tr e1 e2 = true) :
    T st' stk' (e2 :: e1 :: tr) := by
  refine ⟨hatt, hgen, ?_, ?_, ?_, ?_, ?_⟩
  · intro e t he; simp at he; rw [← he.1]; exact he2
  · refine eachAtNext_step h.c1 (fun e0 t he => ?_) n1
    have := h.hd e0 t he
    cases e0 <;> simp [isOpEv] at this <;> rfl
  · refine eachAtNext_step h.c2 (fun e0 t he => ?_) n2
    have := h.hd e0 t he
    cases e0 <;> simp [isOpEv] at this <;> rfl
  · refine eachPrecededBy_step h.c3 ?_ n3
    cases e1 <;> simp [isEnvEv] at he1 <;> rfl
  · refine eachAtNext_step h.c4 (fun e0 t he => ?_) n4
    cases e1 <;> simp [isEnvEv] at he1 <;> rfl

theorem _root_.Cb.Share.Macro.trace {s : Cfg α} {m : Move α} {st : St} {r : Option (Out α × Loc α)} (hm : Macro s m st r)
    (hR : SReachR (machine α) noNestedFanout s) (hv : s.g.ph.viols = []) (hT : T s.st s.stack s.tr) :
    T (s.next (machine α).shape st m r).st (s.next (machine α).shape st m r).stack (s.next (machine α).shape st m r).tr := by
  cases hm with
  | subFirst k h0 hc he =>
    have hatt : attached s.tr = s.st.sinks := by rw [hT.att, h0]; rfl
    refine hT.cons2 (.inp (.subscribe k)) (.out (.subSrc s.st.gen)) rfl rfl ?_ ?_ ?_ rfl (by simp [p3]) ?_
    · simp [attached, hatt, he]
    · simp [subscriptions, hT.gen, List.range_succ]
    · simp [chk1, hatt, he, hT.gen]
    · -- every earlier upstream subscription is over: it is neither idle, nor awaited, nor live
      simp only [chk4, List.all_eq_true, hT.gen, List.mem_range, Bool.or_eq_true, decide_eq_true_eq]
      intro i hi
      have hni : s.g.ph.srcPh i ≠ .idle := subsNI_of_reach hR hv i (by simp [hT.gen, hi])
      cases hp : s.g.ph.srcPh i with
      | idle => exact absurd hp hni
      | subscribed => exact absurd hp (hc.nosrcsub i)
      | live => exact absurd he (hc.live i hp).2
      | ended => left; exact (srcEnded_iff hR i).2 hp
      | disposed => right; have := ((upFinals_iff hR hv i).1).2 hp; omega
  | subMore k h0 hc he hk =>
    have hatt : attached s.tr = s.st.sinks := by rw [hT.att, h0]; rfl
    refine hT.cons2 (.inp (.subscribe k)) (.out (.greet k)) rfl rfl ?_ ?_ ?_ rfl (by simp [p3]) rfl
    · simp [attached, hatt]
    · simp [subscriptions, hT.gen]
    · simp [chk1, hatt, he, isGreetOut]
  | pull k hc hs hk =>
    have hatt : attached s.tr = s.st.sinks := hT.att.trans (expAtt_stackOK hs)
    refine hT.cons2 (.inp (.sinkUp k .pull)) (.out (.srcUp (s.st.gen - 1) .pull)) rfl rfl ?_ ?_ rfl rfl (by simp [p3]) rfl
    · simp [attached, hatt]
    · simp [subscriptions, hT.gen]
  | disposeLast k u hu hc hs hk he =>
    have hatt : attached s.tr = s.st.sinks := hT.att.trans (expAtt_stackOK hs)
    have hks : k ∈ s.st.sinks := (hc.mem k).2 hk
    refine hT.cons2 (.inp (.sinkUp k u)) (.out (.srcUp (s.st.gen - 1) .term)) rfl rfl ?_ ?_ rfl ?_ ?_ rfl
    · cases u <;> simp [attached, hatt, he] at hu ⊢
    · simp [subscriptions, hT.gen]
    · cases u <;> simp [chk2, hatt, he, hks] at hu ⊢
    · intro _; cases u <;> simp [q3] at hu ⊢
  | disposeSome k u hu hc hs he =>
    have hatt : attached s.tr = s.st.sinks := hT.att.trans (expAtt_stackOK hs)
    refine hT.cons2 (.inp (.sinkUp k u)) .retO rfl rfl ?_ ?_ rfl ?_ (by simp [p3]) rfl
    · cases u <;> simp [attached, hatt, expAtt_stackOK hs] at hu ⊢
    · simp [subscriptions, hT.gen]
    · cases u <;> simp [chk2, hatt, he] at hu ⊢
  | greet k hstk w =>
    have hatt : attached s.tr = s.st.sinks := by rw [hT.att, hstk]; rfl
    refine hT.cons2 (.inp (.srcGreet (s.st.gen - 1))) (.out (.greet k)) rfl rfl ?_ ?_ rfl rfl (by simp [p3]) rfl
    · simp [attached, hatt]
    · simp [subscriptions, hT.gen]
  | @downData i a s0 r hc ht hsr =>
    have hatt : attached s.tr = s.st.sinks := hT.att.trans (expAtt_tails ht)
    refine hT.cons2 (.inp (.srcDown i (.data a))) (.out (.down s0 (.data a))) rfl rfl ?_ ?_ rfl rfl (by simp [p3]) rfl
    · simp [attached, hatt, isEndD]
    · simp [subscriptions, hT.gen]
  | @downEnd i d hd s0 r hc ht hi hsr =>
    have hatt : attached s.tr = s.st.sinks := hT.att.trans (expAtt_tails ht)
    refine hT.cons2 (.inp (.srcDown i d)) (.out (.down s0 d)) rfl rfl ?_ ?_ rfl rfl ?_ rfl
    · cases d <;> simp [attached, hatt, hsr, isEndD] at hd ⊢
    · simp [subscriptions, hT.gen]
    · cases d <;> simp [p3]
  | @ret stk o hstk hc hs =>
    rw [Sys.next_ret hstk]
    have hatt : attached s.tr = s.st.sinks := by rw [hT.att, hstk]; exact expAtt_tail _ _ _
    refine hT.cons2 .retE .retO rfl rfl ?_ ?_ rfl rfl (by simp [p3]) rfl
    · simp [attached, hatt, expAtt_stackOK hs]
    · simp [subscriptions, hT.gen]
  | @retDataNil stk s0 a hstk hc ht =>
    rw [Sys.next_ret hstk]
    have hatt : attached s.tr = s.st.sinks := by rw [hT.att, hstk]; rfl
    refine hT.cons2 .retE .retO rfl rfl ?_ ?_ rfl rfl (by simp [p3]) rfl
    · simp [attached, hatt, expAtt_tails ht]
    · simp [subscriptions, hT.gen]
  | @retDataCons stk s0 a s1 r1 hstk hc ht hnd hr =>
    rw [Sys.next_ret hstk]
    have hatt : attached s.tr = s.st.sinks := by rw [hT.att, hstk]; rfl
    refine hT.cons2 .retE (.out (.down s1 (.data a))) rfl rfl ?_ ?_ rfl rfl (by simp [p3]) rfl
    · simp [attached, hatt, isEndD]
    · simp [subscriptions, hT.gen]
  | @retEndNil stk s0 d hstk hd ht hl hns hsrc =>
    rw [Sys.next_ret hstk]
    have hatt : attached s.tr = [] := by rw [hT.att, hstk]; simp [hd]
    refine hT.cons2 .retE .retO rfl rfl ?_ ?_ rfl rfl (by simp [p3]) rfl
    · simp [attached, hatt, expAtt_tails ht]
    · simp [subscriptions, hT.gen]
  | @retEndCons stk s0 d s1 r1 hstk hd ht hnd hl hns hsrc =>
    rw [Sys.next_ret hstk]
    have hatt : attached s.tr = s1 :: r1 := by rw [hT.att, hstk]; simp [hd]
    refine hT.cons2 .retE (.out (.down s1 d)) rfl rfl ?_ ?_ rfl rfl ?_ rfl
    · cases d <;> simp [attached, hatt, isEndD] at hd ⊢
    · simp [subscriptions, hT.gen]
    · cases d <;> simp [p3]

theorem t_at_turn {s : Cfg α} (hs : SReachR (machine α) noNestedFanout s) (ht : EnvTurn s) :
    Invs s ∧ T s.st s.stack s.tr :=
  layer_at_turn (machine α) noNestedFanout Invs (fun s => T s.st s.stack s.tr) ⟨Share.inv_init, ShareCS.inv_init⟩ T.init
    (fun s h => (Share.inv_turn s h.1).1)
    (fun _ _ _ hR hI hT hs hr =>
      (macro_step hI hs hr).step (P := fun s => T s.st s.stack s.tr) fun _ _ hm _ => hm.trace hR hI.1.2.1 hT) hs ht

/-- C12, trace part: at every environment turn of every run of `share` against conformant peers (any number of sinks, any
nesting) in which no upstream delivers from inside one of the operator's own deliveries, the trace satisfies `shareOk`. -/
theorem share_spec {α : Type} [DecidableEq α] :
    ∀ s, SReachR (Share.machine α) noNestedFanout s → EnvTurn s → shareOk s.tr = true := by
  intro s hs ht
  obtain ⟨_, hT⟩ := t_at_turn hs ht
  rw [shareOk_eq]
  simp [hT.c1, hT.c2, hT.c3, hT.c4]

/-- the trace-level link at every environment turn: the sinks attached according to the trace are `st.sinks` (during a
terminal fan-out: the sinks not served yet), and the upstream subscriptions made so far are `0, …, gen-1` in this order -/
theorem share_attached {α : Type} (s : Cfg α) (hs : SReachR (machine α) noNestedFanout s) (ht : EnvTurn s) :
    attached s.tr = expAtt s.st.sinks s.stack ∧ subscriptions s.tr = List.range s.st.gen :=
  let ⟨_, hT⟩ := t_at_turn hs ht
  ⟨hT.att, hT.gen⟩

/-- runs of the operator against peers that answer every call of the operator by returning at once -/
inductive RetRun : Cfg α → Cfg α → Prop where
  | refl (s : Cfg α) : RetRun s s
  | op {a b c : Cfg α} : opStep (machine α) a = some b → RetRun b c → RetRun a c
  | ret {a b c : Cfg α} : EnvStep (machine α) .ret a b → RetRun b c → RetRun a c

theorem RetRun.trans {a b c : Cfg α} (h1 : RetRun a b) (h2 : RetRun b c) : RetRun a c := by
  induction h1 with
  | refl => exact h2
  | op h _ ih => exact .op h (ih h2)
  | ret h _ ih => exact .ret h (ih h2)

theorem RetRun.of_advance (n : Nat) (s : Cfg α) : RetRun s (advance (machine α) n s) := by
  induction n generalizing s with
  | zero => exact .refl s
  | succ n ih =>
    simp only [advance]
    cases h : opStep (machine α) s with
    | none => exact .refl s
    | some s' => exact .op h (ih s')

theorem RetRun.of_runs {st st' : St} {l : Loc α} {r : Option (Out α × Loc α)} (h : Runs (machine α) st l st' r)
    (stk : List (Fr α)) (g : G) (tr : List (Ev α α)) :
    RetRun ⟨st, .run l :: stk, g, tr, none⟩ (Sys.ends (machine α).shape st' stk g tr r) := by
  obtain ⟨n, hn⟩ := h stk g tr
  exact hn ▸ RetRun.of_advance n _

/-- the events of one fan-out of `Data a` to the sinks `ks` (in list order) that return at once; newest first -/
def fanEvs (a : α) : List Nat → List (Ev α α)
  | [] => []
  | k :: r => fanEvs a r ++ [.retE, .out (.down k (.data a))]

theorem fan_loop (a : α) (st : St) (stk : List (Fr α)) (g : G) (r : List Nat) (tr : List (Ev α α))
    (hlive : ∀ k ∈ r, g.ph.sinkPh k = .live) :
    RetRun ⟨st, .run (.fLoop r (.data a)) :: stk, g, tr, none⟩ ⟨st, stk, g.onRetO stk.length, .retO :: fanEvs a r ++ tr, none⟩ := by
  induction r generalizing tr with
  | nil => exact RetRun.of_runs (run_fLoop_nil_data a) stk g tr
  | cons k r ih =>
    have h1 := RetRun.of_runs (run_fLoop_cons (st := st) k r (.data a)) stk g tr
    rw [Sys.ends, onOut_data, Ph.onOut_data (hlive k (by simp)) a] at h1
    have h3 := ih (.retE :: .out (.down k (.data a)) :: tr) (fun k' hk' => hlive k' (by simp [hk']))
    have := h1.trans (.ret (EnvStep.ret rfl) h3)
    simpa [fanEvs, List.append_assoc] using this

/-- **fan-out**: in the configuration right after an upstream delivered `Data a`, with every listed sink live, running the
operator against sinks that simply return delivers `a` to exactly the sinks of `st.sinks`, in list order, one call each, and
then returns to the upstream; the operator state is unchanged. -/
theorem share_fanout (st : St) (stk : List (Fr α)) (g : G) (tr : List (Ev α α)) (a : α)
    (hlive : ∀ k ∈ st.sinks, g.ph.sinkPh k = .live) :
    RetRun ⟨st, .run (.f0 (.data a)) :: stk, g, tr, none⟩
      ⟨st, stk, g.onRetO stk.length, .retO :: fanEvs a st.sinks ++ tr, none⟩ := by
  have h : opStep (machine α) ⟨st, .run (.f0 (.data a)) :: stk, g, tr, none⟩ =
      some ⟨st, .run (.fLoop st.sinks (.data a)) :: stk, g, tr, none⟩ := by simp [opStep, machine, step]
  exact .op h (fan_loop a st stk g st.sinks tr hlive)

theorem recvData_fanEvs (a : α) (k : Nat) (ks : List Nat) (tr : List (Ev α α)) :
    recvData k (fanEvs a ks ++ tr) = recvData k tr ++ List.replicate (ks.count k) a := by
  induction ks generalizing tr with
  | nil => simp [fanEvs]
  | cons k1 r ih =>
    have : fanEvs a (k1 :: r) ++ tr = fanEvs a r ++ (.retE :: .out (.down k1 (.data a)) :: tr) := by
      simp [fanEvs, List.append_assoc]
    rw [this, ih]
    by_cases h : k1 = k
    · subst h
      simp [recvData, List.replicate_succ]
    · simp [recvData, h]

theorem recvData_fanEvs_nodup (a : α) (k : Nat) (ks : List Nat) (hnd : ks.Nodup) (tr : List (Ev α α)) :
    recvData k (.retO :: fanEvs a ks ++ tr) = if k ∈ ks then recvData k tr ++ [a] else recvData k tr := by
  have : recvData k (.retO :: fanEvs a ks ++ tr) = recvData k (fanEvs a ks ++ tr) := by simp [recvData]
  rw [this, recvData_fanEvs, hnd.count]
  split <;> simp [List.replicate_succ]

/-- **fan-out, at reachable configurations**: whenever an upstream legally delivers `Data a` (environment turn `s`, no
delivery of the operator open), the sinks attached according to the trace (`attached s.tr`) are exactly `st.sinks`, they are
distinct, and — as long as each sink just returns — each of them is called with `Data a` exactly once, in attachment order,
nobody else is called, and control returns to the upstream with the operator state unchanged.  In terms of `recvData`:
every attached sink has received one more datum, `a`; every other sink nothing. -/
theorem share_fanout_reach (s s' : Cfg α) (hs : SReachR (machine α) noNestedFanout s) (i : Nat) (a : α)
    (he : EnvStep (machine α) (.call (.srcDown i (.data a))) s s') (hr : noNestedFanout s (.call (.srcDown i (.data a)))) :
    attached s.tr = s.st.sinks ∧ (attached s.tr).Nodup ∧
    (∃ g', RetRun s' ⟨s.st, s.stack, g', .retO :: fanEvs a (attached s.tr) ++ .inp (.srcDown i (.data a)) :: s.tr, none⟩) ∧
    ∀ k, recvData k (.retO :: fanEvs a (attached s.tr) ++ .inp (.srcDown i (.data a)) :: s.tr)
      = if k ∈ attached s.tr then recvData k s.tr ++ [a] else recvData k s.tr := by
  obtain ⟨hI, hT⟩ := t_at_turn hs (envTurn_of_envStep he)
  obtain ⟨_, _, hm, -⟩ := macro_step hI he hr
  cases hm with
  | downEnd _ _ hd => cases hd
  | @downData _ _ s0 r hcore ht hsr =>
    have hatt : attached s.tr = s.st.sinks := hT.att.trans (expAtt_tails ht)
    refine ⟨hatt, hatt ▸ hcore.nodup, ?_, fun k => ?_⟩
    · cases he
      rw [hatt]
      exact ⟨_, share_fanout _ _ _ _ a (fun k hk => by simpa [Ph.onIn] using (hcore.mem k).1 hk)⟩
    · rw [recvData_fanEvs_nodup a k _ (hatt ▸ hcore.nodup)]
      simp [recvData]

end Cb.ShareFun

#print axioms Cb.ShareFun.share_spec
#print axioms Cb.ShareFun.share_fanout
#print axioms Cb.ShareFun.share_fanout_reach
