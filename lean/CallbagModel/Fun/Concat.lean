import CallbagModel.Inv.Concat
import CallbagModel.Inv.TraceGhost
import CallbagModel.Spec
/-!
# concat: the functional specification C09 holds on every trace of the model

Every macro step is one environment event followed by exactly one operator event; `T` relates the operator state (`i`,
`gotPull`) to the trace.
-/
namespace Cb.ConcatFun
open Cb.Concat

variable {α : Type}

/-! ## the clauses of `concatOk`, named -/

def isSubOut : Ev α α → Bool := fun e => match e with | .out (.subSrc _) => true | _ => false

def subCause : Ev α α → Ev α α → Bool := fun e1 e2 => match e1, e2 with
  | .inp (.subscribe _), .out (.subSrc 0) => true
  | .inp (.srcDown k .term), .out (.subSrc k') => k' == k + 1
  | _, _ => false

def chkDemand : List (Ev α α) → Ev α α → Ev α α → Bool := fun past e1 e2 => match e1 with
  | .inp (.srcGreet j) =>
      if j == 0 then isGreetOut 0 e2
      else if pullsIn 0 past > 0 then (match e2 with | .out (.srcUp j' .pull) => j' == j | _ => false)
      else (match e2 with | .retO => true | _ => false)
  | _ => true

def chkCompl (n : Nat) : List (Ev α α) → Ev α α → Ev α α → Bool := fun _ e1 e2 => if isTermOut 0 e2 then
  (match e1 with | .inp (.srcDown k .term) => k + 1 == n | _ => false) else true

def Ordered (L : List Nat) : Bool := (L.zip (L.drop 1)).all (fun p => decide (p.1 ≤ p.2))

theorem concatOk_eq [BEq α] (n : Nat) (tr : List (Ev α α)) : concatOk n tr =
    ((subscriptions tr == List.range (subscriptions tr).length) && decide ((subscriptions tr).length ≤ n)
    && eachPrecededBy isSubOut subCause tr
    && (recvData 0 tr == (arrivals tr).map (·.2))
    && Ordered ((arrivals tr).map (·.1))
    && eachAtNext chkDemand tr
    && eachAtNext (chkCompl n) tr) := rfl

theorem ordered_snoc : ∀ (L : List Nat) (j : Nat), Ordered L = true → (∀ x ∈ L, x ≤ j) → Ordered (L ++ [j]) = true := by
  intro L
  induction L with
  | nil => intro j _ _; simp [Ordered]
  | cons x L ih =>
    intro j h hb
    cases L with
    | nil => simpa [Ordered] using hb x (by simp)
    | cons y L' =>
      have h' : x ≤ y ∧ Ordered (y :: L') = true := by simpa [Ordered] using h
      have := ih j h'.2 (fun z hz => hb z (List.mem_cons_of_mem _ hz))
      simp only [Ordered, List.cons_append, List.drop_succ_cons, List.drop_zero, List.zip_cons_cons, List.all_cons,
        Bool.and_eq_true, decide_eq_true_eq] at this ⊢
      exact ⟨h'.1, this⟩

def EnvEv (e : Ev α α) : Prop := e = .retE ∨ ∃ i, e = .inp i
def OpEv (e : Ev α α) : Prop := e = .retO ∨ ∃ o, e = .out o

def OpLast : List (Ev α α) → Prop
  | [] => True
  | e :: _ => OpEv e

theorem pre_pair {tr : List (Ev α α)} {e1 e2 : Ev α α} (h1 : EnvEv e1) (h2 : isSubOut e2 = true → subCause e1 e2 = true)
    (h : eachPrecededBy isSubOut subCause tr = true) : eachPrecededBy isSubOut subCause (e2 :: e1 :: tr) = true :=
  eachPrecededBy_step h (by rcases h1 with rfl | ⟨i, rfl⟩ <;> rfl) h2

theorem demand_env {tr : List (Ev α α)} (e1 : Ev α α) (hl : OpLast tr) :
    ∀ e0 past, tr = e0 :: past → chkDemand past e0 e1 = true := by
  intro e0 past h
  subst h
  rcases hl with rfl | ⟨o, rfl⟩ <;> rfl

theorem compl_env {n : Nat} {tr : List (Ev α α)} {e1 : Ev α α} (h1 : EnvEv e1) :
    ∀ e0 past, tr = e0 :: past → chkCompl n past e0 e1 = true := by
  intro e0 past _
  rcases h1 with rfl | ⟨i, rfl⟩ <;> simp [chkCompl, isTermOut]

structure T (n i : Nat) (gp : Bool) (tr : List (Ev α α)) : Prop where
  subs : subscriptions tr = List.range (min n (i + 1))
  pre : eachPrecededBy isSubOut subCause tr = true
  data : recvData 0 tr = (arrivals tr).map (·.2)
  bound : ∀ p ∈ arrivals tr, p.1 ≤ i
  order : Ordered ((arrivals tr).map (·.1)) = true
  pull : gp = true ↔ 0 < pullsIn 0 tr
  demand : eachAtNext chkDemand tr = true
  compl : eachAtNext (chkCompl n) tr = true
  last : OpLast tr

variable {n i : Nat} {gp : Bool} {tr : List (Ev α α)}

theorem T.pair (h : T n i gp tr) (e1 e2 : Ev α α) (i' : Nat) (gp' : Bool)
    (henv : EnvEv e1) (hop : OpEv e2)
    (hsubs : subscriptions (e2 :: e1 :: tr) = List.range (min n (i' + 1)))
    (hpre : isSubOut e2 = true → subCause e1 e2 = true)
    (hdata : recvData 0 (e2 :: e1 :: tr) = (arrivals (e2 :: e1 :: tr)).map (·.2))
    (hbound : ∀ p ∈ arrivals (e2 :: e1 :: tr), p.1 ≤ i')
    (horder : Ordered ((arrivals (e2 :: e1 :: tr)).map (·.1)) = true)
    (hpull : gp' = true ↔ 0 < pullsIn 0 (e2 :: e1 :: tr))
    (hdem : chkDemand tr e1 e2 = true)
    (hcompl : chkCompl n tr e1 e2 = true) : T n i' gp' (e2 :: e1 :: tr) :=
  ⟨hsubs, pre_pair henv hpre h.pre, hdata, hbound, horder, hpull,
    eachAtNext_step h.demand (demand_env e1 h.last) hdem, eachAtNext_step h.compl (compl_env henv) hcompl, hop⟩

def T0 (n : Nat) (s : Sys St (Loc α) α α) : Prop :=
  (s.g.ph.sinkPh 0 = .idle ∧ s.tr = [] ∧ s.st.gotPull = false) ∨ (s.g.ph.sinkPh 0 ≠ .idle ∧ T n s.st.i s.st.gotPull s.tr)

theorem T.macro {s : Sys St (Loc α) α α} {m : Move α} {st' : St} {r : Option (Out α × Loc α)} (hn : 0 < n) (hM : Macro n s m st' r)
    (hF : T0 n s) :
    T n (s.next (machine α n).shape st' m r).st.i (s.next (machine α n).shape st' m r).st.gotPull
      (s.next (machine α n).shape st' m r).tr := by
  have hT : s.g.ph.sinkPh 0 ≠ .idle → T n s.st.i s.st.gotPull s.tr := fun h => (hF.resolve_left fun hh => h hh.1).2
  have live : s.g.ph.sinkPh 0 = .live → T n s.st.i s.st.gotPull s.tr := fun h => hT (by simp [h])
  cases hM with
  | sub h0 hi =>
    obtain ⟨_, htr, hp⟩ := hF.resolve_right fun hh => hh.1 h0
    show T n s.st.i s.st.gotPull (_ :: _ :: s.tr)
    rw [hi, hp, htr]
    have hm : min n 1 = 1 := by omega
    exact ⟨by simp [subscriptions, hm, List.range_succ], rfl, rfl, (fun _ h => nomatch h), rfl, by simp [pullsIn], rfl, rfl,
      .inr ⟨_, rfl⟩⟩
  | pull h0 =>
    have h := live h0
    exact h.pair _ _ _ _ (.inr ⟨_, rfl⟩) (.inr ⟨_, rfl⟩) h.subs (fun h => nomatch h) h.data h.bound h.order
      (by simp [pullsIn]; omega) rfl rfl
  | stop u hu h0 =>
    have h := live h0
    have hp : pullsIn 0 (.out (.srcUp s.st.i u) :: .inp (.sinkUp 0 u) :: s.tr) = pullsIn 0 s.tr := by
      cases u with
      | pull => exact absurd rfl hu
      | term => rfl
      | err e => rfl
    exact h.pair _ _ _ _ (.inr ⟨_, rfl⟩) (.inr ⟨_, rfl⟩) h.subs (fun h => nomatch h) h.data h.bound h.order
      (hp ▸ h.pull) rfl rfl
  | greet0 hi h0 =>
    have h := hT (by simp [h0])
    rw [hi] at h ⊢
    exact h.pair _ _ _ _ (.inr ⟨_, rfl⟩) (.inr ⟨_, rfl⟩) h.subs (fun h => nomatch h) h.data h.bound h.order h.pull rfl rfl
  | greetIdle hi hp h0 =>
    have h := live h0
    have hP : pullsIn 0 s.tr = 0 := by have := h.pull; rw [hp] at this; simpa using this
    exact h.pair _ _ _ _ (.inr ⟨_, rfl⟩) (.inl rfl) h.subs (fun h => nomatch h) h.data h.bound h.order h.pull
      (by simp [chkDemand, hi, hP]) rfl
  | greetPull hi hp h0 =>
    have h := live h0
    have hP : 0 < pullsIn 0 s.tr := h.pull.1 hp
    exact h.pair _ _ _ _ (.inr ⟨_, rfl⟩) (.inr ⟨_, rfl⟩) h.subs (fun h => nomatch h) h.data h.bound h.order h.pull
      (by simp [chkDemand, hi, hP]) rfl
  | data a h0 =>
    have h := live h0
    refine h.pair _ _ _ _ (.inr ⟨_, rfl⟩) (.inr ⟨_, rfl⟩) h.subs (fun h => nomatch h) (by simp [recvData, arrivals, h.data]) ?_ ?_
      h.pull rfl rfl
    · intro p hp
      rcases List.mem_append.1 hp with hp | hp
      · exact h.bound p hp
      · rw [List.mem_singleton.1 hp]; exact Nat.le_refl _
    · simp only [arrivals, List.map_append, List.map_cons, List.map_nil]
      exact ordered_snoc _ _ h.order fun x hx => by
        obtain ⟨p, hp, rfl⟩ := List.mem_map.1 hx
        exact h.bound p hp
  | err e h0 =>
    have h := live h0
    exact h.pair _ _ _ _ (.inr ⟨_, rfl⟩) (.inr ⟨_, rfl⟩) h.subs (fun h => nomatch h) h.data h.bound h.order h.pull rfl rfl
  | last hl h0 =>
    have h := live h0
    have hm : min n (s.st.i + 1 + 1) = min n (s.st.i + 1) := by omega
    exact h.pair _ _ _ _ (.inr ⟨_, rfl⟩) (.inr ⟨_, rfl⟩) (hm ▸ h.subs) (fun h => nomatch h) h.data
      (fun p hp => Nat.le_succ_of_le (h.bound p hp)) h.order h.pull rfl (by simp [chkCompl, isTermOut, hl])
  | next hl h0 =>
    have h := live h0
    have hs := h.subs
    rw [Nat.min_eq_right (Nat.le_of_lt hl)] at hs
    exact h.pair _ _ _ _ (.inr ⟨_, rfl⟩) (.inr ⟨_, rfl⟩)
      (by rw [Nat.min_eq_right hl]; simp only [subscriptions, hs]
          exact (List.range_succ (n := s.st.i + 1)).symm)
      (fun _ => by simp [subCause]) h.data (fun p hp => Nat.le_succ_of_le (h.bound p hp)) h.order h.pull rfl rfl
  | ret h0 =>
    have h := hT h0
    exact h.pair _ _ _ _ (.inl rfl) (.inl rfl) h.subs (fun h => nomatch h) h.data h.bound h.order h.pull rfl rfl

theorem t_at_turn (n : Nat) (hn : 0 < n) {s : Sys St (Loc α) α α} (hs : SReach (machine α n) s) (ht : EnvTurn s) :
    Concat.Inv n s ∧ T0 n s :=
  layer_at_turn (machine α n) anyEnv (Concat.Inv n) (T0 n) (inv_init n) (.inl ⟨by simp [Sys.init], rfl, rfl⟩)
    (fun s h => (inv_turn n s h).1)
    (fun _ _ _ _ hi hF he _ =>
      ((macro_step hn hi he).step (P := fun t => T n t.st.i t.st.gotPull t.tr) fun _ _ hM _ => T.macro hn hM hF).imp
        fun _ h => ⟨h.1.1, .inr ⟨h.1.2, h.2⟩⟩) hs ht

/-- **C09** (model side): at every reachable configuration where the environment has control, the trace satisfies the
specification of `concat`. -/
theorem concat_spec {α : Type} [DecidableEq α] (n : Nat) (hn : 0 < n) :
    ∀ s, SReach (Concat.machine α n) s → EnvTurn s → concatOk n s.tr = true := by
  intro s hs ht
  obtain ⟨_, hF⟩ := t_at_turn n hn hs ht
  rcases hF with ⟨_, htr, _⟩ | ⟨_, hT⟩
  · rw [htr]
    simp [concatOk, subscriptions, eachPrecededBy, recvData, arrivals, eachAtNext]
  · rw [concatOk_eq]
    simp only [Bool.and_eq_true, decide_eq_true_eq, beq_iff_eq]
    have hlen : (subscriptions s.tr).length = min n (s.st.i + 1) := by rw [hT.subs, List.length_range]
    refine ⟨⟨⟨⟨⟨⟨?_, ?_⟩, hT.pre⟩, hT.data⟩, hT.order⟩, hT.demand⟩, hT.compl⟩
    · rw [hlen]; exact hT.subs
    · rw [hlen]; exact Nat.min_le_left _ _

end Cb.ConcatFun

#print axioms Cb.ConcatFun.concat_spec
